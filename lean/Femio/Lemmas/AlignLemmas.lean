import Femio.Model.Tensor
import Mathlib.Tactic.Ring
import Mathlib.Data.Finset.Prod
import Mathlib.Data.Finset.Card

/-! Helper lemmas for `C17_align_nnz`: the pattern and the look-ups need no algebra, the positional subtraction a group,
    the dummy scale an ordered field. -/
namespace Femio.Tensor

section Pattern
variable {R : Type}

theorem mem_insertKey (x k : Nat × Nat) (l : List (Nat × Nat)) : x ∈ insertKey k l ↔ x = k ∨ x ∈ l := by
  induction l with
  | nil => simp [insertKey]
  | cons h t ih =>
    unfold insertKey
    split_ifs with h1 h2
    · subst h1; simp
    · simp
    · rw [List.mem_cons, ih, List.mem_cons, or_left_comm]

theorem mem_unionKeys (ms : List (Sp R)) (x : Nat × Nat) :
    x ∈ unionKeys ms ↔ ∃ s ∈ ms, x ∈ s.map (·.1) := by
  unfold unionKeys
  have : ∀ l : List (Nat × Nat), x ∈ l.foldr insertKey [] ↔ x ∈ l := by
    intro l
    induction l with
    | nil => simp
    | cons h t ih => simp [List.foldr, mem_insertKey, ih]
  rw [this]
  simp [List.mem_flatMap]

theorem cnt_pos (ms : List (Sp R)) (k : Nat × Nat) (hk : k ∈ unionKeys ms) : 1 ≤ cnt ms k := by
  obtain ⟨s, hs, hx⟩ := (mem_unionKeys ms k).mp hk
  unfold cnt
  apply List.length_pos_of_mem (a := s)
  rw [List.mem_filter]
  refine ⟨hs, ?_⟩
  obtain ⟨e, he, rfl⟩ := List.mem_map.mp hx
  exact List.any_eq_true.mpr ⟨e, he, by simp⟩

/-- a canonical sparse matrix (distinct cells, all inside the shape) that stores `rows · cols` entries stores every cell -/
theorem full_covers (rows cols : Nat) (s : Sp R) (hnd : (s.map (·.1)).Nodup)
    (hin : ∀ e ∈ s, e.1.1 < rows ∧ e.1.2 < cols) (hlen : rows * cols ≤ s.length)
    (k : Nat × Nat) (hk : k.1 < rows ∧ k.2 < cols) : s.any (·.1 == k) = true := by
  classical
  -- pigeonhole: the distinct stored cells lie inside `rows × cols` and are as many as it has cells, so they are all of them
  have hsub : (s.map (·.1)).toFinset ⊆ Finset.range rows ×ˢ Finset.range cols := by
    intro x hx
    rw [List.mem_toFinset, List.mem_map] at hx
    obtain ⟨e, he, rfl⟩ := hx
    simp [Finset.mem_product, hin e he]
  have hcard : (Finset.range rows ×ˢ Finset.range cols).card ≤ ((s.map (·.1)).toFinset).card := by
    rw [List.toFinset_card_of_nodup hnd, Finset.card_product, Finset.card_range, Finset.card_range, List.length_map]
    exact hlen
  have heq := Finset.eq_of_subset_of_card_le hsub hcard
  have : k ∈ (s.map (·.1)).toFinset := by
    rw [heq]; simp [Finset.mem_product, hk]
  rw [List.mem_toFinset, List.mem_map] at this
  obtain ⟨e, he, rfl⟩ := this
  exact List.any_eq_true.mpr ⟨e, he, by simp⟩

variable [Zero R]

theorem lookup_of_not_stored {s : Sp R} {k : Nat × Nat} (h : s.any (·.1 == k) = false) : lookup s k = 0 := by
  unfold lookup
  rw [List.find?_eq_none.2 (List.any_eq_false.1 h)]

theorem lookup_mem {s : Sp R} {k : Nat × Nat} (h : s.any (·.1 == k) = true) : lookup s k ∈ s.map (·.2) := by
  obtain ⟨e, he, hk⟩ := List.any_eq_true.1 h
  unfold lookup
  cases hf : s.find? (·.1 == k) with
  | none => exact absurd hk (List.find?_eq_none.1 hf e he)
  | some e' => exact List.mem_map_of_mem (List.mem_of_find?_eq_some hf)

end Pattern

/-- the positional subtraction re-aligns: no sum `s + c·D` vanishes, so nothing was dropped -/
theorem align_row {K : Type} [AddGroup K] [DecidableEq K] (s : Sp K) (pat : List (Nat × Nat)) (h : Nat × Nat → K)
    (hnz : ∀ k ∈ pat, lookup s k + h k ≠ 0) :
    pat.zip (List.zipWith (fun a d => a - d)
      ((pat.zip (pat.map h)).filterMap fun e =>
        if lookup s e.1 + e.2 = 0 then none else some (lookup s e.1 + e.2)) (pat.map h))
      = pat.map fun k => (k, lookup s k) := by
  induction pat with
  | nil => rfl
  | cons k t ih =>
    have hk := hnz k (List.mem_cons_self ..)
    simp only [List.map_cons, List.zip_cons_cons, List.filterMap_cons, hk, if_false, List.zipWith_cons_cons,
      add_sub_cancel_right]
    rw [ih fun k' hk' => hnz k' (List.mem_cons_of_mem _ hk')]

theorem minList_le {K : Type} [LinearOrder K] (x : K) (l : List K) : minList x l ≤ x ∧ ∀ y ∈ l, minList x l ≤ y := by
  induction l generalizing x with
  | nil => simp [minList]
  | cons y t ih =>
    show minList (if y < x then y else x) t ≤ x ∧ ∀ z ∈ y :: t, minList (if y < x then y else x) t ≤ z
    obtain ⟨h1, h2⟩ := ih (if y < x then y else x)
    have hxy : (if y < x then y else x) ≤ x ∧ (if y < x then y else x) ≤ y := by
      split_ifs with hy
      · exact ⟨le_of_lt hy, le_refl y⟩
      · exact ⟨le_refl x, not_lt.mp hy⟩
    refine ⟨le_trans h1 hxy.1, fun z hz => ?_⟩
    rcases List.mem_cons.mp hz with rfl | hz
    · exact le_trans h1 hxy.2
    · exact h2 z hz

section Ordered
variable {K : Type} [Field K] [LinearOrder K]

/-- `np.min(s)` bounds every value the matrix can show at a cell of the union pattern -/
theorem spMin_le_lookup (cells : Nat) (s : Sp K) (k : Nat × Nat)
    (hfull : cells ≤ s.length → s.any (·.1 == k) = true) : spMin cells s ≤ lookup s k := by
  unfold spMin
  split_ifs with hlt
  · have h := minList_le (0 : K) (s.map (·.2))
    cases hs : s.any (·.1 == k) with
    | false => rw [lookup_of_not_stored hs]; exact h.1
    | true => exact h.2 _ (lookup_mem hs)
  · match s, lookup_mem (hfull (not_lt.mp hlt)) with
    | e :: t, h2 =>
      have h := minList_le e.2 (t.map (·.2))
      rcases List.mem_cons.mp h2 with h3 | h3
      · rw [h3]; exact h.1
      · exact h.2 _ h3

theorem dummyScale_spec (cells : Nat) (ms : List (Sp K)) (s : Sp K) (hs : s ∈ ms) :
    ∃ m : K, dummyScale cells ms = absR m * 2 + 1 ∧ m ≤ spMin cells s := by
  match ms, hs with
  | s0 :: rest, hs =>
    refine ⟨minList (spMin cells s0) (rest.map (spMin cells)), ?_, ?_⟩
    · simp [dummyScale]
    · have h := minList_le (spMin cells s0) (rest.map (spMin cells))
      rcases List.mem_cons.mp hs with rfl | h'
      · exact h.1
      · exact h.2 _ (List.mem_map_of_mem h')

variable [IsStrictOrderedRing K]

theorem absR_eq_abs (x : K) : absR x = |x| := by
  unfold absR
  split_ifs with h
  · exact (abs_of_neg h).symm
  · exact (abs_of_nonneg (not_lt.mp h)).symm

/-- the dummy scale `2|m| + 1` of a lower bound `m` of `v`, added at least once, lifts `v` above zero -/
theorem dummy_pos {v m : K} {c : Nat} (hm : m ≤ v) (hc : 1 ≤ c) : 0 < v + (c : K) * (absR m * 2 + 1) := by
  rw [absR_eq_abs]
  have h0 : 0 ≤ m + |m| := neg_le_iff_add_nonneg.mp (neg_abs_le m)
  have hD : 0 ≤ |m| * 2 + 1 := add_nonneg (mul_nonneg (abs_nonneg m) zero_le_two) zero_le_one
  calc 0 < m + |m| + (|m| + 1) := add_pos_of_nonneg_of_pos h0 (add_pos_of_nonneg_of_pos (abs_nonneg m) one_pos)
    _ = m + (|m| * 2 + 1) := by ring
    _ ≤ v + (c : K) * (|m| * 2 + 1) := add_le_add hm (le_mul_of_one_le_left hD (by exact_mod_cast hc))

/-- `align_nnz` under the counting hypothesis `hfull` (a matrix that stores `cells` entries stores every cell) -/
theorem align_nnz_of_full (cells : Nat) (ms : List (Sp K))
    (hfull : ∀ s ∈ ms, cells ≤ s.length → ∀ k ∈ unionKeys ms, s.any (·.1 == k) = true) :
    alignNnz cells ms = ms.map (fun s => (unionKeys ms).map fun k => (k, lookup s k)) := by
  unfold alignNnz
  apply List.map_congr_left
  intro s hs
  obtain ⟨m, hD, hm⟩ := dummyScale_spec cells ms s hs
  have hnz : ∀ k ∈ unionKeys ms, lookup s k + ((cnt ms k : Nat) : K) * dummyScale cells ms ≠ 0 := by
    intro k hk
    rw [hD]
    exact ne_of_gt (dummy_pos (le_trans hm (spMin_le_lookup cells s k fun hc => hfull s hs hc k hk)) (cnt_pos ms k hk))
  exact align_row s (unionKeys ms) (fun k => ((cnt ms k : Nat) : K) * dummyScale cells ms) hnz

end Ordered

end Femio.Tensor
