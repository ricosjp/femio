import Femio.Lemmas.AttrProps
import Femio.Lemmas.ListLemmas

/-! Histories with caller-retained slices / references (C08): what each kind of step does to the invariant `HInv`. -/
open Attr

/-- invariant of a history state: the attribute and every slice still held are consistent tables -/
def HInv (h : Hist) : Prop := AInv h.cur ∧ ∀ c ∈ h.held, AInv c

theorem inv_take (s c : State) (sel : List Id) (h : take s sel = .ok c) : AInv c := by
  unfold take at h
  split at h
  · cases h
  · rename_i rows hr
    cases h
    exact ⟨rfl, (mapM_eq_some_iff.mp hr).length_eq, fun m hm => eq_of_map_const_eq_some hm⟩

theorem inv_takeI (s c : State) (pos : List Nat) (h : takeI s pos = .ok c) : AInv c := by
  unfold takeI at h
  split at h
  · cases h
  · exact inv_take s c _ h

theorem refreshAliases_fixed (h : Hist) : refreshAliases Cfg.fixed h = h := rfl

theorem HInv.push {h : Hist} (hi : HInv h) (r : Except Err State) (hr : ∀ c, r = .ok c → AInv c)
    (vws : List (Option (List Nat))) :
    HInv (match r with
      | .error e => (some e, h)
      | .ok c => (none, { h with held := h.held ++ [c], vws := vws })).2 := by
  cases r with
  | error e => exact hi
  | ok c =>
    exact ⟨hi.1, fun x hx => (List.mem_append.mp hx).elim (hi.2 x) fun h1 => List.mem_singleton.mp h1 ▸ hr c rfl⟩

theorem inv_heldApply (h : Hist) (k : Nat) (f : State → Except Err State)
    (hf : ∀ c c', AInv c → f c = .ok c' → AInv c') (hi : HInv h) : HInv (heldApply Cfg.fixed h k f).2 := by
  unfold heldApply
  split
  · exact hi
  · rename_i c hk
    split
    · exact hi
    · rename_i c' hfc
      have hc' : AInv c' := hf c c' (hi.2 c (List.mem_of_getElem? hk)) hfc
      have hheld : ∀ x ∈ h.held.set k c', AInv x := fun x hx =>
        (List.mem_or_eq_of_mem_set hx).elim (hi.2 x) fun h1 => h1 ▸ hc'
      simp only
      split
      · exact ⟨hi.1, hheld⟩
      · rename_i p' hw
        exact ⟨inv_locWrite_fixed hi.1 hw, hheld⟩
