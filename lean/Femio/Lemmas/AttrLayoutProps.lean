import Femio.Model.AttrLayout
import Batteries.Data.List.Basic

/-! The guards of `Model/AttrLayout.lean`: the wrapped unsigned difference of distinct ids is positive, and `adjAll r` is
`List.IsChain` of `r`, so that the library's lemmas about chains and sortedness apply to `looksAscendingU` / `looksAscendingS`. -/
namespace Femio.C08
open AttrLayout

theorem diffU_pos (bits a b : Nat) (ha : a < 2 ^ bits) (hb : b < 2 ^ bits) (hne : a ≠ b) : 0 < diffU bits a b := by
  unfold diffU
  rcases Nat.lt_or_gt_of_ne hne with h | h
  · rw [Nat.sub_add_comm (Nat.le_of_lt h), Nat.add_mod_right, Nat.mod_eq_of_lt (Nat.lt_of_le_of_lt (Nat.sub_le b a) hb)]
    exact Nat.sub_pos_of_lt h
  · have hlt : a < b + 2 ^ bits := Nat.lt_of_lt_of_le ha (Nat.le_add_left _ b)
    rw [Nat.mod_eq_of_lt (Nat.sub_lt_left_of_lt_add (Nat.le_of_lt hlt) (Nat.add_lt_add_right h _))]
    exact Nat.sub_pos_of_lt hlt

theorem adjAll_iff_isChain (r : Nat → Nat → Bool) (l : List Nat) :
    adjAll r l = true ↔ l.IsChain fun a b => r a b = true := by
  induction l with
  | nil => exact ⟨fun _ => .nil, fun _ => rfl⟩
  | cons a t ih =>
    cases t with
    | nil => exact ⟨fun _ => .singleton a, fun _ => rfl⟩
    | cons b t' => rw [adjAll, Bool.and_eq_true, ih, List.isChain_cons_cons]

end Femio.C08
