import Femio.Lemmas.AttrUpdate
import Femio.Lemmas.ListLemmas

open Attr

/-- The invariant of C08, "one id-keyed table": the id-keyed frame equals the positional data, there is one row per id,
and `id2index`, when it was built, is the enumeration of the ids.  `Attr.InvB` is the same test as a `Bool`. -/
def AInv (s : State) : Prop :=
  s.frame = s.data ∧ s.ids.length = s.frame.length ∧ (∀ m, s.id2index = some m → m = enumIds s.ids)

theorem inv_mk (ids : List Id) (rows : List Row) (b : Bool) (s : State) (h : mk ids rows b = .ok s) : AInv s := by
  unfold mk at h
  split at h
  · cases h
  · rename_i hl
    cases h
    refine ⟨rfl, by simpa using hl, ?_⟩
    intro m hm; cases b <;> simp at hm; exact hm.symm

theorem inv_setData {s t : State} {v : List Row} (h : AInv s) (ht : setData s v = .ok t) : AInv t := by
  unfold setData at ht
  split at ht
  · cases ht
  · rename_i hl
    cases ht
    exact ⟨rfl, by simpa using hl, h.2.2⟩

theorem eq_of_map_const_eq_some {α β : Type} {o : Option α} {x m : β} (h : o.map (fun _ => x) = some m) : m = x := by
  cases o <;> cases h
  rfl

theorem inv_updateOverwrite_fixed {s t : State} {ids' : List Id} {rows : List Row}
    (ht : updateOverwrite Cfg.fixed s ids' rows = .ok t) : AInv t := by
  unfold updateOverwrite at ht
  by_cases hl : ids'.length ≠ rows.length
  · rw [if_pos hl] at ht; cases ht
  · rw [if_neg hl] at ht
    cases ht
    exact ⟨rfl, by simp only [List.length_map], fun m hm => eq_of_map_const_eq_some hm⟩

/-- a successful `a.loc[sel].data = v`: every selected id is present, there is one row per id, and the rows are written
by id into the frame (and, when `_update_parent` refreshes it, into the positional data) -/
theorem locWrite_eq_ok {cfg : Cfg} {s t : State} {sel : List Id} {v : List Row} :
    locWrite cfg s sel v = .ok t ↔ (∀ i ∈ sel, i ∈ s.ids) ∧ sel.length = v.length ∧
      t = { s with frame := (sel.zip v).foldl (fun fr (i, r) => setRow s.ids fr i r) s.frame,
                   data := if cfg.syncParent then (sel.zip v).foldl (fun fr (i, r) => setRow s.ids fr i r) s.frame
                           else s.data } := by
  have hany : (sel.any fun i => !s.ids.contains i) = true ↔ ¬ ∀ i ∈ sel, i ∈ s.ids := by
    simp only [List.any_eq_true, Bool.not_eq_true', List.contains_eq_mem, decide_eq_false_iff_not, not_forall, exists_prop]
  unfold locWrite
  by_cases h1 : (sel.any fun i => !s.ids.contains i) = true
  · rw [if_pos h1]
    exact ⟨(nomatch ·), fun h => absurd h.1 (hany.mp h1)⟩
  · rw [if_neg h1]
    by_cases h2 : sel.length ≠ v.length
    · rw [if_pos h2]
      exact ⟨(nomatch ·), fun h => absurd h.2.1 h2⟩
    · rw [if_neg h2]
      exact ⟨fun h => ⟨not_not.mp (mt hany.mpr h1), not_not.mp h2, (Except.ok.inj h).symm⟩, fun h => h.2.2 ▸ rfl⟩

theorem inv_locWrite_fixed {s t : State} {sel : List Id} {v : List Row} (h : AInv s)
    (ht : locWrite Cfg.fixed s sel v = .ok t) : AInv t := by
  obtain ⟨-, -, rfl⟩ := locWrite_eq_ok.mp ht
  exact ⟨rfl, by rw [foldl_setRow_length]; exact h.2.1, h.2.2⟩

theorem inv_of_stepE {s t : State} {op : Op} (h : AInv s) (ht : stepE Cfg.fixed s op = .ok t) : AInv t := by
  cases op with
  | setData v => exact inv_setData h ht
  | update i r ow =>
    cases ow with
    | true => exact inv_updateOverwrite_fixed ht
    | false => cases ht
  | locWrite sel v => exact inv_locWrite_fixed h ht
  | overwrite v => exact inv_setData h ht
  | ilocWrite pos v =>
    simp only [stepE, ilocWrite] at ht
    split at ht
    · cases ht
    · exact inv_locWrite_fixed h ht
  | overwriteIds ids v => exact inv_mk ids v false t ht

theorem step_eq_stepE (cfg : Cfg) (s : State) (op : Op) :
    step cfg s op = match stepE cfg s op with | .ok t => t | .error _ => s := by
  cases op with
  | update i r ow => cases ow <;> rfl
  | _ => rfl

theorem inv_step_fixed (s : State) (op : Op) (h : AInv s) : AInv (step Cfg.fixed s op) := by
  rw [step_eq_stepE]
  split
  · exact inv_of_stepE h ‹_›
  · exact h

theorem inv_reachable_fixed (s : State) (ops : List Op) (h : AInv s) : AInv (ops.foldl (step Cfg.fixed) s) :=
  List.foldlRecOn ops _ h fun s hs op _ => inv_step_fixed s op hs

def s0 : State := ⟨[5, 3, 9], [[some 1], [some 3], [some 5]], [[some 1], [some 3], [some 5]], some (enumIds [5, 3, 9])⟩

/-- the histories that break upstream femio (`C08_counterexample_loc_write`, `…_update_index`) are fine for `Cfg.fixed` -/
example : InvB (step Cfg.fixed s0 (.locWrite [3, 9] [[some 30], [some 50]])) = true := by decide +kernel
example : InvB (step Cfg.fixed s0 (.update [1] [[some 0]] true)) = true := by decide +kernel

namespace Femio.C08

theorem posOf_get {ids : List Nat} (hn : ids.Nodup) (k : Nat) (hk : k < ids.length) : posOf ids ids[k] = some k :=
  (eq_idxOf? posOf (fun _ => rfl) (fun _ _ _ => rfl) ids _).trans (idxOf?_getElem hn k hk)

theorem locView_eq_posOf (s : State) (h : AInv s) (i : Nat) : locView s i = (posOf s.ids i).bind (dataView s) := by
  unfold locView dataView
  rw [lookupRow_posOf s.ids s.frame i, h.1]

theorem ids2indices_eq_posOf (s : State) (h : AInv s) (m : List (Nat × Nat)) (hm : s.id2index = some m) (i : Nat) :
    ids2indices s i = posOf s.ids i := by
  unfold ids2indices
  rw [hm, h.2.2 m hm, Option.bind_some, enumIds, lookupIdx_zipIdx]
  cases posOf s.ids i <;> rfl

end Femio.C08
