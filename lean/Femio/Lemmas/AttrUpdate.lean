import Femio.Model.Attr
import Femio.Lemmas.InsertionSort

/-! Reading an attribute by id.  The id-keyed read `lookupRow ids rows` is a lookup in the association list
`ids.zip rows` and, by position, the row at `posOf ids i`; what `setRow`, the merge of `update(…, allow_overwrite=True)`
and the sort by id do to such lookups. -/
namespace Attr

def assocLookup (i : Id) : List (Id × Row) → Option Row
  | [] => none
  | (j, r) :: t => if j = i then some r else assocLookup i t

theorem zip_keys (ids : List Id) (rows : List Row) (h : ids.length = rows.length) : (ids.zip rows).map Prod.fst = ids :=
  List.map_fst_zip (Nat.le_of_eq h)

theorem lookupRow_zip (ids : List Id) (rows : List Row) (i : Id) : lookupRow ids rows i = assocLookup i (ids.zip rows) := by
  induction ids generalizing rows with
  | nil => simp [lookupRow, assocLookup]
  | cons a t ih =>
    cases rows with
    | nil => simp [lookupRow, assocLookup]
    | cons r rs => simp [lookupRow, assocLookup, ih]

theorem assocLookup_unzip (l : List (Id × Row)) (i : Id) :
    lookupRow (l.map Prod.fst) (l.map Prod.snd) i = assocLookup i l := by
  rw [lookupRow_zip, ← List.zip_of_prod rfl rfl]

theorem assocLookup_append (a b : List (Id × Row)) (i : Id) :
    assocLookup i (a ++ b) = (assocLookup i a).or (assocLookup i b) := by
  induction a with
  | nil => simp [assocLookup]
  | cons p t ih =>
    obtain ⟨j, r⟩ := p
    by_cases h : j = i <;> simp [assocLookup, h, ih]

theorem assocLookup_map (l : List (Id × Row)) (g : Id → Row → Row) (i : Id) :
    assocLookup i (l.map fun p => (p.1, g p.1 p.2)) = (assocLookup i l).map (g i) := by
  induction l with
  | nil => simp [assocLookup]
  | cons p t ih =>
    obtain ⟨j, r⟩ := p
    by_cases h : j = i
    · subst h; simp [assocLookup]
    · simp [assocLookup, h, ih]

theorem assocLookup_filter (l : List (Id × Row)) (q : Id → Bool) (i : Id) :
    assocLookup i (l.filter fun p => q p.1) = if q i then assocLookup i l else none := by
  induction l with
  | nil => simp [assocLookup]
  | cons p t ih =>
    obtain ⟨j, r⟩ := p
    by_cases h : j = i
    · subst h; by_cases hq : q j = true <;> simp [hq, assocLookup, ih]
    · by_cases hj : q j = true <;> simp [hj, assocLookup, h, ih]

theorem assocLookup_isSome (l : List (Id × Row)) (i : Id) : (assocLookup i l).isSome ↔ i ∈ l.map Prod.fst := by
  induction l with
  | nil => simp [assocLookup]
  | cons p t ih =>
    obtain ⟨j, r⟩ := p
    rw [assocLookup, List.map_cons, List.mem_cons]
    split
    · exact ⟨fun _ => Or.inl ‹j = i›.symm, fun _ => rfl⟩
    · exact ih.trans ⟨Or.inr, fun h => h.resolve_left (Ne.symm ‹¬j = i›)⟩

theorem lookupRow_isSome (ids : List Id) (rows : List Row) (hl : ids.length = rows.length) (i : Id) :
    (lookupRow ids rows i).isSome ↔ i ∈ ids := by
  rw [lookupRow_zip, assocLookup_isSome, zip_keys ids rows hl]

theorem assocLookup_eq_some {l : List (Id × Row)} (hn : (l.map Prod.fst).Nodup) (i : Id) (r : Row) :
    assocLookup i l = some r ↔ (i, r) ∈ l := by
  induction l with
  | nil => simp [assocLookup]
  | cons p t ih =>
    obtain ⟨j, q⟩ := p
    rw [List.map_cons, List.nodup_cons] at hn
    by_cases h : j = i
    · subst h
      have : (j, r) ∉ t := fun hm => hn.1 (List.mem_map.mpr ⟨_, hm, rfl⟩)
      simp [assocLookup, this, eq_comm]
    · simp [assocLookup, h, Ne.symm h, ih hn.2]

theorem assocLookup_perm {l₁ l₂ : List (Id × Row)} (hp : l₁.Perm l₂) (hn : (l₁.map Prod.fst).Nodup) (i : Id) :
    assocLookup i l₁ = assocLookup i l₂ :=
  Option.ext fun r => by
    rw [assocLookup_eq_some hn, assocLookup_eq_some ((hp.map Prod.fst).nodup_iff.mp hn), hp.mem_iff]

theorem setRow_length (ids : List Id) (rows : List Row) (i : Id) (r : Row) :
    (setRow ids rows i r).length = rows.length := by
  induction ids generalizing rows with
  | nil => rfl
  | cons a as ih =>
    cases rows with
    | nil => rfl
    | cons q qs => exact congrArg Nat.succ (ih qs)

theorem foldl_setRow_length (ids : List Id) (ps : List (Id × Row)) (fr : List Row) :
    (ps.foldl (fun fr (i, r) => setRow ids fr i r) fr).length = fr.length := by
  induction ps generalizing fr with
  | nil => rfl
  | cons p ps ih => simp only [List.foldl_cons, ih, setRow_length]

theorem lookupRow_setRow (ids : List Id) (rows : List Row) (i j : Id) (r : Row) :
    lookupRow ids (setRow ids rows i r) j = if j = i then (lookupRow ids rows j).map (fun _ => r) else lookupRow ids rows j := by
  induction ids generalizing rows with
  | nil => cases rows <;> simp [lookupRow]
  | cons a t ih =>
    cases rows with
    | nil => simp [setRow, lookupRow]
    | cons q qs =>
      simp only [setRow, lookupRow]
      by_cases haj : a = j
      · subst haj
        by_cases hai : a = i <;> simp [hai]
      · simp only [haj, if_false]
        exact ih qs

/-- fold of `setRow` over (id, row) pairs with distinct ids: a selected id that is present holds its new row,
every other id keeps its row -/
theorem lookupRow_foldl_setRow (ids : List Id) (ps : List (Id × Row)) (rows : List Row)
    (hn : (ps.map Prod.fst).Nodup) (j : Id) :
    lookupRow ids (ps.foldl (fun fr (i, r) => setRow ids fr i r) rows) j =
      match assocLookup j ps with
      | some r => (lookupRow ids rows j).map (fun _ => r)
      | none => lookupRow ids rows j := by
  induction ps generalizing rows with
  | nil => simp [assocLookup]
  | cons p ps ih =>
    obtain ⟨i, r⟩ := p
    rw [List.map_cons, List.nodup_cons] at hn
    simp only [List.foldl_cons]
    rw [ih (setRow ids rows i r) hn.2, lookupRow_setRow ids rows]
    simp only [assocLookup]
    by_cases hij : i = j
    · subst hij
      have : assocLookup i ps = none := by
        rw [← Option.not_isSome_iff_eq_none, assocLookup_isSome]; exact hn.1
      simp [this]
    · simp only [hij, Ne.symm hij, if_false]

theorem lookupRow_posOf (ids : List Id) (rows : List Row) (i : Id) :
    lookupRow ids rows i = (posOf ids i).bind (fun k => rows[k]?) := by
  induction ids generalizing rows with
  | nil => cases rows <;> rfl
  | cons a t ih =>
    cases rows with
    | nil => cases posOf (a :: t) i <;> rfl
    | cons q qs =>
      rw [lookupRow, posOf]
      split
      · rfl
      · rw [ih qs]
        cases posOf t i <;> rfl

theorem lookupIdx_zipIdx (l : List Id) (n : Nat) (i : Id) : lookupIdx i (l.zipIdx n) = (posOf l i).map (· + n) := by
  induction l generalizing n with
  | nil => rfl
  | cons a t ih =>
    simp only [List.zipIdx_cons, lookupIdx, posOf]
    by_cases h : a = i
    · simp [h]
    · simp only [h, if_false, ih]
      cases posOf t i <;> simp [Nat.add_assoc, Nat.add_comm 1 n]

theorem sortById_eq (l : List (Id × Row)) : sortById l = l.insertionSort fun p q => p.1 < q.1 :=
  foldr_eq_insertionSort _ (fun p => insertSorted p.1 p.2) (fun _ => rfl) (fun _ _ _ => rfl) l

theorem sortById_perm (l : List (Id × Row)) : (sortById l).Perm l :=
  sortById_eq l ▸ List.perm_insertionSort _ l

/-- `update` tests `<` on the ids and leaves them ascending -/
theorem sortById_sorted (l : List (Id × Row)) : ((sortById l).map Prod.fst).Pairwise (· ≤ ·) := by
  rw [List.pairwise_map, sortById_eq]
  exact pairwise_insertionSort_of_test (R := fun p q => p.1 ≤ q.1) (fun _ _ _ => Nat.le_trans) (fun _ _ h => Nat.le_of_lt h)
    (fun _ _ h => Nat.le_of_not_lt h) l

section Merge
variable (ids : List Id) (fr : List Row) (ids' : List Id) (rows : List Row)

/-- the `let merged` of `updateOverwrite`: old ids first (rows combined cell-wise with the new ones), then the new ids -/
def merged : List (Id × Row) :=
  mergedOld ids' rows (ids.zip fr) ++ newOnly ids (ids'.zip rows)

theorem merged_keys (hl : ids.length = fr.length) (hl' : ids'.length = rows.length) :
    (merged ids fr ids' rows).map Prod.fst = ids ++ ids'.filter fun i => !ids.contains i := by
  simp only [merged, mergedOld, newOnly, List.map_append, List.map_map]
  rw [← zip_keys ids' rows hl', List.filter_map]
  congr 1
  · exact zip_keys ids fr hl
  · rw [zip_keys ids' rows hl']; rfl

theorem mem_merged_keys (hl : ids.length = fr.length) (hl' : ids'.length = rows.length) (i : Id) :
    i ∈ (merged ids fr ids' rows).map Prod.fst ↔ i ∈ ids ∨ i ∈ ids' := by
  rw [merged_keys ids fr ids' rows hl hl']
  by_cases h : i ∈ ids <;> simp [h]

theorem merged_keys_nodup (hl : ids.length = fr.length) (hl' : ids'.length = rows.length) (hn : ids.Nodup)
    (hn' : ids'.Nodup) : ((merged ids fr ids' rows).map Prod.fst).Nodup := by
  rw [merged_keys ids fr ids' rows hl hl']
  refine hn.append (hn'.filter _) fun i hi hi' => ?_
  simpa [hi] using (List.mem_filter.mp hi').2

/-- looked up by id, the merge follows the `combine_first` rule -/
theorem assocLookup_merged (hl : ids.length = fr.length) (i : Id) :
    assocLookup i (merged ids fr ids' rows) =
      match lookupRow ids fr i, lookupRow ids' rows i with
      | some r, some n => some (combineRow n r)
      | some r, none => some r
      | none, some n => some n
      | none, none => none := by
  rw [merged, assocLookup_append, mergedOld, assocLookup_map, newOnly,
    assocLookup_filter _ (fun i => !ids.contains i), ← lookupRow_zip, ← lookupRow_zip]
  cases h : lookupRow ids fr i with
  | some r => cases h2 : lookupRow ids' rows i <;> simp [mergeCell, h2]
  | none =>
    have hi : i ∉ ids := fun hi => by simpa [h] using (lookupRow_isSome ids fr hl i).mpr hi
    cases lookupRow ids' rows i <;> simp [hi]

end Merge

end Attr
