import Mathlib.Algebra.Order.Field.Rat
import Mathlib.Data.List.FinRange
import Mathlib.Data.List.Perm.Basic
import Mathlib.Tactic.Linarith
import Mathlib.Tactic.IntervalCases

/-! One axis of an octree box is the interval `[c - w, c + w]`; a child keeps the half on the minus or on the plus
    side of the centre. The arithmetic of halving and clamping on rational variables, the digit of a child, and the
    partition of an index list into the eight classes of a digit-valued function: everything about the octree
    searches (C16) that does not depend on how a model spells its boxes. -/
namespace Axis

variable {c w lo hi x v t : ℚ}

theorem of_half (m : Prop) [Decidable m]
    (h : (if m then c - w / 2 else c + w / 2) - w / 2 ≤ x ∧ x ≤ (if m then c - w / 2 else c + w / 2) + w / 2) :
    c - w ≤ x ∧ x ≤ c + w := by
  -- `linarith` is several times faster on a variable `v` with `w = v + v` than on `w / 2`
  have e := add_halves w
  generalize w / 2 = v at *
  subst e
  split at h <;> constructor <;> linarith [h.1, h.2]

theorem half (m : Prop) [Decidable m] (hm : m ↔ x ≤ c) (h : c - w ≤ x ∧ x ≤ c + w) :
    (if m then c - w / 2 else c + w / 2) - w / 2 ≤ x ∧ x ≤ (if m then c - w / 2 else c + w / 2) + w / 2 := by
  -- `w = v + v` as in `of_half`
  have e := add_halves w
  generalize w / 2 = v at *
  subst e
  split
  · have := hm.mp ‹m›
    constructor <;> linarith [h.1, h.2]
  · have := lt_of_not_ge (mt hm.mpr ‹¬m›)
    constructor <;> linarith [h.1, h.2]

theorem mid_mem (h : lo ≤ x ∧ x ≤ hi) (hw : (hi - lo) / 2 ≤ w) : (lo + hi) / 2 - w ≤ x ∧ x ≤ (lo + hi) / 2 + w := by
  constructor <;> linarith [h.1, h.2]

/-- the number of the child whose box is on the minus side in x iff `p`, in y iff `q`, in z iff `r`: the models'
    `child` reads these three bits back -/
def digit (p q r : Prop) [Decidable p] [Decidable q] [Decidable r] : ℕ :=
  (if p then 4 else 0) + (if q then 2 else 0) + (if r then 1 else 0)

section digit
variable {p q r : Prop} [Decidable p] [Decidable q] [Decidable r]

theorem digit_lt : digit p q r < 8 := by
  unfold digit; split <;> split <;> split <;> decide

theorem digit_bit4 : digit p q r / 4 % 2 = 1 ↔ p := by
  unfold digit; split <;> split <;> split <;> simp only [*] <;> decide

theorem digit_bit2 : digit p q r / 2 % 2 = 1 ↔ q := by
  unfold digit; split <;> split <;> split <;> simp only [*] <;> decide

theorem digit_bit1 : digit p q r % 2 = 1 ↔ r := by
  unfold digit; split <;> split <;> split <;> simp only [*] <;> decide

end digit

def clamp (lo hi v : ℚ) : ℚ := if v < lo then lo else if hi < v then hi else v

theorem clamp_mem (v : ℚ) (h : lo ≤ hi) : lo ≤ clamp lo hi v ∧ clamp lo hi v ≤ hi := by
  unfold clamp
  split
  · exact ⟨le_refl _, h⟩
  · split
    · exact ⟨h, le_refl _⟩
    · exact ⟨not_lt.mp ‹_›, not_lt.mp ‹_›⟩

theorem sq_sub_clamp_le (v : ℚ) (h1 : lo ≤ t) (h2 : t ≤ hi) :
    (v - clamp lo hi v) * (v - clamp lo hi v) ≤ (v - t) * (v - t) := by
  unfold clamp
  split
  · rename_i hv
    rw [← neg_mul_neg (v - lo), ← neg_mul_neg (v - t)]
    exact mul_self_le_mul_self (neg_nonneg.mpr (sub_nonpos.mpr hv.le)) (neg_le_neg (sub_le_sub_left h1 v))
  · split
    · rename_i hv
      exact mul_self_le_mul_self (sub_nonneg.mpr hv.le) (sub_le_sub_left h2 v)
    · rw [sub_self, mul_zero]
      exact mul_self_nonneg _

theorem add3_mul_self_eq_zero {a b c : ℚ} (h : a * a + b * b + c * c = 0) : a = 0 ∧ b = 0 ∧ c = 0 := by
  obtain ⟨hab, hc⟩ :=
    (add_eq_zero_iff_of_nonneg (add_nonneg (mul_self_nonneg a) (mul_self_nonneg b)) (mul_self_nonneg c)).mp h
  obtain ⟨ha, hb⟩ := (add_eq_zero_iff_of_nonneg (mul_self_nonneg a) (mul_self_nonneg b)).mp hab
  exact ⟨mul_self_eq_zero.mp ha, mul_self_eq_zero.mp hb, mul_self_eq_zero.mp hc⟩

theorem flatMap_filter {α β : Type} (p : α → Bool) (f : α → List β) (hf : ∀ a, p a = false → f a = [])
    (l : List α) : (l.filter p).flatMap f = l.flatMap f := by
  induction l with
  | nil => rfl
  | cons a t ih =>
    cases h : p a
    · simp [h, hf a h, ih]
    · simp [h, ih]

theorem classes_perm (is : List ℕ) (f : ℕ → ℕ) (hf : ∀ i, f i < 8) :
    ((List.finRange 8).flatMap fun r => is.filter fun i => f i = r.val).Perm is := by
  induction is with
  | nil => simp
  | cons a t ih =>
    have hone : ((List.finRange 8).flatMap fun r : Fin 8 => if f a = r.val then [a] else []) = [a] := by
      have hv := hf a
      have h8 : List.finRange 8 = [0, 1, 2, 3, 4, 5, 6, 7] := by decide
      rw [h8]
      generalize f a = v at hv
      interval_cases v <;> rfl
    have hsplit : ∀ r : Fin 8, ((a :: t).filter fun i => f i = r.val)
        = (if f a = r.val then [a] else []) ++ t.filter fun i => f i = r.val := by
      intro r; by_cases h : f a = r.val <;> simp [h]
    simp only [hsplit]
    refine (List.flatMap_append_perm _ _ _).symm.trans ?_
    rw [hone]
    exact List.Perm.cons a ih

end Axis
