import Mathlib.Data.List.Nodup
import Mathlib.Data.List.Perm.Subperm
import Mathlib.Data.List.Dedup
import Mathlib.Data.List.Range
import Mathlib.Logic.Relation

/-! Worklist BFS with a fuel bound = reachability (C16_hop_graph). -/

structure G where
  succ : Nat → List Nat
  allowed : Nat → Bool

def bfsStep (g : G) : List Nat × List Nat → List Nat × List Nat
  | ([], vis) => ([], vis)
  | (x :: q, vis) =>
    let new := ((g.succ x).filter (fun y => g.allowed y && !vis.contains y)).dedup
    (q ++ new, vis ++ new)

def bfs (g : G) (fuel : Nat) (v : Nat) : List Nat × List Nat := (bfsStep g)^[fuel] ([v], [v])

def R (g : G) (x y : Nat) : Prop := y ∈ g.succ x ∧ g.allowed y = true

structure BInv (g : G) (v : Nat) (popped : List Nat) (s : List Nat × List Nat) : Prop where
  split : s.2 = popped ++ s.1
  nodup : s.2.Nodup
  sound : ∀ w ∈ s.2, Relation.ReflTransGen (R g) v w
  closed : ∀ x ∈ popped, ∀ y, R g x y → y ∈ s.2
  start : v ∈ s.2

theorem inv_init (g : G) (v : Nat) : BInv g v [] ([v], [v]) :=
  ⟨rfl, List.nodup_singleton v, fun _ hw => List.mem_singleton.mp hw ▸ Relation.ReflTransGen.refl,
    fun _ hx => (List.not_mem_nil hx).elim, List.mem_singleton_self v⟩

theorem inv_step (g : G) (v : Nat) (popped : List Nat) (x : Nat) (q vis : List Nat)
    (h : BInv g v popped (x :: q, vis)) : BInv g v (popped ++ [x]) (bfsStep g (x :: q, vis)) := by
  obtain ⟨hs, hn, hsound, hclosed, hstart⟩ := h
  simp only at hs hn hsound hclosed hstart
  set new := ((g.succ x).filter (fun y => g.allowed y && !vis.contains y)).dedup with hnew
  have hx : x ∈ vis := by rw [hs]; simp
  have hnew_mem : ∀ y, y ∈ new ↔ y ∈ g.succ x ∧ g.allowed y = true ∧ y ∉ vis := by
    intro y; simp [hnew, List.mem_dedup, List.mem_filter]
  show BInv g v (popped ++ [x]) (q ++ new, vis ++ new)
  refine ⟨?_, ?_, ?_, ?_, List.mem_append_left _ hstart⟩
  · show vis ++ new = popped ++ [x] ++ (q ++ new)
    rw [hs]; simp
  · exact List.nodup_append.mpr ⟨hn, List.nodup_dedup _, fun a ha b hb hab => ((hnew_mem b).mp hb).2.2 (hab ▸ ha)⟩
  · intro w hw
    rcases List.mem_append.mp hw with hw | hw
    · exact hsound w hw
    · have := (hnew_mem w).mp hw
      exact Relation.ReflTransGen.tail (hsound x hx) ⟨this.1, this.2.1⟩
  · intro p hp y hy
    rcases List.mem_append.mp hp with hp | hp
    · exact List.mem_append_left _ (hclosed p hp y hy)
    · cases List.mem_singleton.mp hp
      by_cases hyv : y ∈ vis
      · exact List.mem_append_left _ hyv
      · exact List.mem_append_right _ ((hnew_mem y).mpr ⟨hy.1, hy.2, hyv⟩)

/-- after `k` steps: either the queue ran empty earlier (state is a fixpoint) or exactly `k` vertices were popped -/
theorem inv_iter (g : G) (v : Nat) (k : Nat) :
    ∃ popped, BInv g v popped ((bfsStep g)^[k] ([v], [v])) ∧
      (((bfsStep g)^[k] ([v], [v])).1 = [] ∨ popped.length = k) := by
  induction k with
  | zero => exact ⟨[], inv_init g v, Or.inr rfl⟩
  | succ k ih =>
    obtain ⟨popped, hinv, hk⟩ := ih
    rw [Function.iterate_succ_apply']
    set s := (bfsStep g)^[k] ([v], [v]) with hs
    obtain ⟨q, vis⟩ := s
    cases q with
    | nil => exact ⟨popped, by simpa [bfsStep] using hinv, Or.inl (by simp [bfsStep])⟩
    | cons x q =>
      refine ⟨popped ++ [x], inv_step g v popped x q vis hinv, Or.inr ?_⟩
      rcases hk with hk | hk
      · simp at hk
      · simp [hk]

/-- the loop behind C16_hop_graph: with all vertices `< n` and fuel `n`, the visited list is exactly the set
    of vertices reachable from `v` through allowed vertices. -/
theorem bfs_correct (g : G) (n v : Nat) (hv : v < n)
    (hsucc : ∀ x y, y ∈ g.succ x → y < n) (w : Nat) :
    w ∈ (bfs g n v).2 ↔ Relation.ReflTransGen (R g) v w := by
  obtain ⟨popped, hinv, hk⟩ := inv_iter g v n
  unfold bfs
  set s := (bfsStep g)^[n] ([v], [v]) with hs
  constructor
  · exact hinv.sound w
  · intro hreach
    -- all visited vertices are < n
    have hbound : ∀ u ∈ s.2, u < n := by
      intro u hu
      have := hinv.sound u hu
      induction this with
      | refl => exact hv
      | tail _ hr _ => exact hsucc _ _ hr.1
    -- the queue is empty after n steps (pigeonhole)
    have hq : s.1 = [] := by
      rcases hk with hk | hk
      · exact hk
      · by_contra hne
        have hlen : s.2.length ≤ n := by
          have hsub : s.2 ⊆ List.range n := fun u hu => List.mem_range.mpr (hbound u hu)
          have := (List.subperm_of_subset hinv.nodup hsub).length_le
          simpa using this
        have : s.2.length = popped.length + s.1.length := by rw [hinv.split]; simp
        have hpos : 0 < s.1.length := List.length_pos_iff.mpr hne
        omega
    -- visited = popped, which is closed under R and contains v
    have hvp : s.2 = popped := by rw [hinv.split, hq]; simp
    induction hreach with
    | refl => exact hinv.start
    | tail _ hr ih => exact hinv.closed _ (hvp ▸ ih) _ hr

#print axioms bfs_correct
