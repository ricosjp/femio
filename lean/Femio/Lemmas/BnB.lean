import Femio.Lemmas.C16BnB

/-! Abstract, order-independent branch-and-bound for k-nearest search (C16): the transition system with the steps
    *skip / expand / scan / reorder*. Every run of it is a run of the system of `Femio.C16`, which has the additional
    *drop* step, on the same tree and state, and inherits its invariant. -/

variable {α : Type} [LinearOrder α]

/-- model of `heapq.heappushpop(res_q, x)` on a result heap of capacity `k`, kept as a sorted list -/
def ins (k : ℕ) (x : α) (r : List α) : List α := (r.orderedInsert (· ≤ ·) x).take k

/-- `r` is a list of the `k` smallest elements of `S`, ascending -/
structure IsBest (k : ℕ) (S r : List α) : Prop where
  sorted : r.Pairwise (· ≤ ·)
  len : r.length = min k S.length
  split : ∃ rest, S.Perm (r ++ rest) ∧ ∀ x ∈ rest, ∀ y ∈ r, y ≤ x

theorem isBest_iff {k : ℕ} {S r : List α} : IsBest k S r ↔ Femio.C16.IsBest k S r :=
  ⟨fun i => ⟨i.sorted, i.len, i.split⟩, fun i => ⟨i.sorted, i.len, i.split⟩⟩

theorem isBest_nil (k : ℕ) : IsBest k ([] : List α) [] :=
  isBest_iff.mpr (Femio.C16.isBest_nil k)

theorem ins_best {k : ℕ} {S r : List α} {x : α} (h : IsBest k S r) : IsBest k (x :: S) (ins k x r) :=
  isBest_iff.mpr (Femio.C16.ins_best (isBest_iff.mp h))

structure SearchTree (T α : Type) where
  pts : T → List α
  children : T → Option (List T)
  children_pts : ∀ t cs, children t = some cs → (pts t).Perm (cs.flatMap pts)

structure St (T α : Type) where
  queue : List T
  res : List α
  seen : List α      -- ghost
  disc : List α      -- ghost: points under skipped subtrees

variable {T : Type}

inductive Step (tr : SearchTree T α) (k : ℕ) : St T α → St T α → Prop
  /-- prune: the result heap is full and nothing under `t` beats its worst entry -/
  | skip (t : T) (q : List T) (res seen disc : List α)
      (hfull : res.length = k) (hlb : ∀ x ∈ tr.pts t, ∀ y ∈ res, y ≤ x) :
      Step tr k ⟨t :: q, res, seen, disc⟩ ⟨q, res, seen, tr.pts t ++ disc⟩
  | expand (t : T) (cs q : List T) (res seen disc : List α) (h : tr.children t = some cs) :
      Step tr k ⟨t :: q, res, seen, disc⟩ ⟨cs ++ q, res, seen, disc⟩
  | scan (t : T) (q : List T) (res seen disc : List α) (h : tr.children t = none) :
      Step tr k ⟨t :: q, res, seen, disc⟩
        ⟨q, (tr.pts t).foldl (fun r x => ins k x r) res, (tr.pts t).reverse ++ seen, disc⟩
  /-- the queue is a multiset: any element may be popped next -/
  | reorder (q q' : List T) (res seen disc : List α) (h : q.Perm q') :
      Step tr k ⟨q, res, seen, disc⟩ ⟨q', res, seen, disc⟩

structure SInv (tr : SearchTree T α) (k : ℕ) (all : List α) (s : St T α) : Prop where
  cover : all.Perm (s.seen ++ s.disc ++ s.queue.flatMap tr.pts)
  best : IsBest k s.seen s.res
  disc : ∀ x ∈ s.disc, k ≤ (s.seen.filter (fun z => decide (z ≤ x))).length

def SearchTree.toC16 (tr : SearchTree T α) : Femio.C16.SearchTree T α := ⟨tr.pts, tr.children, tr.children_pts⟩

def St.toC16 (s : St T α) : Femio.C16.St T α := ⟨s.queue, s.res, s.seen, s.disc⟩

theorem Step.toC16 {tr : SearchTree T α} {k : ℕ} {s s' : St T α} (h : Step tr k s s') :
    Femio.C16.Step tr.toC16 k s.toC16 s'.toC16 := by
  cases h with
  | skip t q res seen disc hfull hlb => exact .skip t q res seen disc hfull hlb
  | expand t cs q res seen disc h => exact .expand t cs q res seen disc h
  | scan t q res seen disc h => exact .scan t q res seen disc h
  | reorder q q' res seen disc h => exact .reorder q q' res seen disc h

theorem sInv_iff {tr : SearchTree T α} {k : ℕ} {all : List α} {s : St T α} :
    SInv tr k all s ↔ Femio.C16.SInv tr.toC16 k all s.toC16 :=
  ⟨fun i => ⟨i.cover, isBest_iff.mp i.best, i.disc⟩, fun i => ⟨i.cover, isBest_iff.mpr i.best, i.disc⟩⟩

theorem step_inv {tr : SearchTree T α} {k : ℕ} {all : List α} {s s' : St T α}
    (hI : SInv tr k all s) (hs : Step tr k s s') : SInv tr k all s' :=
  sInv_iff.mpr (Femio.C16.step_inv (sInv_iff.mp hI) hs.toC16)

theorem final_best {tr : SearchTree T α} {k : ℕ} {all : List α} {s : St T α}
    (hI : SInv tr k all s) (hq : s.queue = []) : IsBest k all s.res :=
  isBest_iff.mpr (Femio.C16.final_best (sInv_iff.mp hI) hq)

#print axioms final_best
#print axioms step_inv
