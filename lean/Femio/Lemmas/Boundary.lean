import Mathlib.Algebra.BigOperators.Group.List.Basic
import Mathlib.Data.List.Count
import Mathlib.Tactic.Linarith
import Mathlib.Tactic.Ring

/-! Abstract cancellation lemma behind C10 / C12 / C18 / C20.
    `l` = all faces of all elements, `key` = sorted node tuple, `w f` = what face `f` contributes: the count
    (#e − #ē) of a directed edge, a flux, an area vector. -/

variable {α κ : Type} [DecidableEq κ]

def fiber (key : α → κ) (l : List α) (k : κ) : List α := l.filter (fun f => key f = k)

/-- faces that belong to one element only (model of `np.unique(..., return_counts)` → `counts == 1`) -/
def boundary (key : α → κ) (l : List α) : List α :=
  l.filter (fun f => (fiber key l (key f)).length = 1)

theorem sum_filter_add_sum_filter_not {M : Type} [AddCommMonoid M] (w : α → M) (p : α → Bool) (l : List α) :
    ((l.filter p).map w).sum + ((l.filter (fun a => !p a)).map w).sum = (l.map w).sum := by
  rw [← List.sum_append, ← List.map_append]
  exact ((List.filter_append_perm p l).map w).sum_eq

theorem sum_filter_key_zero {M : Type} [AddCommMonoid M] (key : α → κ) (w : α → M) (l : List α) :
    ∀ q : κ → Bool, (∀ k, q k = true → ((fiber key l k).map w).sum = 0) →
      ((l.filter fun f => q (key f)).map w).sum = 0 := by
  induction l with
  | nil => intro _ _; rfl
  | cons a t ih =>
    intro q hq
    -- the faces with the key of `a` are a whole fibre or none; the others lie in `t` and have their fibres there
    rw [← sum_filter_add_sum_filter_not w (fun f => decide (key f = key a)), List.filter_filter, List.filter_filter]
    have h1 : (((a :: t).filter fun f => decide (key f = key a) && q (key f)).map w).sum = 0 := by
      cases hqa : q (key a) with
      | true =>
        rw [← hq (key a) hqa, fiber]
        congr 2
        apply List.filter_congr
        intro f _
        by_cases hf : key f = key a <;> simp [hf, hqa]
      | false =>
        rw [List.filter_eq_nil_iff.mpr]
        · rfl
        · intro f _
          by_cases hf : key f = key a <;> simp [hf, hqa]
    have h2 : (((a :: t).filter fun f => !decide (key f = key a) && q (key f)).map w).sum = 0 := by
      rw [List.filter_cons_of_neg (by simp)]
      refine ih (fun k => !decide (k = key a) && q k) fun k hk => ?_
      simp only [Bool.and_eq_true, Bool.not_eq_eq_eq_not, Bool.not_true, decide_eq_false_iff_not] at hk
      rw [← hq k hk.2, fiber, fiber, List.filter_cons_of_neg (by simpa using Ne.symm hk.1)]
    rw [h1, h2, add_zero]

/-- if the weights cancel on every shared (non-singleton) fibre, the boundary carries the whole sum -/
theorem boundary_sum_eq_total {M : Type} [AddCommMonoid M] (key : α → κ) (w : α → M) (l : List α)
    (hfib : ∀ k, (fiber key l k).length ≠ 1 → ((fiber key l k).map w).sum = 0) :
    ((boundary key l).map w).sum = (l.map w).sum := by
  have hi := sum_filter_key_zero key w l (fun k => !decide ((fiber key l k).length = 1)) fun k hk =>
    hfib k (by simpa using hk)
  have hs := sum_filter_add_sum_filter_not w (fun f => decide ((fiber key l (key f)).length = 1)) l
  rw [hi, add_zero] at hs
  exact hs

/-- **Cancellation theorem.** If the weights sum to zero over all faces (every element is closed) and
    over every shared (non-singleton) fibre (opposite faces cancel), they sum to zero over the boundary. -/
theorem boundary_sum_zero (key : α → κ) (w : α → ℤ) (l : List α)
    (hall : (l.map w).sum = 0)
    (hfib : ∀ k, (fiber key l k).length ≠ 1 → ((fiber key l k).map w).sum = 0) :
    ((boundary key l).map w).sum = 0 :=
  (boundary_sum_eq_total key w l hfib).trans hall

#print axioms boundary_sum_zero
