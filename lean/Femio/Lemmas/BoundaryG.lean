import Femio.Lemmas.Boundary

/-! The cancellation theorem of Lemmas/Boundary.lean for weights in any additive commutative group (fluxes, area
    vectors). -/

variable {α κ M : Type} [DecidableEq κ] [AddCommGroup M]

/-- **Cancellation theorem.** If the weights sum to zero over all faces (every element is closed) and
    over every shared (non-singleton) fibre (opposite faces cancel), they sum to zero over the boundary. -/
theorem boundary_sum_zeroG (key : α → κ) (w : α → M) (l : List α)
    (hall : (l.map w).sum = 0)
    (hfib : ∀ k, (fiber key l k).length ≠ 1 → ((fiber key l k).map w).sum = 0) :
    ((boundary key l).map w).sum = 0 :=
  (boundary_sum_eq_total key w l hfib).trans hall
