import Mathlib.Data.Finset.Card
import Mathlib.Data.Finset.Prod
import Mathlib.Data.Finset.Image
import Mathlib.Tactic.Ring

/-! `_generate_brick_3d`: which start indices `i` produce an element, and how many there are (C11).  `brickCond` is the
    model's Boolean `brickFilter3` as a proposition (`brickFilter3_iff` in `BrickProps`). -/

/-- the three-condition filter of the generator (`n_x = nx+1`, `n_xy = n_x * n_y`) -/
def brickCond (nx ny nz i : Nat) : Prop :=
  (i + 1) % (nx + 1) ≠ 0 ∧ (i + 1) % ((nx + 1) * (ny + 1)) < 1 + (nx + 1) * (ny + 1) - (nx + 1) ∧
  i < (nx + 1) * (ny + 1) * nz

instance (nx ny nz i : Nat) : Decidable (brickCond nx ny nz i) := by unfold brickCond; infer_instance

def enc (nx ny : Nat) (p : Nat × Nat × Nat) : Nat := p.1 + (nx + 1) * p.2.1 + (nx + 1) * (ny + 1) * p.2.2

/-! The filter reads off the digits `i % n_x`, `i / n_x % n_y`, `i / (n_x n_y)` of `i`; `enc` puts them together. -/

theorem succ_mod_ne_zero_iff (n i : Nat) : (i + 1) % (n + 1) ≠ 0 ↔ i % (n + 1) < n := by
  have hd := Nat.mod_add_div i (n + 1)
  have hlt : i % (n + 1) < n + 1 := Nat.mod_lt i (Nat.succ_pos n)
  constructor
  · intro hne
    by_contra hge
    apply hne
    have : i + 1 = (n + 1) * (i / (n + 1) + 1) := by rw [Nat.mul_add, Nat.mul_one]; omega
    rw [this]; exact Nat.mul_mod_right _ _
  · intro hx
    have : i + 1 = (i % (n + 1) + 1) + (n + 1) * (i / (n + 1)) := by omega
    rw [this, Nat.add_mul_mod_self_left, Nat.mod_eq_of_lt (by omega)]; omega

theorem brickCond_iff (nx ny nz i : Nat) :
    brickCond nx ny nz i ↔ i % (nx + 1) < nx ∧ i / (nx + 1) % (ny + 1) < ny ∧ i / ((nx + 1) * (ny + 1)) < nz := by
  have hab : 0 < (nx + 1) * (ny + 1) := Nat.mul_pos (Nat.succ_pos _) (Nat.succ_pos _)
  have h3 : i < (nx + 1) * (ny + 1) * nz ↔ i / ((nx + 1) * (ny + 1)) < nz := by
    rw [Nat.div_lt_iff_lt_mul hab, Nat.mul_comm]
  unfold brickCond
  rw [succ_mod_ne_zero_iff, h3]
  refine and_congr_right fun hx => and_congr_left fun _ => ?_
  -- no carry out of the last digit: `(i+1) % (n_x n_y) = i % (n_x n_y) + 1`, and `i % (n_x n_y) = x + n_x·y`
  have hy : i / (nx + 1) % (ny + 1) < ny + 1 := Nat.mod_lt _ (Nat.succ_pos ny)
  have hmod : i % ((nx + 1) * (ny + 1)) = i % (nx + 1) + (nx + 1) * (i / (nx + 1) % (ny + 1)) := Nat.mod_mul
  have hb : (nx + 1) * (ny + 1) = (nx + 1) * ny + (nx + 1) := Nat.mul_succ _ _
  have hle : (nx + 1) * (i / (nx + 1) % (ny + 1)) ≤ (nx + 1) * ny := Nat.mul_le_mul_left _ (by omega)
  have hsucc : (i + 1) % ((nx + 1) * (ny + 1)) = i % ((nx + 1) * (ny + 1)) + 1 := by
    have hd := Nat.mod_add_div i ((nx + 1) * (ny + 1))
    have : i + 1 = (i % ((nx + 1) * (ny + 1)) + 1) + (nx + 1) * (ny + 1) * (i / ((nx + 1) * (ny + 1))) := by omega
    rw [this, Nat.add_mul_mod_self_left, Nat.mod_eq_of_lt (by omega)]
  rw [hsucc, hmod, hb]
  constructor
  · intro h
    by_contra hge
    have : (nx + 1) * ny ≤ (nx + 1) * (i / (nx + 1) % (ny + 1)) := Nat.mul_le_mul_left _ (by omega)
    omega
  · intro h
    have : (nx + 1) * (i / (nx + 1) % (ny + 1) + 1) ≤ (nx + 1) * ny := Nat.mul_le_mul_left _ h
    rw [Nat.mul_succ] at this
    omega

theorem enc_mod (nx ny x y z : Nat) (hx : x ≤ nx) : enc nx ny (x, y, z) % (nx + 1) = x := by
  have : enc nx ny (x, y, z) = x + (nx + 1) * (y + (ny + 1) * z) := by simp only [enc]; ring
  rw [this, Nat.add_mul_mod_self_left, Nat.mod_eq_of_lt (by omega)]

theorem enc_div (nx ny x y z : Nat) (hx : x ≤ nx) : enc nx ny (x, y, z) / (nx + 1) = y + (ny + 1) * z := by
  have : enc nx ny (x, y, z) = x + (nx + 1) * (y + (ny + 1) * z) := by simp only [enc]; ring
  rw [this, Nat.add_mul_div_left _ _ (by omega), Nat.div_eq_of_lt (by omega), Nat.zero_add]

theorem enc_div_mod (nx ny x y z : Nat) (hx : x ≤ nx) (hy : y ≤ ny) :
    enc nx ny (x, y, z) / (nx + 1) % (ny + 1) = y := by
  rw [enc_div nx ny x y z hx, Nat.add_mul_mod_self_left, Nat.mod_eq_of_lt (by omega)]

theorem enc_div_mul (nx ny x y z : Nat) (hx : x ≤ nx) (hy : y ≤ ny) :
    enc nx ny (x, y, z) / ((nx + 1) * (ny + 1)) = z := by
  rw [← Nat.div_div_eq_div_mul, enc_div nx ny x y z hx, Nat.add_mul_div_left _ _ (by omega),
    Nat.div_eq_of_lt (by omega), Nat.zero_add]

theorem enc_digits (nx ny i : Nat) :
    enc nx ny (i % (nx + 1), i / (nx + 1) % (ny + 1), i / ((nx + 1) * (ny + 1))) = i := by
  have h1 := Nat.mod_add_div i (nx + 1)
  have h2 := Nat.mod_add_div (i / (nx + 1)) (ny + 1)
  rw [Nat.div_div_eq_div_mul] at h2
  simp only [enc]
  rw [Nat.mul_assoc, Nat.add_assoc, ← Nat.mul_add, h2, h1]

/-- grid cells ↦ start index satisfies the filter -/
theorem cond_of_cell (nx ny nz x y z : Nat) (hx : x < nx) (hy : y < ny) (hz : z < nz) :
    brickCond nx ny nz (enc nx ny (x, y, z)) ∧ enc nx ny (x, y, z) < (nx + 1) * (ny + 1) * (nz + 1) := by
  have e3 := enc_div_mul nx ny x y z (by omega) (by omega)
  refine ⟨(brickCond_iff _ _ _ _).2 ⟨?_, ?_, ?_⟩, ?_⟩
  · rw [enc_mod nx ny x y z (by omega)]; exact hx
  · rw [enc_div_mod nx ny x y z (by omega) (by omega)]; exact hy
  · rw [e3]; exact hz
  · rw [Nat.mul_comm _ (nz + 1), ← Nat.div_lt_iff_lt_mul (Nat.mul_pos (Nat.succ_pos _) (Nat.succ_pos _)), e3]; omega

/-- conversely every index passing the filter is the start index of exactly one grid cell -/
theorem cell_of_cond (nx ny nz i : Nat) (h : brickCond nx ny nz i) :
    ∃ x y z, x < nx ∧ y < ny ∧ z < nz ∧ i = enc nx ny (x, y, z) := by
  obtain ⟨h1, h2, h3⟩ := (brickCond_iff _ _ _ _).1 h
  exact ⟨_, _, _, h1, h2, h3, (enc_digits nx ny i).symm⟩

theorem enc_inj (nx ny : Nat) (p q : Nat × Nat × Nat) (hp : p.1 < nx + 1 ∧ p.2.1 < ny + 1) (hq : q.1 < nx + 1 ∧ q.2.1 < ny + 1)
    (h : enc nx ny p = enc nx ny q) : p = q := by
  obtain ⟨x, y, z⟩ := p
  obtain ⟨x', y', z'⟩ := q
  simp only at hp hq
  have e1 := enc_mod nx ny x y z (by omega)
  have e2 := enc_div_mod nx ny x y z (by omega) (by omega)
  have e3 := enc_div_mul nx ny x y z (by omega) (by omega)
  rw [h] at e1 e2 e3
  rw [enc_mod nx ny x' y' z' (by omega)] at e1
  rw [enc_div_mod nx ny x' y' z' (by omega) (by omega)] at e2
  rw [enc_div_mul nx ny x' y' z' (by omega) (by omega)] at e3
  rw [e1, e2, e3]

/-- **C11_brick_count** (hex; the tet brick has 6 per cell): exactly `nx·ny·nz` start indices pass the filter -/
theorem brick_count (nx ny nz : Nat) :
    ((Finset.range ((nx + 1) * (ny + 1) * (nz + 1))).filter (brickCond nx ny nz)).card = nx * ny * nz := by
  have himg : (Finset.range ((nx + 1) * (ny + 1) * (nz + 1))).filter (brickCond nx ny nz)
      = (Finset.range nx ×ˢ (Finset.range ny ×ˢ Finset.range nz)).image (enc nx ny) := by
    ext i
    simp only [Finset.mem_filter, Finset.mem_range, Finset.mem_image, Finset.mem_product, Prod.exists]
    constructor
    · rintro ⟨_, hc⟩
      obtain ⟨x, y, z, hx, hy, hz, hi⟩ := cell_of_cond nx ny nz i hc
      exact ⟨x, y, z, ⟨hx, hy, hz⟩, hi.symm⟩
    · rintro ⟨x, y, z, ⟨hx, hy, hz⟩, hi⟩
      have := cond_of_cell nx ny nz x y z hx hy hz
      rw [hi] at this
      exact ⟨this.2, this.1⟩
  rw [himg, Finset.card_image_of_injOn]
  · simp [Finset.card_product, Nat.mul_assoc]
  · intro p hp q hq h
    simp only [Finset.coe_product, Set.mem_prod, Finset.mem_coe, Finset.mem_range] at hp hq
    exact enc_inj nx ny p q ⟨by omega, by omega⟩ ⟨by omega, by omega⟩ h

#print axioms brick_count
