import Femio.Model.Brick
import Femio.Model.Geom
import Femio.Model.Geom2
import Femio.Lemmas.Brick
import Femio.Lemmas.GeomProps
import Femio.Lemmas.GeomProps2
import Mathlib.Data.Finset.Card
import Mathlib.Data.Finset.Prod
import Mathlib.Data.Finset.Image
import Mathlib.Data.Finset.Range
import Mathlib.Algebra.BigOperators.Group.List.Basic
import Mathlib.Algebra.Order.Field.Basic
import Mathlib.Algebra.CharZero.Defs
import Mathlib.Data.Nat.Cast.Basic
import Mathlib.Tactic.Ring
import Mathlib.Tactic.FieldSimp
import Mathlib.Tactic.Positivity

/-! C11: properties of the brick generator model (`Femio/Model/Brick.lean`):
    element counts, characterisation of the generated cells, node positions of a cell,
    per-element volume/area (hence positive orientation) and total volume/area. -/

namespace Femio.C11

open V3 Geom

theorem filter_range_length (N : Nat) (p : Nat → Bool) :
    ((List.range N).filter p).length = ((Finset.range N).filter (fun i => p i = true)).card := by
  induction N with
  | zero => simp
  | succ n ih =>
    rw [List.range_succ, List.filter_append, List.length_append, ih, Finset.range_add_one,
      Finset.filter_insert]
    by_cases h : p n = true
    · simp [h]
    · simp [h]

theorem brickFilter3_iff (nx ny nz i : Nat) : brickFilter3 nx ny nz i = true ↔ brickCond nx ny nz i := by
  simp [brickFilter3, brickCond, and_assoc]

theorem brickFilter2_iff (nx ny i : Nat) :
    brickFilter2 nx ny i = true ↔ i % (nx + 1) < nx ∧ i / (nx + 1) < ny := by
  have h : i < (nx + 1) * ny ↔ i / (nx + 1) < ny := by
    rw [Nat.div_lt_iff_lt_mul (Nat.succ_pos nx), Nat.mul_comm]
  simp [brickFilter2, succ_mod_ne_zero_iff, h]

theorem brickIdx3_length (nx ny nz : Nat) : (brickIdx3 nx ny nz).length = nx * ny * nz := by
  unfold brickIdx3
  rw [filter_range_length, ← brick_count nx ny nz]
  congr 1
  apply Finset.filter_congr
  intro i _
  exact brickFilter3_iff nx ny nz i

theorem mem_brickIdx3 (nx ny nz i : Nat) :
    i ∈ brickIdx3 nx ny nz ↔
      ∃ x y z, x < nx ∧ y < ny ∧ z < nz ∧ i = x + (nx + 1) * y + (nx + 1) * (ny + 1) * z := by
  unfold brickIdx3
  rw [List.mem_filter, List.mem_range, brickFilter3_iff]
  constructor
  · rintro ⟨_, hc⟩
    exact cell_of_cond nx ny nz i hc
  · rintro ⟨x, y, z, hx, hy, hz, rfl⟩
    have := cond_of_cell nx ny nz x y z hx hy hz
    exact ⟨this.2, this.1⟩

theorem mem_brickIdx2 (nx ny i : Nat) :
    i ∈ brickIdx2 nx ny ↔ ∃ x y, x < nx ∧ y < ny ∧ i = x + (nx + 1) * y := by
  unfold brickIdx2
  rw [List.mem_filter, List.mem_range, brickFilter2_iff]
  constructor
  · rintro ⟨_, h1, h2⟩
    exact ⟨_, _, h1, h2, (Nat.mod_add_div i (nx + 1)).symm⟩
  · rintro ⟨x, y, hx, hy, rfl⟩
    rw [Nat.add_mul_mod_self_left, Nat.mod_eq_of_lt (by omega), Nat.add_mul_div_left _ _ (Nat.succ_pos nx),
      Nat.div_eq_of_lt (by omega), Nat.zero_add]
    have := Nat.mul_le_mul_left (nx + 1) (show y + 1 ≤ ny by omega)
    rw [Nat.mul_succ] at this
    exact ⟨by rw [Nat.mul_succ]; omega, hx, hy⟩

theorem brickIdx2_length (nx ny : Nat) : (brickIdx2 nx ny).length = nx * ny := by
  have himg : (Finset.range ((nx + 1) * (ny + 1))).filter (fun i => brickFilter2 nx ny i = true)
      = (Finset.range nx ×ˢ Finset.range ny).image (fun p => p.1 + (nx + 1) * p.2) := by
    ext i
    have h := mem_brickIdx2 nx ny i
    unfold brickIdx2 at h
    rw [List.mem_filter, List.mem_range] at h
    simp only [Finset.mem_filter, Finset.mem_range, Finset.mem_image, Finset.mem_product, Prod.exists, h]
    constructor
    · rintro ⟨x, y, hx, hy, rfl⟩; exact ⟨x, y, ⟨hx, hy⟩, rfl⟩
    · rintro ⟨x, y, ⟨hx, hy⟩, rfl⟩; exact ⟨x, y, hx, hy, rfl⟩
  unfold brickIdx2
  rw [filter_range_length, himg, Finset.card_image_of_injOn]
  · simp [Finset.card_product]
  · rintro ⟨x, y⟩ hp ⟨x', y'⟩ hq h
    simp only [Finset.coe_product, Set.mem_prod, Finset.mem_coe, Finset.mem_range] at hp hq h
    have hx : x = x' := by
      have := congrArg (· % (nx + 1)) h
      simp only [Nat.add_mul_mod_self_left] at this
      rwa [Nat.mod_eq_of_lt (by omega), Nat.mod_eq_of_lt (by omega)] at this
    subst hx
    rw [Nat.eq_of_mul_eq_mul_left (Nat.succ_pos nx) (Nat.add_left_cancel h)]

theorem length_flatMap_const {α β : Type} (l : List α) (f : α → List β) (c : Nat)
    (h : ∀ a ∈ l, (f a).length = c) : (l.flatMap f).length = c * l.length := by
  induction l with
  | nil => simp
  | cons a t ih =>
    rw [List.flatMap_cons, List.length_append, h a (by simp), ih (fun b hb => h b (by simp [hb])),
      List.length_cons]
    ring

theorem brick_count_hex (nx ny nz : Nat) (rows : List (List Nat))
    (h : brickRows "hex" nx ny nz = some rows) : rows.length = nx * ny * nz := by
  simp only [brickRows, Option.some.injEq] at h
  subst h
  rw [List.length_map, brickIdx3_length]

theorem brick_count_tet (nx ny nz : Nat) (rows : List (List Nat))
    (h : brickRows "tet" nx ny nz = some rows) : rows.length = 6 * nx * ny * nz := by
  simp only [brickRows, Option.some.injEq] at h
  subst h
  rw [length_flatMap_const _ _ 6 (fun _ _ => rfl), brickIdx3_length]
  ring

theorem brick_count_quad (nx ny nz : Nat) (rows : List (List Nat))
    (h : brickRows "quad" nx ny nz = some rows) : rows.length = nx * ny := by
  simp only [brickRows, Option.some.injEq] at h
  subst h
  rw [List.length_map, brickIdx2_length]

theorem brick_count_tri (nx ny nz : Nat) (rows : List (List Nat))
    (h : brickRows "tri" nx ny nz = some rows) : rows.length = 2 * nx * ny := by
  simp only [brickRows, Option.some.injEq] at h
  subst h
  rw [length_flatMap_const _ _ 2 (fun _ _ => rfl), brickIdx2_length]
  ring

/-- start index of the cell / node index of the grid point `(x, y, z)` -/
def enc3 (nx ny x y z : Nat) : Nat := x + (nx + 1) * y + (nx + 1) * (ny + 1) * z

/-- **node position**: the node with index `x + n_x·y + n_x·n_y·z` (`x ≤ nx`, `y ≤ ny`) sits at
    `(x·hx, y·hy, z·hz)` -/
theorem gridNode3_enc {R : Type} [NatCast R] [Mul R] (nx ny : Nat) (hx hy hz : R) (x y z : Nat)
    (h1 : x ≤ nx) (h2 : y ≤ ny) :
    gridNode3 nx ny hx hy hz (x + (nx + 1) * y + (nx + 1) * (ny + 1) * z)
      = ⟨(x : R) * hx, (y : R) * hy, (z : R) * hz⟩ := by
  have e1 := enc_mod nx ny x y z h1
  have e2 := enc_div_mod nx ny x y z h1 h2
  have e3 := enc_div_mul nx ny x y z h1 h2
  simp only [enc] at e1 e2 e3
  unfold gridNode3
  rw [e1, e2, e3]

theorem gridNode2_enc {R : Type} [NatCast R] [Mul R] (nx : Nat) (hx hy zero : R) (x y : Nat)
    (h1 : x ≤ nx) :
    gridNode2 nx hx hy zero (x + (nx + 1) * y) = ⟨(x : R) * hx, (y : R) * hy, zero⟩ := by
  unfold gridNode2
  rw [Nat.add_mul_mod_self_left, Nat.mod_eq_of_lt (by omega), Nat.add_mul_div_left _ _ (by omega),
    Nat.div_eq_of_lt (by omega), Nat.zero_add]

/-- the eight nodes of the cell with start index `enc(x,y,z)` are the grid points
    `(x|x+1, y|y+1, z|z+1)` in femio's hex order -/
theorem hexRow_enc (nx ny x y z : Nat) :
    hexRow (nx + 1) ((nx + 1) * (ny + 1)) (enc3 nx ny x y z)
      = [enc3 nx ny x y z, enc3 nx ny (x + 1) y z, enc3 nx ny (x + 1) (y + 1) z, enc3 nx ny x (y + 1) z,
         enc3 nx ny x y (z + 1), enc3 nx ny (x + 1) y (z + 1), enc3 nx ny (x + 1) (y + 1) (z + 1),
         enc3 nx ny x (y + 1) (z + 1)] := by
  simp only [hexRow, enc3, List.cons.injEq, and_true]
  refine ⟨trivial, ?_, ?_, ?_, ?_, ?_, ?_, ?_⟩ <;> ring

section Ring
variable {K : Type} [CommRing K]

/-- positions of the eight corner nodes of cell `(x,y,z)`, `x < nx`, `y < ny`, indexed as in `hexRow` -/
theorem cell_nodes (nx ny : Nat) (hx hy hz : K) (x y z : Nat) (h1 : x < nx) (h2 : y < ny) :
    let i := x + (nx + 1) * y + (nx + 1) * (ny + 1) * z
    let P := gridNode3 nx ny hx hy hz
    let a : K := x * hx
    let b : K := y * hy
    let c : K := z * hz
    P i = ⟨a, b, c⟩ ∧ P (i + 1) = ⟨a + hx, b, c⟩ ∧ P (i + 1 + (nx + 1)) = ⟨a + hx, b + hy, c⟩ ∧
    P (i + (nx + 1)) = ⟨a, b + hy, c⟩ ∧ P (i + (nx + 1) * (ny + 1)) = ⟨a, b, c + hz⟩ ∧
    P (i + (nx + 1) * (ny + 1) + 1) = ⟨a + hx, b, c + hz⟩ ∧
    P (i + (nx + 1) * (ny + 1) + 1 + (nx + 1)) = ⟨a + hx, b + hy, c + hz⟩ ∧
    P (i + (nx + 1) * (ny + 1) + (nx + 1)) = ⟨a, b + hy, c + hz⟩ := by
  intro i P a b c
  have r := hexRow_enc nx ny x y z
  simp only [hexRow, enc3, List.cons.injEq, and_true] at r
  obtain ⟨-, r1, r2, r3, r4, r5, r6, r7⟩ := r
  have g := gridNode3_enc nx ny hx hy hz
  simp only [i, P, a, b, c]
  -- the longer index expressions first: `i + 1` is a subterm of `i + 1 + (nx + 1)`, `i + n_xy` of the last four
  rw [r6, r2, r5, r7, r1, r3, r4, g x y z (by omega) (by omega), g (x + 1) y z (by omega) (by omega),
    g (x + 1) (y + 1) z (by omega) (by omega), g x (y + 1) z (by omega) (by omega), g x y (z + 1) (by omega) (by omega),
    g (x + 1) y (z + 1) (by omega) (by omega), g (x + 1) (y + 1) (z + 1) (by omega) (by omega),
    g x (y + 1) (z + 1) (by omega) (by omega)]
  simp only [Nat.cast_add, Nat.cast_one, add_mul, one_mul, and_self]

end Ring

section Value
variable {K : Type} [CommRing K]

theorem hex_box (p a b c u v w : K) :
    hexLin6 ⟨a, b, c⟩ ⟨a + u, b, c⟩ ⟨a + u, b + v, c⟩ ⟨a, b + v, c⟩
      ⟨a, b, c + w⟩ ⟨a + u, b, c + w⟩ ⟨a + u, b + v, c + w⟩ ⟨a, b + v, c + w⟩ = 6 * (u * v * w) ∧
    hexC24 ⟨a, b, c⟩ ⟨a + u, b, c⟩ ⟨a + u, b + v, c⟩ ⟨a, b + v, c⟩
      ⟨a, b, c + w⟩ ⟨a + u, b, c + w⟩ ⟨a + u, b + v, c + w⟩ ⟨a, b + v, c + w⟩ = 24 * (u * v * w) ∧
    hexGauss512 1 p ⟨a, b, c⟩ ⟨a + u, b, c⟩ ⟨a + u, b + v, c⟩ ⟨a, b + v, c⟩
      ⟨a, b, c + w⟩ ⟨a + u, b, c + w⟩ ⟨a + u, b + v, c + w⟩ ⟨a, b + v, c + w⟩ = 512 * (u * v * w) := by
  have hd : V3.det (⟨u, 0, 0⟩ : V3 K) ⟨0, v, 0⟩ ⟨0, 0, w⟩ = u * v * w := by simp only [V3.det]; ring
  have h := hex_modes_affine p (⟨a, b, c⟩ : V3 K) ⟨u, 0, 0⟩ ⟨0, v, 0⟩ ⟨0, 0, w⟩
  simpa only [V3.add, add_zero, hd] using h

/-- the six tets of a box cell (python's `i1 … i8` = `q1 … q8`) all have `6·V = u·v·w` -/
theorem tet6_box (a b c u v w : K) :
    let q1 : V3 K := ⟨a, b, c⟩
    let q2 : V3 K := ⟨a + u, b, c⟩
    let q3 : V3 K := ⟨a + u, b + v, c⟩
    let q4 : V3 K := ⟨a, b + v, c⟩
    let q5 : V3 K := ⟨a, b, c + w⟩
    let q6 : V3 K := ⟨a + u, b, c + w⟩
    let q7 : V3 K := ⟨a + u, b + v, c + w⟩
    let q8 : V3 K := ⟨a, b + v, c + w⟩
    tet6 q1 q2 q3 q5 = u * v * w ∧ tet6 q2 q7 q5 q6 = u * v * w ∧ tet6 q2 q3 q5 q7 = u * v * w ∧
    tet6 q1 q3 q4 q8 = u * v * w ∧ tet6 q1 q3 q8 q5 = u * v * w ∧ tet6 q3 q8 q5 q7 = u * v * w := by
  intro q1 q2 q3 q4 q5 q6 q7 q8
  refine ⟨?_, ?_, ?_, ?_, ?_, ?_⟩ <;> (simp only [q1, q2, q3, q4, q5, q6, q7, q8]; geom_unfold; ring)

/-- apply a 3, 4 or 8 point kernel to the nodes of a row under a node map `P`
    (`0` for a row of any other length) -/
def on3 (f : V3 K → V3 K → V3 K → K) (P : Nat → V3 K) : List Nat → K
  | [a, b, c] => f (P a) (P b) (P c)
  | _ => 0

def on4 (f : V3 K → V3 K → V3 K → V3 K → K) (P : Nat → V3 K) : List Nat → K
  | [a, b, c, d] => f (P a) (P b) (P c) (P d)
  | _ => 0

def on8 (f : V3 K → V3 K → V3 K → V3 K → V3 K → V3 K → V3 K → V3 K → K) (P : Nat → V3 K) :
    List Nat → K
  | [a, b, c, d, e, f', g, h] => f (P a) (P b) (P c) (P d) (P e) (P f') (P g) (P h)
  | _ => 0

theorem brick_hex_cell (f : V3 K → V3 K → V3 K → V3 K → V3 K → V3 K → V3 K → V3 K → K) (nx ny nz : Nat)
    (hx hy hz : K) (i : Nat) (hi : i ∈ brickIdx3 nx ny nz) :
    ∃ a b c : K, on8 f (gridNode3 nx ny hx hy hz) (hexRow (nx + 1) ((nx + 1) * (ny + 1)) i)
      = f ⟨a, b, c⟩ ⟨a + hx, b, c⟩ ⟨a + hx, b + hy, c⟩ ⟨a, b + hy, c⟩
          ⟨a, b, c + hz⟩ ⟨a + hx, b, c + hz⟩ ⟨a + hx, b + hy, c + hz⟩ ⟨a, b + hy, c + hz⟩ := by
  obtain ⟨x, y, z, h1, h2, _, rfl⟩ := (mem_brickIdx3 nx ny nz i).1 hi
  obtain ⟨e1, e2, e3, e4, e5, e6, e7, e8⟩ := cell_nodes nx ny hx hy hz x y z h1 h2
  refine ⟨x * hx, y * hy, z * hz, ?_⟩
  simp only [hexRow, on8]
  rw [e1, e2, e3, e4, e5, e6, e7, e8]

/-- **C11 hex value**: every generated hex has `6·V = 6·hx·hy·hz` in the "linear" mode, … -/
theorem brick_hex_value (nx ny nz : Nat) (hx hy hz : K) (i : Nat) (hi : i ∈ brickIdx3 nx ny nz) :
    on8 hexLin6 (gridNode3 nx ny hx hy hz) (hexRow (nx + 1) ((nx + 1) * (ny + 1)) i)
      = 6 * (hx * hy * hz) := by
  obtain ⟨a, b, c, h⟩ := brick_hex_cell hexLin6 nx ny nz hx hy hz i hi
  rw [h, (hex_box 0 a b c hx hy hz).1]

/-- … `24·V = 24·hx·hy·hz` in the "centroid" mode, … -/
theorem brick_hexC_value (nx ny nz : Nat) (hx hy hz : K) (i : Nat) (hi : i ∈ brickIdx3 nx ny nz) :
    on8 hexC24 (gridNode3 nx ny hx hy hz) (hexRow (nx + 1) ((nx + 1) * (ny + 1)) i)
      = 24 * (hx * hy * hz) := by
  obtain ⟨a, b, c, h⟩ := brick_hex_cell hexC24 nx ny nz hx hy hz i hi
  rw [h, (hex_box 0 a b c hx hy hz).2.1]

/-- … and `512·V = 512·hx·hy·hz` in the "gaussian" mode, for any abscissa `p` -/
theorem brick_hexG_value (nx ny nz : Nat) (p hx hy hz : K) (i : Nat) (hi : i ∈ brickIdx3 nx ny nz) :
    on8 (hexGauss512 1 p) (gridNode3 nx ny hx hy hz) (hexRow (nx + 1) ((nx + 1) * (ny + 1)) i)
      = 512 * (hx * hy * hz) := by
  obtain ⟨a, b, c, h⟩ := brick_hex_cell (hexGauss512 1 p) nx ny nz hx hy hz i hi
  rw [h, (hex_box p a b c hx hy hz).2.2]

/-- **C11 tet value**: each of the six tets of every generated cell has `6·V = hx·hy·hz` -/
theorem brick_tet_value_row (nx ny nz : Nat) (hx hy hz : K) (i : Nat) (hi : i ∈ brickIdx3 nx ny nz)
    (r : List Nat) (hr : r ∈ tetRows (nx + 1) ((nx + 1) * (ny + 1)) i) :
    on4 tet6 (gridNode3 nx ny hx hy hz) r = hx * hy * hz := by
  obtain ⟨x, y, z, h1, h2, _, rfl⟩ := (mem_brickIdx3 nx ny nz i).1 hi
  obtain ⟨e1, e2, e3, e4, e5, e6, e7, e8⟩ := cell_nodes nx ny hx hy hz x y z h1 h2
  obtain ⟨t1, t2, t3, t4, t5, t6⟩ := tet6_box ((x : K) * hx) (y * hy) (z * hz) hx hy hz
  -- the index forms of `tetRows` are those of `hexRow` up to the order of two summands
  have n3 : ∀ j : Nat, j + (nx + 1) + 1 = j + 1 + (nx + 1) := fun j => by omega
  simp only [tetRows, List.mem_cons, List.not_mem_nil, or_false] at hr
  rcases hr with rfl | rfl | rfl | rfl | rfl | rfl <;>
    simp only [on4, n3, e1, e2, e3, e4, e5, e6, e7, e8] <;> assumption

theorem cell_nodes2 (nx : Nat) (hx hy zero : K) (x y : Nat) (h1 : x < nx) :
    let i := x + (nx + 1) * y
    let P := gridNode2 nx hx hy zero
    let a : K := x * hx
    let b : K := y * hy
    P i = ⟨a, b, zero⟩ ∧ P (i + 1) = ⟨a + hx, b, zero⟩ ∧ P (i + 1 + (nx + 1)) = ⟨a + hx, b + hy, zero⟩ ∧
    P (i + (nx + 1)) = ⟨a, b + hy, zero⟩ := by
  intro i P a b
  have key : ∀ dx dy : Nat, dx ≤ 1 →
      P ((x + dx) + (nx + 1) * (y + dy)) = ⟨a + dx * hx, b + dy * hy, zero⟩ := by
    intro dx dy hdx
    show gridNode2 nx hx hy zero _ = _
    rw [gridNode2_enc nx hx hy zero (x + dx) (y + dy) (by omega)]
    simp only [V3.mk.injEq, a, b]
    push_cast
    exact ⟨by ring, by ring, trivial⟩
  refine ⟨?_, ?_, ?_, ?_⟩
  · have := key 0 0 (by omega); simpa [i] using this
  · have := key 1 0 (by omega)
    rw [show x + 1 + (nx + 1) * (y + 0) = i + 1 by simp only [i]; ring] at this
    simpa using this
  · have := key 1 1 (by omega)
    rw [show x + 1 + (nx + 1) * (y + 1) = i + 1 + (nx + 1) by simp only [i]; ring] at this
    simpa using this
  · have := key 0 1 (by omega)
    rw [show x + 0 + (nx + 1) * (y + 1) = i + (nx + 1) by simp only [i]; ring] at this
    simpa using this

/-- **C11 quad value**: both doubled area vectors of every generated quad are `(0, 0, hx·hy)`
    (for any value `zero` of the constant z coordinate) -/
theorem brick_quad_value (nx ny : Nat) (hx hy zero : K) (i : Nat) (hi : i ∈ brickIdx2 nx ny) :
    let P := gridNode2 nx hx hy zero
    let n_x := nx + 1
    quadLinCross1 (P i) (P (i + 1)) (P (i + 1 + n_x)) (P (i + n_x)) = ⟨0, 0, hx * hy⟩ ∧
    quadLinCross2 (P i) (P (i + 1)) (P (i + 1 + n_x)) (P (i + n_x)) = ⟨0, 0, hx * hy⟩ := by
  obtain ⟨x, y, h1, _, rfl⟩ := (mem_brickIdx2 nx ny i).1 hi
  obtain ⟨e1, e2, e3, e4⟩ := cell_nodes2 nx hx hy zero x y h1
  intro P n_x
  simp only [P, n_x]
  rw [e1, e2, e3, e4]
  simp only [quadLinCross1, quadLinCross2, V3.cross, V3.sub, V3.mk.injEq]
  exact ⟨⟨by ring, by ring, by ring⟩, ⟨by ring, by ring, by ring⟩⟩

/-- **C11 tri value**: the doubled area vector of both triangles of every generated cell is
    `(0, 0, hx·hy)` -/
theorem brick_tri_value (nx ny : Nat) (hx hy zero : K) (i : Nat) (hi : i ∈ brickIdx2 nx ny) :
    let P := gridNode2 nx hx hy zero
    let n_x := nx + 1
    triCross (P i) (P (i + 1)) (P (i + 1 + n_x)) = ⟨0, 0, hx * hy⟩ ∧
    triCross (P i) (P (i + 1 + n_x)) (P (i + n_x)) = ⟨0, 0, hx * hy⟩ := by
  obtain ⟨x, y, h1, _, rfl⟩ := (mem_brickIdx2 nx ny i).1 hi
  obtain ⟨e1, e2, e3, e4⟩ := cell_nodes2 nx hx hy zero x y h1
  intro P n_x
  simp only [P, n_x]
  rw [e1, e2, e3, e4]
  simp only [triCross, V3.cross, V3.sub, V3.mk.injEq]
  exact ⟨⟨by ring, by ring, by ring⟩, ⟨by ring, by ring, by ring⟩⟩

theorem brick_tri_value_row (nx ny : Nat) (hx hy zero : K) (i : Nat) (hi : i ∈ brickIdx2 nx ny)
    (r : List Nat) (hr : r ∈ triRows (nx + 1) i) (a b c : Nat) (hrow : r = [a, b, c]) :
    let P := gridNode2 nx hx hy zero
    triCross (P a) (P b) (P c) = ⟨0, 0, hx * hy⟩ := by
  obtain ⟨t1, t2⟩ := brick_tri_value nx ny hx hy zero i hi
  intro P
  subst hrow
  simp only [triRows, List.mem_cons, List.cons.injEq, and_true, List.not_mem_nil, or_false] at hr
  rcases hr with ⟨rfl, rfl, rfl⟩ | ⟨rfl, rfl, rfl⟩
  · exact t1
  · exact t2

end Value

section Order
variable {K : Type} [Field K] [LinearOrder K] [IsStrictOrderedRing K]

theorem brick_hex_pos (nx ny nz : Nat) (hx hy hz : K) (p1 : 0 < hx) (p2 : 0 < hy) (p3 : 0 < hz)
    (i : Nat) (hi : i ∈ brickIdx3 nx ny nz) :
    0 < on8 hexLin6 (gridNode3 nx ny hx hy hz) (hexRow (nx + 1) ((nx + 1) * (ny + 1)) i) ∧
    0 < on8 hexC24 (gridNode3 nx ny hx hy hz) (hexRow (nx + 1) ((nx + 1) * (ny + 1)) i) := by
  rw [brick_hex_value nx ny nz hx hy hz i hi, brick_hexC_value nx ny nz hx hy hz i hi]
  constructor <;> positivity

theorem brick_tet_pos (nx ny nz : Nat) (hx hy hz : K) (p1 : 0 < hx) (p2 : 0 < hy) (p3 : 0 < hz)
    (i : Nat) (hi : i ∈ brickIdx3 nx ny nz)
    (r : List Nat) (hr : r ∈ tetRows (nx + 1) ((nx + 1) * (ny + 1)) i) (a b c d : Nat)
    (hrow : r = [a, b, c, d]) :
    let P := gridNode3 nx ny hx hy hz
    0 < tet6 (P a) (P b) (P c) (P d) := by
  intro P
  subst hrow
  have := brick_tet_value_row nx ny nz hx hy hz i hi _ hr
  simp only [on4] at this
  simp only [P]
  rw [this]
  positivity

end Order

section Sum
variable {K : Type} [Field K] [CharZero K]

theorem sum_map_const {α : Type} {S : Type} [CommSemiring S] (l : List α) (f : α → S) (c : S)
    (h : ∀ a ∈ l, f a = c) : (l.map f).sum = (l.length : S) * c := by
  induction l with
  | nil => simp
  | cons a t ih =>
    rw [List.map_cons, List.sum_cons, h a (by simp), ih (fun b hb => h b (by simp [hb])),
      List.length_cons]
    push_cast
    ring

theorem cells_mul_cellVolume (nx ny nz : Nat) (h1 : 0 < nx) (h2 : 0 < ny) (h3 : 0 < nz) (lx ly lz : K) :
    ((nx * ny * nz : Nat) : K) * ((lx / nx) * (ly / ny) * (lz / nz)) = lx * ly * lz := by
  have e1 : (nx : K) ≠ 0 := Nat.cast_ne_zero.2 (by omega)
  have e2 : (ny : K) ≠ 0 := Nat.cast_ne_zero.2 (by omega)
  have e3 : (nz : K) ≠ 0 := Nat.cast_ne_zero.2 (by omega)
  push_cast
  field_simp

theorem cells_mul_cellArea (nx ny : Nat) (h1 : 0 < nx) (h2 : 0 < ny) (lx ly : K) :
    ((nx * ny : Nat) : K) * ((lx / nx) * (ly / ny)) = lx * ly := by
  have e1 : (nx : K) ≠ 0 := Nat.cast_ne_zero.2 (by omega)
  have e2 : (ny : K) ≠ 0 := Nat.cast_ne_zero.2 (by omega)
  push_cast
  field_simp

/-- **C11 hex sum**: the volumes of all generated hexes (any of the three modes) sum to `lx·ly·lz` -/
theorem brick_hex_sum (nx ny nz : Nat) (h1 : 0 < nx) (h2 : 0 < ny) (h3 : 0 < nz) (lx ly lz p : K)
    (rows : List (List Nat)) (h : brickRows "hex" nx ny nz = some rows) :
    let P := gridNode3 nx ny (lx / nx) (ly / ny) (lz / nz)
    (rows.map fun r => on8 hexLin6 P r / 6).sum = lx * ly * lz ∧
    (rows.map fun r => on8 hexC24 P r / 24).sum = lx * ly * lz ∧
    (rows.map fun r => on8 (hexGauss512 1 p) P r / 512).sum = lx * ly * lz := by
  simp only [brickRows, Option.some.injEq] at h
  subst h
  intro P
  have key : ∀ (f : V3 K → V3 K → V3 K → V3 K → V3 K → V3 K → V3 K → V3 K → K) (d : K),
      (∀ i ∈ brickIdx3 nx ny nz, on8 f P (hexRow (nx + 1) ((nx + 1) * (ny + 1)) i) / d
        = (lx / nx) * (ly / ny) * (lz / nz)) →
      (((brickIdx3 nx ny nz).map (hexRow (nx + 1) ((nx + 1) * (ny + 1)))).map fun r => on8 f P r / d).sum
        = lx * ly * lz := by
    intro f d hf
    rw [sum_map_const _ _ ((lx / nx) * (ly / ny) * (lz / nz)), List.length_map, brickIdx3_length,
      cells_mul_cellVolume nx ny nz h1 h2 h3]
    intro r hr
    obtain ⟨i, hi, rfl⟩ := List.mem_map.1 hr
    exact hf i hi
  refine ⟨key _ _ fun i hi => ?_, key _ _ fun i hi => ?_, key _ _ fun i hi => ?_⟩
  · simp only [P]; rw [brick_hex_value nx ny nz _ _ _ i hi]; ring
  · simp only [P]; rw [brick_hexC_value nx ny nz _ _ _ i hi]; ring
  · simp only [P]; rw [brick_hexG_value nx ny nz p _ _ _ i hi]; ring

/-- `brick_hex_sum` ("linear" mode) stated on the eight node indices of a cell instead of `on8 … (hexRow …)` -/
theorem brick_hex_sum_idx (nx ny nz : Nat) (h1 : 0 < nx) (h2 : 0 < ny) (h3 : 0 < nz) (lx ly lz : K) :
    let P := gridNode3 nx ny (lx / nx) (ly / ny) (lz / nz)
    let n_x := nx + 1
    let n_xy := (nx + 1) * (ny + 1)
    ((brickIdx3 nx ny nz).map fun i =>
      hexLin6 (P i) (P (i + 1)) (P (i + 1 + n_x)) (P (i + n_x)) (P (i + n_xy)) (P (i + n_xy + 1))
        (P (i + n_xy + 1 + n_x)) (P (i + n_xy + n_x))).sum = 6 * (lx * ly * lz) := by
  intro P n_x n_xy
  rw [sum_map_const _ _ (6 * ((lx / nx) * (ly / ny) * (lz / nz))), brickIdx3_length,
    ← cells_mul_cellVolume nx ny nz h1 h2 h3 lx ly lz]
  · ring
  · intro i hi
    exact brick_hex_value nx ny nz _ _ _ i hi

/-- **C11 tet sum**: the volumes `tet6/6` of all generated tets sum to `lx·ly·lz` -/
theorem brick_tet_sum (nx ny nz : Nat) (h1 : 0 < nx) (h2 : 0 < ny) (h3 : 0 < nz) (lx ly lz : K)
    (rows : List (List Nat)) (h : brickRows "tet" nx ny nz = some rows) :
    let P := gridNode3 nx ny (lx / nx) (ly / ny) (lz / nz)
    (rows.map fun r => on4 tet6 P r / 6).sum = lx * ly * lz := by
  have hlen := brick_count_tet nx ny nz rows h
  simp only [brickRows, Option.some.injEq] at h
  subst h
  intro P
  rw [sum_map_const _ _ ((lx / nx) * (ly / ny) * (lz / nz) / 6), hlen,
    ← cells_mul_cellVolume nx ny nz h1 h2 h3 lx ly lz]
  · push_cast; ring
  · intro r hr
    obtain ⟨i, hi, hr'⟩ := List.mem_flatMap.1 hr
    simp only [P]
    rw [brick_tet_value_row nx ny nz _ _ _ i hi r hr']

/-- area of a quad in "linear" mode when both doubled area vectors point in +z:
    `(c1.z + c2.z) / 2` -/
def quadAreaZ (p0 p1 p2 p3 : V3 K) : K :=
  ((quadLinCross1 p0 p1 p2 p3).z + (quadLinCross2 p0 p1 p2 p3).z) / 2

/-- area of a triangle whose doubled area vector points in +z -/
def triAreaZ (p0 p1 p2 : V3 K) : K := (triCross p0 p1 p2).z / 2

/-- **C11 quad sum**: the areas of all generated quads sum to `lx·ly` -/
theorem brick_quad_sum (nx ny nz : Nat) (h1 : 0 < nx) (h2 : 0 < ny) (lx ly zero : K)
    (rows : List (List Nat)) (h : brickRows "quad" nx ny nz = some rows) :
    let P := gridNode2 nx (lx / nx) (ly / ny) zero
    (rows.map fun r => on4 quadAreaZ P r).sum = lx * ly := by
  simp only [brickRows, Option.some.injEq] at h
  subst h
  intro P
  rw [sum_map_const _ _ ((lx / nx) * (ly / ny)), List.length_map, brickIdx2_length,
    cells_mul_cellArea nx ny h1 h2 lx ly]
  intro r hr
  obtain ⟨i, hi, rfl⟩ := List.mem_map.1 hr
  obtain ⟨q1, q2⟩ := brick_quad_value nx ny (lx / nx) (ly / ny) zero i hi
  simp only [P, quadRow, on4, quadAreaZ]
  rw [q1, q2]
  ring

/-- **C11 tri sum**: the areas of all generated triangles sum to `lx·ly` -/
theorem brick_tri_sum (nx ny nz : Nat) (h1 : 0 < nx) (h2 : 0 < ny) (lx ly zero : K)
    (rows : List (List Nat)) (h : brickRows "tri" nx ny nz = some rows) :
    let P := gridNode2 nx (lx / nx) (ly / ny) zero
    (rows.map fun r => on3 triAreaZ P r).sum = lx * ly := by
  have hlen := brick_count_tri nx ny nz rows h
  simp only [brickRows, Option.some.injEq] at h
  subst h
  intro P
  rw [sum_map_const _ _ ((lx / nx) * (ly / ny) / 2), hlen, ← cells_mul_cellArea nx ny h1 h2 lx ly]
  · push_cast; ring
  · intro r hr
    obtain ⟨i, hi, hr'⟩ := List.mem_flatMap.1 hr
    obtain ⟨t1, t2⟩ := brick_tri_value nx ny (lx / nx) (ly / ny) zero i hi
    simp only [triRows, List.mem_cons, List.not_mem_nil, or_false] at hr'
    rcases hr' with rfl | rfl
    · simp only [P, on3, triAreaZ]; rw [t1]
    · simp only [P, on3, triAreaZ]; rw [t2]

end Sum

end Femio.C11

open Femio.C11 in
#print axioms brick_count_hex
open Femio.C11 in
#print axioms brick_count_tet
open Femio.C11 in
#print axioms brick_count_quad
open Femio.C11 in
#print axioms brick_count_tri
open Femio.C11 in
#print axioms mem_brickIdx3
open Femio.C11 in
#print axioms mem_brickIdx2
open Femio.C11 in
#print axioms gridNode3_enc
open Femio.C11 in
#print axioms gridNode2_enc
open Femio.C11 in
#print axioms hexRow_enc
open Femio.C11 in
#print axioms cell_nodes
open Femio.C11 in
#print axioms brick_hex_value
open Femio.C11 in
#print axioms brick_hexC_value
open Femio.C11 in
#print axioms brick_hexG_value
open Femio.C11 in
#print axioms brick_tet_value_row
open Femio.C11 in
#print axioms brick_quad_value
open Femio.C11 in
#print axioms brick_tri_value
open Femio.C11 in
#print axioms brick_tri_value_row
open Femio.C11 in
#print axioms brick_hex_pos
open Femio.C11 in
#print axioms brick_tet_pos
open Femio.C11 in
#print axioms brick_hex_sum
open Femio.C11 in
#print axioms brick_hex_sum_idx
open Femio.C11 in
#print axioms brick_tet_sum
open Femio.C11 in
#print axioms brick_quad_sum
open Femio.C11 in
#print axioms brick_tri_sum

