import Femio.Lemmas.KernelProps
import Femio.Lemmas.KernelForms
import Mathlib.Algebra.Ring.MinimalAxioms
import Mathlib.Algebra.Ring.Rat
import Mathlib.Tactic.NormNum
/-! Lemmas for `Props/C11Modes.lean`: the polyhedron centroid kernel under a translation (`faceCentroidK_add`), the
  2×2×2 Gauss rule of the hex in closed form (`hexGauss512_closed`: affine in `g²`) and its value at `3g² = 1` against
  the centroid kernel (`gauss_exact_centroid`), and `ℚ(√3)`, a commutative ring that contains the exact abscissa. -/
open V3 Geom
namespace Femio.C11
variable {R : Type} [CommRing R]

theorem cycPairs_cons {α : Type} (a : α) (r : List α) :
    cycPairs (a :: r) = ((a :: r).getLast (List.cons_ne_nil a r), a) :: consecPairs (a :: r) := by
  unfold cycPairs consecPairs
  rw [List.getLast?_eq_some_getLast (List.cons_ne_nil a r)]
  exact zip_dropLast _ _

/-- telescoping along a path -/
theorem sum_consecPairs_sub {α : Type} (χ : α → R) (b : α) (r : List α) :
    ((consecPairs (b :: r)).map fun p => χ p.1 - χ p.2).sum
      = χ b - χ ((b :: r).getLast (List.cons_ne_nil b r)) := by
  induction r generalizing b with
  | nil => simp [consecPairs]
  | cons c r ih =>
    have h := ih c
    simp only [consecPairs, List.tail_cons, List.zip_cons_cons, List.map_cons, List.sum_cons] at h ⊢
    rw [List.getLast_cons_cons]
    rw [h]; ring

/-- … and around a cycle: every element is once a first and once a second component -/
theorem sum_cycPairs_sub {α : Type} (χ : α → R) (l : List α) :
    ((cycPairs l).map fun p => χ p.1 - χ p.2).sum = 0 := by
  cases l with
  | nil => simp [cycPairs]
  | cons a r =>
    rw [cycPairs_cons, List.map_cons, List.sum_cons, sum_consecPairs_sub]; ring

theorem dot_vsum_map {α : Type} (t : V3 R) (h : α → V3 R) (l : List α) :
    dot t (vsum (l.map h)) = (l.map fun x => dot t (h x)).sum := by
  induction l with
  | nil => simp [vsum, dot_vzero]
  | cons a r ih => simp only [List.map_cons, List.sum_cons, vsum_cons, dot_add, ih]

theorem dot_triCross (t a b c : V3 R) :
    dot t (triCross a b c) = V3.det t b c + (V3.det t a b - V3.det t a c) := by
  simp only [V3.det, V3.dot, triCross, V3.cross, V3.sub]; ring

/-- the cyclic sum of `u × v` over a polygon is its fan area vector (dotted with any `t`) -/
theorem sum_cycPairs_det (t : V3 R) (l : List (V3 R)) :
    ((cycPairs l).map fun p => V3.det t p.1 p.2).sum = dot t (polyFanCross l) := by
  cases l with
  | nil => simp [cycPairs, polyFanCross, dot_vzero]
  | cons a rest =>
    rw [cycPairs_cons]
    simp only [polyFanCross, dot_vsum_map, dot_triCross]
    rw [List.sum_map_add]
    cases rest with
    | nil => simp [consecPairs, det_self_right]
    | cons b r =>
      rw [sum_consecPairs_sub (fun x => V3.det t a x) b r]
      simp only [List.map_cons, List.sum_cons, consecPairs, List.tail_cons, List.zip_cons_cons,
        List.getLast_cons_cons]
      rw [det_swap t a ((b :: r).getLast (List.cons_ne_nil b r))]
      ring

/-- one pair of one face: terms with two `t`s vanish -/
theorem det_shift (k : R) (s t u v : V3 R) :
    V3.det (V3.add s (smul k t)) (V3.add u t) (V3.add v t)
      = V3.det s u v + (V3.det s u t - V3.det s v t) + k * V3.det t u v := by
  simp only [V3.det, V3.add, V3.smul]; ring

/-- a face of `k` nodes contributes `k · t · (its doubled fan area vector)` -/
theorem faceCentroidK_add (t : V3 R) (f : List (V3 R)) :
    faceCentroidK (f.map (V3.add · t)) = faceCentroidK f + (f.length : R) * dot t (polyFanCross f) := by
  simp only [faceCentroidK, cycPairs_map, List.map_map, vsum_map_add]
  rw [List.map_congr_left (g := fun p => V3.det (vsum f) p.1 p.2
        + (V3.det (vsum f) p.1 t - V3.det (vsum f) p.2 t) + (f.length : R) * V3.det t p.1 p.2)
      fun p _ => det_shift (f.length : R) (vsum f) t p.1 p.2,
    List.sum_map_add, List.sum_map_add, sum_cycPairs_sub (fun x => V3.det (vsum f) x t),
    sum_map_eq_mul (g := fun p : V3 R × V3 R => V3.det t p.1 p.2) fun _ _ => rfl, sum_cycPairs_det t f]
  ring

/-- a face list whose fan volume is translation invariant is closed: its fan area vectors sum to zero
    (`polyFan6_add` with `t` the three unit vectors) -/
theorem closed_of_polyFan6_translate (faces : List (List (V3 R)))
    (h : ∀ t, polyFan6 (faces.map (·.map (V3.add · t))) = polyFan6 faces) :
    vsum (faces.map polyFanCross) = vzero := by
  have h0 : ∀ t, dot t (vsum (faces.map polyFanCross)) = 0 := fun t =>
    left_eq_add.mp ((h t).symm.trans (polyFan6_add t faces))
  generalize vsum (faces.map polyFanCross) = v at h0
  have hx := h0 ⟨1, 0, 0⟩
  have hy := h0 ⟨0, 1, 0⟩
  have hz := h0 ⟨0, 0, 1⟩
  simp only [V3.dot, one_mul, zero_mul, add_zero, zero_add] at hx hy hz
  cases v
  simp only [vzero, V3.mk.injEq]
  exact ⟨hx, hy, hz⟩

/-! ### the 2×2×2 Gauss rule: trilinear coefficient vectors

  `8·x(ξ,η,ζ) = m + ξ·mx + η·my + ζ·mz + ξη·mxy + ξζ·mxz + ηζ·myz + ξηζ·w`; the three Jacobian columns the kernel forms are
  `∂ξ, ∂η, ∂ζ` of this (times 8), so they share the mixed coefficients — which is why the `g⁴` and `g⁶` terms of the rule
  cancel and the rule is affine in `g²`. -/

def aff (a : V3 R) (s : R) (b : V3 R) : V3 R := V3.add a (smul s b)

/-- `Σ ε_i q_i` for the sign patterns that occur, written as (sum of the `+` nodes) − (sum of the `−` nodes) -/
def pm (a b c d e f g h : V3 R) : V3 R := V3.sub (V3.add (V3.add a b) (V3.add c d)) (V3.add (V3.add e f) (V3.add g h))

theorem det6_aff_left (a b y z : V3 R) (s : R) : det6 (aff a s b) y z = det6 a y z + s * det6 b y z := by
  simp only [det6, aff, V3.add, V3.smul]; ring
theorem det6_aff_mid (x a b z : V3 R) (s : R) : det6 x (aff a s b) z = det6 x a z + s * det6 x b z := by
  simp only [det6, aff, V3.add, V3.smul]; ring
theorem det6_aff_right (x y a b : V3 R) (s : R) : det6 x y (aff a s b) = det6 x y a + s * det6 x y b := by
  simp only [det6, aff, V3.add, V3.smul]; ring
theorem det6_self_left (a c : V3 R) : det6 a a c = 0 := by simp only [det6]; ring
theorem det6_self_right (a b : V3 R) : det6 a b b = 0 := by simp only [det6]; ring
theorem det6_self_outer (a b : V3 R) : det6 a b a = 0 := by simp only [det6]; ring

macro "v3_ring" : tactic => `(tactic| (simp only [aff, pm, V3.add, V3.sub, V3.smul]; congr 1 <;> ring))

/- The coefficient vectors are listed so that the rotation `1 → 3 → 4`, `2 → 7 → 5` of the hex about its diagonal
   `0–6` (which maps `ξ → η → ζ`) permutes them: `mx → my → mz` and `mxy → myz → mxz`, argument by argument. -/

theorem j0form (u v : R) (q0 q1 q2 q3 q4 q5 q6 q7 : V3 R) :
    V3.add (V3.add (smul ((1 - u) * (1 - v)) (V3.sub q1 q0)) (smul ((1 - u) * (1 + v)) (V3.sub q5 q4)))
        (V3.add (smul ((1 + u) * (1 - v)) (V3.sub q2 q3)) (smul ((1 + u) * (1 + v)) (V3.sub q6 q7)))
      = aff (aff (pm q5 q1 q2 q6 q4 q7 q3 q0) v (pm q0 q5 q3 q6 q4 q1 q7 q2)) u
          (aff (pm q0 q2 q4 q6 q1 q3 q5 q7) v (pm q1 q3 q4 q6 q0 q2 q5 q7)) := by
  v3_ring

theorem j1form (u v : R) (q0 q1 q2 q3 q4 q5 q6 q7 : V3 R) :
    V3.add (V3.add (smul ((1 - u) * (1 - v)) (V3.sub q3 q0)) (smul ((1 - u) * (1 + v)) (V3.sub q7 q4)))
        (V3.add (smul ((1 + u) * (1 - v)) (V3.sub q2 q1)) (smul ((1 + u) * (1 + v)) (V3.sub q6 q5)))
      = aff (aff (pm q2 q3 q7 q6 q1 q5 q4 q0) v (pm q0 q7 q1 q6 q3 q4 q2 q5)) u
          (aff (pm q0 q2 q4 q6 q1 q3 q5 q7) v (pm q1 q3 q4 q6 q0 q2 q5 q7)) := by
  v3_ring

theorem j2form (u v : R) (q0 q1 q2 q3 q4 q5 q6 q7 : V3 R) :
    V3.add (V3.add (smul ((1 - u) * (1 - v)) (V3.sub q4 q0)) (smul ((1 - u) * (1 + v)) (V3.sub q7 q3)))
        (V3.add (smul ((1 + u) * (1 - v)) (V3.sub q5 q1)) (smul ((1 + u) * (1 + v)) (V3.sub q6 q2)))
      = aff (aff (pm q7 q4 q5 q6 q3 q2 q1 q0) v (pm q0 q7 q1 q6 q3 q4 q2 q5)) u
          (aff (pm q0 q5 q3 q6 q4 q1 q7 q2) v (pm q1 q3 q4 q6 q0 q2 q5 q7)) := by
  v3_ring

/-- the integrand of the rule at `(ξ,η,ζ)` in terms of the coefficient vectors -/
def gaussJ (mx my mz mxy mxz myz w : V3 R) (xi eta zeta : R) : R :=
  det6 (aff (aff mx zeta mxz) eta (aff mxy zeta w)) (aff (aff my zeta myz) xi (aff mxy zeta w))
    (aff (aff mz eta myz) xi (aff mxz eta w))

/-- the two points `ξ = ±g`: the integrand is quadratic in `ξ`, so the linear term drops out -/
theorem gaussJ_two_point (g eta zeta : R) (mx my mz mxy mxz myz w : V3 R) :
    gaussJ mx my mz mxy mxz myz w (-g) eta zeta + gaussJ mx my mz mxy mxz myz w g eta zeta
      = 2 * det6 (aff (aff mx zeta mxz) eta (aff mxy zeta w)) (aff my zeta myz) (aff mz eta myz)
        + 2 * (g * g) * det6 (aff (aff mx zeta mxz) eta (aff mxy zeta w)) (aff mxy zeta w) (aff mxz eta w) := by
  simp only [gaussJ, det6_aff_mid, det6_aff_right]; ring

/-- summed over the eight points `(±g, ±g, ±g)`: first over `ξ`; the rest expanded by multilinearity, where the odd powers
    of `η`, `ζ` cancel and the terms with `g⁴`, `g⁶` have a repeated argument, so only the constant and the `g²` terms survive -/
theorem gaussJ_sum (g : R) (mx my mz mxy mxz myz w : V3 R) :
    gaussJ mx my mz mxy mxz myz w (-g) (-g) (-g) + gaussJ mx my mz mxy mxz myz w (-g) (-g) g
      + gaussJ mx my mz mxy mxz myz w (-g) g (-g) + gaussJ mx my mz mxy mxz myz w (-g) g g
      + gaussJ mx my mz mxy mxz myz w g (-g) (-g) + gaussJ mx my mz mxy mxz myz w g (-g) g
      + gaussJ mx my mz mxy mxz myz w g g (-g) + gaussJ mx my mz mxy mxz myz w g g g
    = 8 * det6 mx my mz + 8 * (g * g) * (det6 mx mxy mxz + det6 mxy my myz + det6 mxz myz mz) := by
  have h := fun eta zeta => gaussJ_two_point g eta zeta mx my mz mxy mxz myz w
  have e1 := h (-g) (-g)
  have e2 := h (-g) g
  have e3 := h g (-g)
  have e4 := h g g
  simp only [det6_aff_left, det6_aff_mid, det6_aff_right, det6_self_left, det6_self_right, det6_self_outer] at e1 e2 e3 e4
  linear_combination e1 + e2 + e3 + e4

/-- the rule in closed form: `8·det(mx,my,mz) + 8g²·(…)` -/
theorem hexGauss512_closed (g : R) (q0 q1 q2 q3 q4 q5 q6 q7 : V3 R) :
    hexGauss512 1 g q0 q1 q2 q3 q4 q5 q6 q7 =
      8 * det6 (pm q5 q1 q2 q6 q4 q7 q3 q0) (pm q2 q3 q7 q6 q1 q5 q4 q0) (pm q7 q4 q5 q6 q3 q2 q1 q0)
      + 8 * (g * g) * (det6 (pm q5 q1 q2 q6 q4 q7 q3 q0) (pm q0 q2 q4 q6 q1 q3 q5 q7) (pm q0 q5 q3 q6 q4 q1 q7 q2)
        + det6 (pm q0 q2 q4 q6 q1 q3 q5 q7) (pm q2 q3 q7 q6 q1 q5 q4 q0) (pm q0 q7 q1 q6 q3 q4 q2 q5)
        + det6 (pm q0 q5 q3 q6 q4 q1 q7 q2) (pm q0 q7 q1 q6 q3 q4 q2 q5) (pm q7 q4 q5 q6 q3 q2 q1 q0)) := by
  rw [← gaussJ_sum g _ _ _ _ _ _ (pm q1 q3 q4 q6 q0 q2 q5 q7)]
  have hm : (1 - 1 : R) - g = -g := by ring
  -- the three column forms are instances of one pattern: each is used at its own nodes only
  simp only [hexGauss512, hm, fun u v : R => j0form u v q0 q1 q2 q3 q4 q5 q6 q7,
    fun u v : R => j1form u v q0 q1 q2 q3 q4 q5 q6 q7, fun u v : R => j2form u v q0 q1 q2 q3 q4 q5 q6 q7, gaussJ, det6]

theorem quadC4_eq_det6 (a b c d : V3 R) :
    2 * quadC4 a b c d = det6 (V3.add (V3.add a b) (V3.add c d)) (V3.sub (V3.add c d) (V3.add a b))
      (V3.sub (V3.add a d) (V3.add b c)) := by
  simp only [quadC4, det6, V3.det, V3.add, V3.sub]; ring

theorem det6_opposite {s₁ b₁ c₁ s₀ b₀ c₀ m mu mv mw muv muw : V3 R}
    (hm : V3.add s₁ s₀ = m) (hu : V3.sub s₁ s₀ = mu) (hv : V3.sub b₁ c₀ = mv) (huv : V3.add b₁ c₀ = muv)
    (hw : V3.sub c₁ b₀ = mw) (huw : V3.add c₁ b₀ = muw) :
    4 * det6 s₁ b₁ c₁ + 4 * det6 s₀ b₀ c₀
      = det6 mu mv mw + det6 m muv mw + det6 m mv muw + det6 mu muv muw := by
  subst hm hu hv huv hw huw
  simp only [det6, V3.add, V3.sub]; ring

/-- the faces `ξ = ±1` of the hex `a0 … a7` in the coefficient vectors (`m` is the sum of all nodes) -/
theorem hexC24_pair (a0 a1 a2 a3 a4 a5 a6 a7 m : V3 R)
    (hm : V3.add (V3.add (V3.add a5 a1) (V3.add a2 a6)) (V3.add (V3.add a4 a7) (V3.add a3 a0)) = m) :
    8 * quadC4 a5 a1 a2 a6 + 8 * quadC4 a4 a7 a3 a0
      = det6 (pm a5 a1 a2 a6 a4 a7 a3 a0) (pm a2 a3 a7 a6 a1 a5 a4 a0) (pm a7 a4 a5 a6 a3 a2 a1 a0)
        + det6 m (pm a0 a2 a4 a6 a1 a3 a5 a7) (pm a7 a4 a5 a6 a3 a2 a1 a0)
        + det6 m (pm a2 a3 a7 a6 a1 a5 a4 a0) (pm a0 a5 a3 a6 a4 a1 a7 a2)
        + det6 (pm a5 a1 a2 a6 a4 a7 a3 a0) (pm a0 a2 a4 a6 a1 a3 a5 a7) (pm a0 a5 a3 a6 a4 a1 a7 a2) := by
  have hv : V3.sub (V3.sub (V3.add a2 a6) (V3.add a5 a1)) (V3.sub (V3.add a4 a0) (V3.add a7 a3))
      = pm a2 a3 a7 a6 a1 a5 a4 a0 := by v3_ring
  have huv : V3.add (V3.sub (V3.add a2 a6) (V3.add a5 a1)) (V3.sub (V3.add a4 a0) (V3.add a7 a3))
      = pm a0 a2 a4 a6 a1 a3 a5 a7 := by v3_ring
  have hw : V3.sub (V3.sub (V3.add a5 a6) (V3.add a1 a2)) (V3.sub (V3.add a3 a0) (V3.add a4 a7))
      = pm a7 a4 a5 a6 a3 a2 a1 a0 := by v3_ring
  have huw : V3.add (V3.sub (V3.add a5 a6) (V3.add a1 a2)) (V3.sub (V3.add a3 a0) (V3.add a4 a7))
      = pm a0 a5 a3 a6 a4 a1 a7 a2 := by v3_ring
  linear_combination 4 * quadC4_eq_det6 a5 a1 a2 a6 + 4 * quadC4_eq_det6 a4 a7 a3 a0
    + det6_opposite hm (show V3.sub _ _ = pm a5 a1 a2 a6 a4 a7 a3 a0 from rfl) hv huv hw huw

/-- exact integration (`g² = 1/3`): `8·(centroid kernel) = 3·det + (…)`.  The faces `η = ±1`, `ζ = ±1` are the faces
    `ξ = ±1` of the hex relabelled by the rotation about `0–6`; the terms with `m` cancel between the three pairs. -/
theorem gauss_exact_centroid (q0 q1 q2 q3 q4 q5 q6 q7 : V3 R) :
    8 * hexC24 q0 q1 q2 q3 q4 q5 q6 q7
      = 3 * det6 (pm q5 q1 q2 q6 q4 q7 q3 q0) (pm q2 q3 q7 q6 q1 q5 q4 q0) (pm q7 q4 q5 q6 q3 q2 q1 q0)
      + (det6 (pm q5 q1 q2 q6 q4 q7 q3 q0) (pm q0 q2 q4 q6 q1 q3 q5 q7) (pm q0 q5 q3 q6 q4 q1 q7 q2)
        + det6 (pm q0 q2 q4 q6 q1 q3 q5 q7) (pm q2 q3 q7 q6 q1 q5 q4 q0) (pm q0 q7 q1 q6 q3 q4 q2 q5)
        + det6 (pm q0 q5 q3 q6 q4 q1 q7 q2) (pm q0 q7 q1 q6 q3 q4 q2 q5) (pm q7 q4 q5 q6 q3 q2 q1 q0)) := by
  have hξ := hexC24_pair q0 q1 q2 q3 q4 q5 q6 q7 _ rfl
  have hη := hexC24_pair q0 q3 q7 q4 q1 q2 q6 q5
    (V3.add (V3.add (V3.add q5 q1) (V3.add q2 q6)) (V3.add (V3.add q4 q7) (V3.add q3 q0))) (by v3_ring)
  have hζ := hexC24_pair q0 q4 q5 q1 q3 q7 q6 q2
    (V3.add (V3.add (V3.add q5 q1) (V3.add q2 q6)) (V3.add (V3.add q4 q7) (V3.add q3 q0))) (by v3_ring)
  simp only [det6] at hξ hη hζ
  simp only [det6, hexC24]
  linear_combination hξ + hη + hζ + 8 * quadC4_rot q1 q5 q4 q0 - 8 * quadC4_rot q6 q7 q4 q5

/-! ### a commutative ring that contains the exact Gauss abscissa: `ℚ(√3)`, elements `a + b·√3`

  (used for the non-vacuity examples of the theorems with the hypothesis `3·g·g = 1`; `g = √3/3 = ⟨0, 1/3⟩`) -/

@[ext] structure QS3 where
  a : Rat
  b : Rat

namespace QS3
instance : Zero QS3 := ⟨⟨0, 0⟩⟩
instance : One QS3 := ⟨⟨1, 0⟩⟩
instance : Add QS3 := ⟨fun x y => ⟨x.a + y.a, x.b + y.b⟩⟩
instance : Neg QS3 := ⟨fun x => ⟨-x.a, -x.b⟩⟩
instance : Mul QS3 := ⟨fun x y => ⟨x.a * y.a + 3 * x.b * y.b, x.a * y.b + x.b * y.a⟩⟩
@[simp] theorem zero_a : (0 : QS3).a = 0 := rfl
@[simp] theorem zero_b : (0 : QS3).b = 0 := rfl
@[simp] theorem one_a : (1 : QS3).a = 1 := rfl
@[simp] theorem one_b : (1 : QS3).b = 0 := rfl
@[simp] theorem add_a (x y : QS3) : (x + y).a = x.a + y.a := rfl
@[simp] theorem add_b (x y : QS3) : (x + y).b = x.b + y.b := rfl
@[simp] theorem neg_a (x : QS3) : (-x).a = -x.a := rfl
@[simp] theorem neg_b (x : QS3) : (-x).b = -x.b := rfl
@[simp] theorem mul_a (x y : QS3) : (x * y).a = x.a * y.a + 3 * x.b * y.b := rfl
@[simp] theorem mul_b (x y : QS3) : (x * y).b = x.a * y.b + x.b * y.a := rfl

instance : CommRing QS3 :=
  CommRing.ofMinimalAxioms
    (by intro x y z; ext <;> simp only [add_a, add_b] <;> ring)
    (by intro x; ext <;> simp only [add_a, add_b, zero_a, zero_b] <;> ring)
    (by intro x; ext <;> simp only [add_a, add_b, neg_a, neg_b, zero_a, zero_b] <;> ring)
    (by intro x y z; ext <;> simp only [mul_a, mul_b] <;> ring)
    (by intro x y; ext <;> simp only [mul_a, mul_b] <;> ring)
    (by intro x; ext <;> simp only [mul_a, mul_b, one_a, one_b] <;> ring)
    (by intro x y z; ext <;> simp only [mul_a, mul_b, add_a, add_b] <;> ring)

/-- `√3/3` -/
def gauss : QS3 := ⟨0, 1 / 3⟩

theorem three_gauss_sq : 3 * gauss * gauss = 1 := by
  have h3 : (3 : QS3) = 1 + 1 + 1 := by norm_num
  rw [h3]
  ext <;> simp only [mul_a, mul_b, add_a, add_b, one_a, one_b, gauss] <;> norm_num

end QS3

end Femio.C11
