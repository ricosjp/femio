import Femio.Lemmas.GeomProps

open V3 Geom
variable {R : Type} [Field R] [CharZero R]

/-- outward doubled area vector of the tet face opposite to vertex k, in femio's face table order -/
def S0 (p0 p1 p2 p3 : V3 R) : V3 R := triCross p1 p2 p3   -- face [1,2,3]
def S3 (p0 p1 p2 p3 : V3 R) : V3 R := triCross p0 p2 p1   -- face [0,2,1]
def S2 (p0 p1 p2 p3 : V3 R) : V3 R := triCross p0 p1 p3   -- face [0,1,3]
def S1 (p0 p1 p2 p3 : V3 R) : V3 R := triCross p0 p3 p2   -- face [0,3,2]

/-- **C12_area_sum_zero** (tet): outward area vectors of a cell sum to zero -/
theorem tet_area_sum_zero (p0 p1 p2 p3 : V3 R) :
    add (add (S0 p0 p1 p2 p3) (S1 p0 p1 p2 p3)) (add (S2 p0 p1 p2 p3) (S3 p0 p1 p2 p3)) = ⟨0, 0, 0⟩ := by
  simp only [S0, S1, S2, S3, triCross, V3.cross, V3.sub, V3.add]
  congr 1 <;> ring

/-- **C12_tet_sign**: (face centroid − cell centroid)·(outward doubled area vector) = (1/2)·(6V)·(1/4)·…;
    stated without division: 12·(f − g)·S = 3·tet6 — so the sign the code computes is the sign of the volume -/
theorem tet_sign_face3 (p0 p1 p2 p3 : V3 R) :
    dot (sub (smul 4 (add (add p0 p2) p1)) (smul 3 (add (add p0 p1) (add p2 p3)))) (S3 p0 p1 p2 p3)
      = 3 * tet6 p0 p1 p2 p3 := by
  simp only [S3, triCross, tet6, V3.cross, V3.sub, V3.add, V3.smul, V3.dot, V3.det]
  ring

/-- **C12_divergence** (tet): Σ_f (S_f · c_f) with c_f the face centroid equals 6V·… (doubled vectors, tripled centroids) -/
theorem tet_divergence (p0 p1 p2 p3 : V3 R) :
    dot (S0 p0 p1 p2 p3) (add (add p1 p2) p3) + dot (S1 p0 p1 p2 p3) (add (add p0 p3) p2)
    + dot (S2 p0 p1 p2 p3) (add (add p0 p1) p3) + dot (S3 p0 p1 p2 p3) (add (add p0 p2) p1)
      = 3 * tet6 p0 p1 p2 p3 := by
  simp only [S0, S1, S2, S3, triCross_dot_sum, tet6, det_sub_eq]; ring

/-- planar quad face: centroid-fan area vector dotted with (centroid − a) is a multiple of the planarity determinant -/
theorem quad_planar (a b c d : V3 R) (hpl : det (sub b a) (sub c a) (sub d a) = 0) :
    dot (cross (sub c a) (sub d b)) (sub (add (add a b) (add c d)) (smul 4 a)) = 0 := by
  rw [(quad_mean_plane a b c d).1, hpl, mul_zero]
