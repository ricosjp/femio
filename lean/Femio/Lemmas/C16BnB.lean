import Mathlib.Data.List.Sort
import Mathlib.Data.List.Perm.Basic

/-! Abstract, order-independent branch-and-bound for k-nearest search (C16): a transition system on a queue of
    subtrees (a multiset) and a bounded result heap, with steps skip / drop / expand / scan / reorder. Every step keeps
    `SInv` (`step_inv`), and `SInv` with an empty queue says that the heap holds the best `k` of all points
    (`final_best`). -/
namespace Femio.C16

variable {α : Type} [LinearOrder α]

/-- model of `heapq.heappushpop(res_q, x)` on a result heap of capacity `k`, kept as a sorted list -/
def ins (k : ℕ) (x : α) (r : List α) : List α := (r.orderedInsert (· ≤ ·) x).take k

/-- `r` is a list of the `k` smallest elements of `S`, ascending -/
structure IsBest (k : ℕ) (S r : List α) : Prop where
  sorted : r.Pairwise (· ≤ ·)
  len : r.length = min k S.length
  split : ∃ rest, S.Perm (r ++ rest) ∧ ∀ x ∈ rest, ∀ y ∈ r, y ≤ x

theorem isBest_nil (k : ℕ) : IsBest k ([] : List α) [] :=
  ⟨List.Pairwise.nil, by simp, ⟨[], by simp, by simp⟩⟩

theorem isBest_perm {k : ℕ} {S S' r : List α} (h : IsBest k S r) (hp : S.Perm S') : IsBest k S' r := by
  obtain ⟨hs, hl, rest, hperm, hrest⟩ := h
  exact ⟨hs, by rw [hl, hp.length_eq], rest, hp.symm.trans hperm, hrest⟩

theorem isBest_one {S r : List α} (h : IsBest 1 S r) (hS : S ≠ []) :
    ∃ x, r = [x] ∧ x ∈ S ∧ ∀ y ∈ S, x ≤ y := by
  obtain ⟨_, hl, rest, hperm, hrest⟩ := h
  obtain ⟨x, rfl⟩ := List.length_eq_one_iff.mp (hl.trans (min_eq_left (List.length_pos_iff.mpr hS)))
  refine ⟨x, rfl, hperm.symm.subset List.mem_cons_self, fun y hy => ?_⟩
  rcases List.mem_cons.mp (hperm.subset hy) with rfl | hy
  · exact le_refl _
  · exact hrest y hy x List.mem_cons_self

theorem sorted_take_le_drop {l : List α} (h : l.Pairwise (· ≤ ·)) (n : ℕ) :
    ∀ y ∈ l.take n, ∀ z ∈ l.drop n, y ≤ z := by
  have h' : (l.take n ++ l.drop n).Pairwise (· ≤ ·) := by rwa [List.take_append_drop]
  exact (List.pairwise_append.mp h').2.2

theorem le_of_getLast? {l : List α} (hs : l.Pairwise (· ≤ ·)) {m : α} (hm : l.getLast? = some m) :
    ∀ y ∈ l, y ≤ m := by
  obtain ⟨ys, rfl⟩ := List.getLast?_eq_some_iff.mp hm
  intro y hy
  rcases List.mem_append.mp hy with hy | hy
  · exact (List.pairwise_append.mp hs).2.2 y hy m (List.mem_singleton_self m)
  · exact le_of_eq (List.mem_singleton.mp hy)

theorem ins_best {k : ℕ} {S r : List α} {x : α} (h : IsBest k S r) : IsBest k (x :: S) (ins k x r) := by
  obtain ⟨hs, hl, rest, hperm, hrest⟩ := h
  set oi := r.orderedInsert (· ≤ ·) x with hoi
  have hsoi : oi.Pairwise (· ≤ ·) := List.Pairwise.orderedInsert x r hs
  have hpoi : oi.Perm (x :: r) := List.perm_orderedInsert (· ≤ ·) x r
  have hloi : oi.length = r.length + 1 := hpoi.length_eq
  have hSlen : S.length = r.length + rest.length := by rw [hperm.length_eq, List.length_append]
  refine ⟨hsoi.sublist (List.take_sublist k oi), ?_, oi.drop k ++ rest, ?_, ?_⟩
  · show (oi.take k).length = _
    rw [List.length_take, hloi, List.length_cons, hl]
    rcases le_total k S.length with hk | hk
    · rw [min_eq_left hk, min_eq_left (Nat.le_succ k), min_eq_left (Nat.le_succ_of_le hk)]
    · rw [min_eq_right hk]
  · calc (x :: S).Perm (x :: (r ++ rest)) := hperm.cons x
      _ = (x :: r) ++ rest := rfl
      _ |>.Perm (oi ++ rest) := hpoi.symm.append_right rest
      _ = (oi.take k ++ oi.drop k) ++ rest := by rw [List.take_append_drop]
      _ = ins k x r ++ (oi.drop k ++ rest) := List.append_assoc _ _ _
  · intro z hz y hy
    rcases List.mem_append.mp hz with hzd | hzr
    · exact sorted_take_le_drop hsoi k y hy z hzd
    · -- `rest` is not empty, so `r` is full and exactly one element `m` of `oi` is dropped
      have hrk : r.length = k := by
        have := List.length_pos_of_mem hzr
        omega
      obtain ⟨m, hm⟩ := List.length_eq_one_iff.mp (show (oi.drop k).length = 1 by rw [List.length_drop, hloi, hrk]; omega)
      have hmd : m ∈ oi.drop k := hm ▸ List.mem_singleton_self m
      rcases List.mem_cons.mp (hpoi.subset (List.mem_of_mem_drop hmd)) with rfl | hmr
      · -- the inserted element is the one dropped: the kept ones are those of `r`
        have hp : (oi.take k ++ [m]).Perm (m :: r) := by rw [← hm, List.take_append_drop]; exact hpoi
        exact hrest z hzr y (((List.perm_cons m).mp ((List.perm_append_singleton m _).symm.trans hp)).subset hy)
      · exact le_trans (sorted_take_le_drop hsoi k y hy m hmd) (hrest z hzr m hmr)

theorem foldl_ins_best {k : ℕ} (pts : List α) {S r : List α} (h : IsBest k S r) :
    IsBest k (pts.reverse ++ S) (pts.foldl (fun r x => ins k x r) r) := by
  induction pts generalizing S r with
  | nil => simpa using h
  | cons p ps ih =>
    have := ih (ins_best (x := p) h)
    simpa [List.foldl_cons, List.reverse_cons, List.append_assoc] using this

/-- if at least `k` elements of `S` are `≤ x`, every element of a best-`k` list of `S` is `≤ x` -/
theorem best_le_of_many {k : ℕ} {S r : List α} (h : IsBest k S r) {x : α}
    (hx : k ≤ (S.filter (fun s => decide (s ≤ x))).length) : ∀ y ∈ r, y ≤ x := by
  obtain ⟨_, hl, rest, hperm, hrest⟩ := h
  intro y hy
  by_contra hlt
  rw [not_le] at hlt
  -- nothing in `rest` is `≤ x`, and `y ∈ r` is not: fewer than `r.length ≤ k` elements of `S` pass the filter
  have hrest0 : rest.filter (fun s => decide (s ≤ x)) = [] :=
    List.filter_eq_nil_iff.mpr fun z hz => by simpa using lt_of_lt_of_le hlt (hrest z hz y hy)
  have hlt' : (r.filter (fun s => decide (s ≤ x))).length < r.length :=
    List.length_filter_lt_length_iff_exists.mpr ⟨y, hy, by simpa using hlt⟩
  rw [(hperm.filter _).length_eq, List.filter_append, hrest0, List.append_nil] at hx
  exact absurd (Nat.lt_of_le_of_lt hx hlt') (Nat.not_lt.mpr (hl ▸ Nat.min_le_left k S.length))

/-! ### the search as a nondeterministic transition system over an abstract tree type -/

structure SearchTree (T α : Type) where
  pts : T → List α
  children : T → Option (List T)
  children_pts : ∀ t cs, children t = some cs → (pts t).Perm (cs.flatMap pts)

structure St (T α : Type) where
  queue : List T
  res : List α
  seen : List α      -- ghost
  disc : List α      -- ghost: points under skipped subtrees

variable {T : Type}

inductive Step (tr : SearchTree T α) (k : ℕ) : St T α → St T α → Prop
  /-- prune: the result heap is full and nothing under `t` beats its worst entry -/
  | skip (t : T) (q : List T) (res seen disc : List α)
      (hfull : res.length = k) (hlb : ∀ x ∈ tr.pts t, ∀ y ∈ res, y ≤ x) :
      Step tr k ⟨t :: q, res, seen, disc⟩ ⟨q, res, seen, tr.pts t ++ disc⟩
  | expand (t : T) (cs q : List T) (res seen disc : List α) (h : tr.children t = some cs) :
      Step tr k ⟨t :: q, res, seen, disc⟩ ⟨cs ++ q, res, seen, disc⟩
  | scan (t : T) (q : List T) (res seen disc : List α) (h : tr.children t = none) :
      Step tr k ⟨t :: q, res, seen, disc⟩
        ⟨q, (tr.pts t).foldl (fun r x => ins k x r) res, (tr.pts t).reverse ++ seen, disc⟩
  /-- drop: nothing admissible lies under `t` (`lb > distance_upper_bound`) -/
  | drop (t : T) (q : List T) (res seen disc : List α) (h : tr.pts t = []) :
      Step tr k ⟨t :: q, res, seen, disc⟩ ⟨q, res, seen, disc⟩
  /-- the queue is a multiset: any element may be popped next -/
  | reorder (q q' : List T) (res seen disc : List α) (h : q.Perm q') :
      Step tr k ⟨q, res, seen, disc⟩ ⟨q', res, seen, disc⟩

/-- `all` is split, as a multiset, into the points seen, the points discarded with a skipped subtree and the points
    still under the queue; the heap holds the best `k` of the points seen; and every discarded point has at least `k`
    seen points `≤` it, so it is not needed among the best `k` of `all`. -/
structure SInv (tr : SearchTree T α) (k : ℕ) (all : List α) (s : St T α) : Prop where
  cover : all.Perm (s.seen ++ s.disc ++ s.queue.flatMap tr.pts)
  best : IsBest k s.seen s.res
  disc : ∀ x ∈ s.disc, k ≤ (s.seen.filter (fun z => decide (z ≤ x))).length

theorem many_of_full {k : ℕ} {S r : List α} (h : IsBest k S r) (hfull : r.length = k) {x : α}
    (hx : ∀ y ∈ r, y ≤ x) : k ≤ (S.filter (fun z => decide (z ≤ x))).length := by
  obtain ⟨_, _, rest, hperm, _⟩ := h
  rw [(hperm.filter _).length_eq, List.filter_append, List.length_append]
  rw [List.filter_eq_self.mpr fun y hy => decide_eq_true (hx y hy), hfull]
  exact Nat.le_add_right _ _

theorem step_inv {tr : SearchTree T α} {k : ℕ} {all : List α} {s s' : St T α}
    (hI : SInv tr k all s) (hs : Step tr k s s') : SInv tr k all s' := by
  cases hs with
  | skip t q res seen disc hfull hlb =>
    obtain ⟨hc, hb, hd⟩ := hI
    refine ⟨?_, hb, ?_⟩
    · simp only [List.flatMap_cons] at hc ⊢
      refine hc.trans ?_
      -- seen ++ disc ++ (pts t ++ rest) ~ seen ++ (pts t ++ disc) ++ rest
      simp only [List.append_assoc]
      apply List.Perm.append_left
      rw [← List.append_assoc, ← List.append_assoc]
      exact List.Perm.append_right _ List.perm_append_comm
    · intro x hx
      rcases List.mem_append.mp hx with hx | hx
      · exact many_of_full hb hfull (fun y hy => hlb x hx y hy)
      · exact hd x hx
  | expand t cs q res seen disc h =>
    obtain ⟨hc, hb, hd⟩ := hI
    refine ⟨?_, hb, hd⟩
    simp only [List.flatMap_cons, List.flatMap_append] at hc ⊢
    exact hc.trans (List.Perm.append_left _ (List.Perm.append_right _ (tr.children_pts t cs h)))
  | scan t q res seen disc h =>
    obtain ⟨hc, hb, hd⟩ := hI
    refine ⟨?_, foldl_ins_best _ hb, ?_⟩
    · simp only [List.flatMap_cons] at hc ⊢
      refine hc.trans ?_
      -- seen ++ disc ++ (pts ++ rest) ~ (pts.reverse ++ seen) ++ disc ++ rest
      have h1 : (seen ++ disc ++ (tr.pts t ++ q.flatMap tr.pts)).Perm
          (tr.pts t ++ (seen ++ disc ++ q.flatMap tr.pts)) := by
        rw [← List.append_assoc (seen ++ disc)]
        exact (List.Perm.append_right _ List.perm_append_comm).trans (by simp [List.append_assoc])
      refine h1.trans ?_
      simp only [List.append_assoc]
      exact List.Perm.append_right _ (List.reverse_perm _).symm
    · intro x hx
      have h5 : k ≤ (seen.filter (fun z => decide (z ≤ x))).length := hd x hx
      show k ≤ (((tr.pts t).reverse ++ seen).filter (fun z => decide (z ≤ x))).length
      simp only [List.filter_append, List.length_append]
      omega
  | drop t q res seen disc h =>
    obtain ⟨hc, hb, hd⟩ := hI
    refine ⟨?_, hb, hd⟩
    simpa [List.flatMap_cons, h] using hc
  | reorder q q' res seen disc h =>
    obtain ⟨hc, hb, hd⟩ := hI
    exact ⟨hc.trans (List.Perm.append_left _ (h.flatMap_right _)), hb, hd⟩

theorem final_best {tr : SearchTree T α} {k : ℕ} {all : List α} {s : St T α}
    (hI : SInv tr k all s) (hq : s.queue = []) : IsBest k all s.res := by
  obtain ⟨hc, hb, hd⟩ := hI
  rw [hq] at hc
  simp only [List.flatMap_nil, List.append_nil] at hc
  obtain ⟨rest, hperm, hrest⟩ := hb.split
  refine ⟨hb.sorted, ?_, ⟨rest ++ s.disc, ?_, ?_⟩⟩
  · -- a discarded point witnesses that `k` points were seen
    rw [hc.length_eq, List.length_append, hb.len]
    cases hdisc : s.disc with
    | nil => rfl
    | cons x t =>
      have hk : k ≤ s.seen.length := (hd x (hdisc ▸ List.mem_cons_self)).trans (List.length_filter_le _ _)
      rw [min_eq_left hk, min_eq_left (hk.trans (Nat.le_add_right _ _))]
  · calc all.Perm (s.seen ++ s.disc) := hc
      _ |>.Perm ((s.res ++ rest) ++ s.disc) := hperm.append_right _
      _ = s.res ++ (rest ++ s.disc) := by simp
  · intro x hx y hy
    rcases List.mem_append.mp hx with hx | hx
    · exact hrest x hx y hy
    · exact best_le_of_many hb (hd x hx) y hy

end Femio.C16
