import Femio.Lemmas.C16Term
import Femio.Lemmas.InsertionSort

/-! Directed Hausdorff distance (squared) of `_calc_directed_hausdorff_nodes` (C16): the inner nearest-target search
    with its early exit returns the true min-distance as far as the running maximum can see it (`nnRun_spec`), the leaf
    bounds are sound (`ub_sound`) and sorted descending, hence the pruned loop computes the plain maximum of the
    min-distances (`hausLoop_eq`, `hausDirectedT_correct`). -/
namespace Femio.C16

/-- `m` is the squared distance from `a` to the nearest of the targets `ptB 0 .. ptB (nB-1)` -/
def IsMinDist2 (ptB : Nat → P3) (nB : Nat) (a : P3) (m : Rat) : Prop :=
  (∃ j, j < nB ∧ dist2 a (ptB j) = m) ∧ ∀ j, j < nB → m ≤ dist2 a (ptB j)

/-- `h` is the squared directed Hausdorff distance `max_i min_j |A_i - B_j|^2` -/
def IsHausdorff2 (ptA ptB : Nat → P3) (nA nB : Nat) (h : Rat) : Prop :=
  (∃ i, i < nA ∧ IsMinDist2 ptB nB (ptA i) h) ∧ ∀ i, i < nA → ∃ m, IsMinDist2 ptB nB (ptA i) m ∧ m ≤ h

theorem absR_eq (a : Rat) : absR a = |a| := by
  unfold absR
  split
  · exact (abs_of_neg ‹_›).symm
  · exact (abs_of_nonneg (not_lt.mp ‹_›)).symm

theorem maxR_eq (a b : Rat) : maxR a b = max a b := by
  unfold maxR
  split
  · exact (max_eq_right (le_of_lt ‹_›)).symm
  · exact (max_eq_left (not_lt.mp ‹_›)).symm

theorem le_maxR_left (a b : Rat) : a ≤ maxR a b := maxR_eq a b ▸ le_max_left a b
theorem le_maxR_right (a b : Rat) : b ≤ maxR a b := maxR_eq a b ▸ le_max_right a b
theorem maxR_cases (a b : Rat) : maxR a b = a ∨ maxR a b = b := maxR_eq a b ▸ max_choice a b
theorem maxR_of_le (a b : Rat) (h : b ≤ a) : maxR a b = a := maxR_eq a b ▸ max_eq_left h

theorem sq_le_maxabs (lo hi v t : Rat) (h1 : lo ≤ t) (h2 : t ≤ hi) :
    sq (v - t) ≤ sq (maxR (absR (lo - v)) (absR (hi - v))) := by
  have hlo := le_trans (absR_eq _ ▸ neg_le_abs (lo - v)) (le_maxR_left (absR (lo - v)) (absR (hi - v)))
  have hhi := le_trans (absR_eq _ ▸ le_abs_self (hi - v)) (le_maxR_right (absR (lo - v)) (absR (hi - v)))
  exact mul_self_le_mul_self_of_le_of_neg_le (by linarith) (by linarith)

/-- C16_ub_sound, point–box: no point of the box is farther from `q` than `hi2` -/
theorem hi2_ge (b : Box) (q p : P3) (h : inBox b p = true) : dist2 q p ≤ hi2 b q := by
  rw [inBox_iff] at h
  exact add_le_add (add_le_add (sq_le_maxabs _ _ q.x p.x h.1.1 h.1.2) (sq_le_maxabs _ _ q.y p.y h.2.1.1 h.2.1.2))
    (sq_le_maxabs _ _ q.z p.z h.2.2.1 h.2.2.2)

theorem sq_le_ub (ca wa cb wb pa pb : Rat) (h1 : ca - wa ≤ pa) (h2 : pa ≤ ca + wa)
    (h3 : cb - wb ≤ pb) (h4 : pb ≤ cb + wb) : sq (pa - pb) ≤ sq (absR (ca - cb) + (wa + wb)) := by
  have hp := absR_eq (ca - cb) ▸ le_abs_self (ca - cb)
  have hn := absR_eq (ca - cb) ▸ neg_le_abs (ca - cb)
  exact mul_self_le_mul_self_of_le_of_neg_le (by linarith) (by linarith)

/-- C16_ub_sound, box–box: no point of box `a` is farther from any point of box `b` than `ubNode2` -/
theorem ubNode2_ge (a b : Box) (pa pb : P3) (ha : inBox a pa = true) (hb : inBox b pb = true) :
    dist2 pa pb ≤ ubNode2 a b := by
  rw [inBox_iff] at ha hb
  exact add_le_add (add_le_add (sq_le_ub _ _ _ _ _ _ ha.1.1 ha.1.2 hb.1.1 hb.1.2)
    (sq_le_ub _ _ _ _ _ _ ha.2.1.1 ha.2.1.2 hb.2.1.1 hb.2.1.2))
    (sq_le_ub _ _ _ _ _ _ ha.2.2.1 ha.2.2.2 hb.2.2.1 hb.2.2.2)

/-! ### min-distances exist, are unique and non-negative -/

theorem minDist_nonneg {ptB : Nat → P3} {nB : Nat} {a : P3} {m : Rat} (h : IsMinDist2 ptB nB a m) : 0 ≤ m := by
  obtain ⟨⟨j, _, rfl⟩, _⟩ := h
  exact dist2_nonneg _ _

theorem minDist_unique {ptB : Nat → P3} {nB : Nat} {a : P3} {m m' : Rat}
    (h : IsMinDist2 ptB nB a m) (h' : IsMinDist2 ptB nB a m') : m = m' := by
  obtain ⟨⟨j, hj, rfl⟩, hmin⟩ := h
  obtain ⟨⟨j', hj', rfl⟩, hmin'⟩ := h'
  exact le_antisymm (hmin j' hj') (hmin' j hj)

theorem exists_argmin_below (f : Nat → Rat) {n : Nat} (hn : 0 < n) : ∃ j, j < n ∧ ∀ i, i < n → f j ≤ f i := by
  induction n with
  | zero => cases hn
  | succ n ih =>
    rcases Nat.eq_zero_or_pos n with rfl | hpos
    · exact ⟨0, Nat.one_pos, fun i hi => by rw [Nat.lt_one_iff.mp hi]⟩
    · obtain ⟨j, hj, hmin⟩ := ih hpos
      rcases le_total (f j) (f n) with h | h
      · refine ⟨j, Nat.lt_succ_of_lt hj, fun i hi => ?_⟩
        rcases Nat.lt_succ_iff_lt_or_eq.mp hi with hi | rfl
        · exact hmin i hi
        · exact h
      · refine ⟨n, Nat.lt_succ_self n, fun i hi => ?_⟩
        rcases Nat.lt_succ_iff_lt_or_eq.mp hi with hi | rfl
        · exact le_trans h (hmin i hi)
        · exact le_refl _

theorem exists_minDist (ptB : Nat → P3) (nB : Nat) (hnB : 0 < nB) (a : P3) : ∃ m, IsMinDist2 ptB nB a m :=
  let ⟨j, hj, hmin⟩ := exists_argmin_below (fun j => dist2 a (ptB j)) hnB
  ⟨_, ⟨j, hj, rfl⟩, hmin⟩

/-- every child that `kidList` lists (not `isEmpty`) really stores an index, at every level: a queued subtree then
    holds a target, which is the witness for the upper bounds and for the early exit -/
def NE : Oct → Prop
  | .empty => True
  | .leaf _ => True
  | .node kids => ∀ r : Fin 8, NE (kids r) ∧ ((kids r).isEmpty = false → (kids r).idxs ≠ [])

theorem NE_build (pt : Nat → P3) (d : Nat) (b : Box) (is : List Nat) : NE (build pt d b is) := by
  induction d generalizing b is with
  | zero => trivial
  | succ d ih =>
    intro r
    -- child `r` of `build`: `if … then .empty else build …`
    dsimp only
    split
    · exact ⟨trivial, by simp [Oct.isEmpty]⟩
    · rename_i hne
      refine ⟨ih _ _, fun _ hnil => hne (List.isEmpty_iff.mpr ?_)⟩
      exact (hnil ▸ build_idxs_perm pt d (child b r.val) _ : [].Perm _).nil_eq.symm

/-- a queued subtree is usable: well boxed, all indices are targets, and it holds at least one target -/
def Good (pt : Nat → P3) (n : Nat) (bt : Box × Oct) : Prop :=
  WB pt bt.1 bt.2 ∧ NE bt.2 ∧ (∀ j ∈ bt.2.idxs, j < n) ∧ bt.2.idxs ≠ []

theorem Good_kids (pt : Nat → P3) (n : Nat) (b : Box) (t : Oct) (kids : List (Box × Oct))
    (h : Good pt n (b, t)) (hk : kidList b t = some kids) : ∀ bt ∈ kids, Good pt n bt := by
  obtain ⟨hWB, hNE, hlt, _⟩ := h
  intro bt hbt
  obtain ⟨ks, r, rfl, rfl, hnon⟩ := mem_kidList hk hbt
  refine ⟨hWB r, (hNE r).1, fun j hj => hlt j ?_, (hNE r).2 hnon⟩
  exact List.mem_flatMap.mpr ⟨r, List.mem_finRange r, hj⟩

theorem Good_target (pt : Nat → P3) (n : Nat) (bt : Box × Oct) (h : Good pt n bt) :
    ∃ j, j < n ∧ inBox bt.1 (pt j) = true := by
  obtain ⟨hWB, _, hlt, hne⟩ := h
  obtain ⟨j, hj⟩ := List.exists_mem_of_ne_nil _ hne
  exact ⟨j, hlt j hj, WB_idxs pt _ _ hWB j hj⟩

theorem Good_root (pt : Nat → P3) (n : Nat) (root : Box) (t : Oct) (hWB : WB pt root t)
    (hNE : NE t) (hperm : t.idxs.Perm (List.range n)) (hn : 0 < n) : Good pt n (root, t) := by
  refine ⟨hWB, hNE, fun j hj => List.mem_range.mp (hperm.subset hj), fun hnil => ?_⟩
  have := hperm.length_eq
  simp only [hnil, List.length_nil, List.length_range] at this
  omega

theorem exitNow_spec (HD : Rat) (q : P3) (s : CSt) (h : exitNow HD q s = true) :
    ∃ d b t rest kids bt, s.queue = (d, (b, t)) :: rest ∧ kidList b t = some kids ∧ bt ∈ kids ∧ hi2 bt.1 q ≤ HD := by
  obtain ⟨queue, res⟩ := s
  cases queue with
  | nil => cases h
  | cons e rest =>
    obtain ⟨d, b, t⟩ := e
    simp only [exitNow] at h
    split at h
    · cases h
    · cases hkl : kidList b t with
      | none => rw [hkl] at h; cases h
      | some kids =>
        rw [hkl] at h
        obtain ⟨bt, hbt, hle⟩ := List.any_eq_true.mp h
        exact ⟨d, b, t, rest, kids, bt, rfl, hkl, hbt, of_decide_eq_true hle⟩

/-- invariant of the inner search for the query `q` against the running maximum `HD`: as long as it has not exited
    early (`run`) it is a 1-nearest search in the state `h.s` over the keys `all`, with a usable queue; once it has
    (`ex`), some target is within `HD` of `q` -/
structure NInv (ptB : Nat → P3) (nB : Nat) (HD : Rat) (q : P3) (all : List Key) (h : HSt) : Prop where
  run : h.exit = false → Sim ptB q none 1 all h.s ∧ ∀ e ∈ h.s.queue, Good ptB nB e.2
  ex : h.exit = true → ∃ j, j < nB ∧ dist2 q (ptB j) ≤ HD

theorem ninv_step (ptB : Nat → P3) (nB : Nat) (HD : Rat) (q : P3) (all : List Key) (h : HSt)
    (hI : NInv ptB nB HD q all h) : NInv ptB nB HD q all (nnStep ptB HD q h) := by
  unfold nnStep
  split
  · exact hI
  · rename_i he
    obtain ⟨hsim, hgood⟩ := hI.run (Bool.eq_false_iff.mpr he)
    split
    · rename_i hx
      refine ⟨fun hc => Bool.noConfusion hc, fun _ => ?_⟩
      obtain ⟨d, b, t, rest, kids, bt, hq, hkl, hbt, hle⟩ := exitNow_spec HD q h.s hx
      have hg : Good ptB nB (b, t) := hgood (d, (b, t)) (hq ▸ List.mem_cons_self)
      obtain ⟨j, hj, hin⟩ := Good_target ptB nB bt (Good_kids ptB nB b t kids hg hkl bt hbt)
      exact ⟨j, hj, le_trans (hi2_ge bt.1 q (ptB j) hin) hle⟩
    · exact ⟨fun _ => ⟨sim_step ptB q none 1 all h.s hsim, step_queue_all ptB q none (fun e => Good ptB nB e.2)
        (fun _ b t kids hg hk => Good_kids ptB nB b t kids hg hk) 1 h.s hgood⟩, fun hc => Bool.noConfusion hc⟩

/-- `calc_frm`: the value returned for the query `q`, capped from below by `HD`, is the true squared
    nearest-target distance capped by `HD` (the early exit returns `0` only when the true value is `≤ HD`) -/
theorem nnRun_spec (ptB : Nat → P3) (nB : Nat) (root : Box) (tB : Oct) (HD : Rat) (q : P3)
    (hw : 0 ≤ root.w) (hWB : WB ptB root tB) (hNE : NE tB) (hperm : tB.idxs.Perm (List.range nB))
    (hnB : 0 < nB) (hHD : 0 ≤ HD) :
    ∃ x, nnVal (nnRun ptB root tB HD q tB.size) = some x ∧
      ∀ m, IsMinDist2 ptB nB q m → maxR HD x = maxR HD m := by
  have hgood := Good_root ptB nB root tB hWB hNE hperm hnB
  have hinit : NInv ptB nB HD q (admKeys ptB q none tB.idxs) ⟨⟨[(0, (root, tB))], []⟩, false⟩ := by
    exact ⟨fun _ => ⟨sim_init ptB q none 1 root tB hw hWB, fun e he => List.mem_singleton.mp he ▸ hgood⟩,
      fun hc => by simp at hc⟩
  have hfin := iter_inv _ _ (ninv_step ptB nB HD q _) tB.size _ hinit
  have hdone := nnRun_done ptB root tB HD q
  unfold nnRun at hdone ⊢
  set st := iter (nnStep ptB HD q) tB.size ⟨⟨[(0, (root, tB))], []⟩, false⟩ with hst
  by_cases hex : st.exit = true
  · refine ⟨0, by simp [nnVal, hex], ?_⟩
    intro m hm
    obtain ⟨j, hj, hle⟩ := hfin.ex hex
    have hmle : m ≤ HD := le_trans (hm.2 j hj) hle
    -- the early exit returns 0, which `maxR HD ·` absorbs because `0 ≤ HD`
    rw [maxR_of_le HD 0 hHD, maxR_of_le HD m hmle]
  · have hex' : st.exit = false := by simpa using hex
    obtain ⟨⟨⟨seen, disc, hinv⟩, _⟩, _⟩ := hfin.run hex'
    have hbest : IsBest 1 (keysOf ptB q tB.idxs) st.s.res :=
      admKeys_none ptB q tB.idxs ▸ final_best hinv (by simp [hdone.resolve_left hex])
    obtain ⟨j, hj⟩ := List.exists_mem_of_ne_nil _ hgood.2.2.2
    obtain ⟨x, hres, hxmem, hxmin⟩ := isBest_one hbest (List.ne_nil_of_mem (List.mem_map_of_mem hj))
    refine ⟨x.d, by simp [nnVal, hex', hres], fun m hm => ?_⟩
    -- the key found belongs to a target and is minimal among the keys of all targets
    obtain ⟨i, hi, rfl⟩ := List.mem_map.mp hxmem
    obtain ⟨j0, hj0, rfl⟩ := hm.1
    have h1 : dist2 q (ptB j0) ≤ dist2 q (ptB i) := hm.2 i (List.mem_range.mp (hperm.subset hi))
    have h2 : dist2 q (ptB i) ≤ dist2 q (ptB j0) :=
      d_le_of_le (hxmin _ (List.mem_map_of_mem (hperm.symm.subset (List.mem_range.mpr hj0))))
    show maxR HD (dist2 q (ptB i)) = _
    rw [le_antisymm h2 h1]

/-- queue entries are usable and the running bound dominates the distance of every point of box `a` to its
    nearest target -/
def UInv (ptB : Nat → P3) (nB : Nat) (a : Box) (s : List QEntry × Option Rat) : Prop :=
  (∀ e ∈ s.1, Good ptB nB e.2) ∧
  ∀ u, s.2 = some u → ∀ pa, inBox a pa = true → ∃ j, j < nB ∧ dist2 pa (ptB j) ≤ u

theorem uinv_step (ptB : Nat → P3) (nB : Nat) (a : Box) (s : List QEntry × Option Rat)
    (hI : UInv ptB nB a s) : UInv ptB nB a (ubStep a s) := by
  obtain ⟨queue, dist⟩ := s
  obtain ⟨hq, hd⟩ := hI
  simp only at hq hd
  cases queue with
  | nil => exact ⟨hq, hd⟩
  | cons e0 rest =>
    obtain ⟨d, b, t⟩ := e0
    have hrest : ∀ e ∈ rest, Good ptB nB e.2 := fun e he => hq e (List.mem_cons_of_mem _ he)
    have h0 : Good ptB nB (b, t) := hq (d, (b, t)) (by simp)
    simp only [ubStep]
    split
    · exact ⟨hrest, hd⟩
    · cases hkl : kidList b t with
      | some kids =>
        refine ⟨?_, hd⟩
        intro e he
        rcases List.mem_append.mp ((foldr_insQ_perm (fun bt => ubNode2 a bt.1) _ rest).subset he) with he | he
        · obtain ⟨bt, hbt, rfl⟩ := List.mem_map.mp he
          exact Good_kids ptB nB b t kids h0 hkl bt (List.mem_filter.mp hbt).1
        · exact hrest e he
      | none =>
        refine ⟨hrest, ?_⟩
        have hnew : ∀ pa, inBox a pa = true → ∃ j, j < nB ∧ dist2 pa (ptB j) ≤ ubNode2 a b := by
          intro pa hpa
          obtain ⟨j, hj, hin⟩ := Good_target ptB nB (b, t) h0
          exact ⟨j, hj, ubNode2_ge a b pa (ptB j) hpa hin⟩
        intro u hu pa hpa
        cases dist with
        | none =>
          cases hu
          exact hnew pa hpa
        | some m0 =>
          cases hu
          unfold minR
          split
          · exact hnew pa hpa
          · exact hd m0 rfl pa hpa

/-- `calc_frm_node`: a finite upper bound really bounds the nearest-target distance of every point of the leaf box -/
theorem ub_sound (ptB : Nat → P3) (nB : Nat) (a root : Box) (tB : Oct)
    (hWB : WB ptB root tB) (hNE : NE tB) (hperm : tB.idxs.Perm (List.range nB))
    (hnB : 0 < nB) (fuel : Nat) (u : Rat) (hu : (ubRun a root tB fuel).2 = some u)
    (pa : P3) (hpa : inBox a pa = true) : ∃ j, j < nB ∧ dist2 pa (ptB j) ≤ u := by
  have hinit : UInv ptB nB a ([(0, (root, tB))], none) :=
    ⟨fun e he => List.mem_singleton.mp he ▸ Good_root ptB nB root tB hWB hNE hperm hnB, fun u hu => by cases hu⟩
  exact (iter_inv _ _ (uinv_step ptB nB a) fuel _ hinit).2 u hu pa hpa

theorem leavesOf_sound (pt : Nat → P3) (b : Box) (t : Oct) (h : WB pt b t) :
    ∀ bl ∈ leavesOf b t, ∀ i ∈ bl.2, inBox bl.1 (pt i) = true ∧ i ∈ t.idxs := by
  induction t generalizing b with
  | empty => intro bl hbl; cases hbl
  | leaf is =>
    intro bl hbl
    simp only [leavesOf] at hbl
    split at hbl
    · cases hbl
    · cases List.mem_singleton.mp hbl
      exact fun i hi => ⟨h i hi, hi⟩
  | node kids ih =>
    intro bl hbl i hi
    obtain ⟨r, _, hbl⟩ := List.mem_flatMap.mp hbl
    obtain ⟨hin, hidx⟩ := ih r (child b r.val) (h r) bl hbl i hi
    exact ⟨hin, List.mem_flatMap.mpr ⟨r, List.mem_finRange r, hidx⟩⟩

theorem leavesOf_complete (b : Box) (t : Oct) : ∀ i ∈ t.idxs, ∃ bl ∈ leavesOf b t, i ∈ bl.2 := by
  induction t generalizing b with
  | empty => intro i hi; cases hi
  | leaf is =>
    intro i hi
    have hne : is.isEmpty = false := by
      cases is with
      | nil => cases hi
      | cons _ _ => rfl
    exact ⟨(b, is), by simp [leavesOf, hne], hi⟩
  | node kids ih =>
    intro i hi
    obtain ⟨r, hr, hi⟩ := List.mem_flatMap.mp hi
    obtain ⟨bl, hbl, hibl⟩ := ih r (child b r.val) i hi
    exact ⟨bl, List.mem_flatMap.mpr ⟨r, hr, hbl⟩, hibl⟩

theorem geOpt_total (a b : Option Rat) : geOpt a b = true ∨ geOpt b a = true := by
  cases a <;> cases b <;> simp [geOpt, le_total]

theorem geOpt_trans (a b c : Option Rat) (h1 : geOpt a b = true) (h2 : geOpt b c = true) : geOpt a c = true := by
  cases a with
  | none => rfl
  | some x =>
    cases b with
    | none => cases h1
    | some y =>
      cases c with
      | none => cases h2
      | some z => exact decide_eq_true (le_trans (of_decide_eq_true h2) (of_decide_eq_true h1))

theorem foldr_insDesc {α : Type} (g : α → Option Rat × List Nat) (L : List α) :
    (L.foldr (fun bl acc => insDesc (g bl) acc) []).Perm (L.map g) ∧
    (L.foldr (fun bl acc => insDesc (g bl) acc) []).Pairwise fun x y => geOpt x.1 y.1 = true := by
  rw [← List.foldr_map, foldr_eq_insertionSort (fun x y => geOpt x.1 y.1 = true) insDesc (fun _ => rfl) fun _ _ _ => rfl]
  exact ⟨List.perm_insertionSort _ _,
    @List.pairwise_insertionSort _ _ _ ⟨fun a b => geOpt_total a.1 b.1⟩ ⟨fun a b c => geOpt_trans a.1 b.1 c.1⟩ _⟩

/-- the inner search with its early exit contributes the true min-distance to the running maximum; `0 ≤ HD` because
    `hnn` (see `nnRun_spec`) holds for such `HD` only -/
theorem foldl_nn_eq_foldl_md (md : Nat → Rat) (nn : Rat → Nat → Option Rat)
    (hnn : ∀ HD i, 0 ≤ HD → ∃ x, nn HD i = some x ∧ maxR HD x = maxR HD (md i))
    (is : List Nat) (HD : Rat) (h0 : 0 ≤ HD) :
    is.foldl (fun h i => maxOpt h (nn h i)) HD = is.foldl (fun h i => maxR h (md i)) HD := by
  induction is generalizing HD with
  | nil => rfl
  | cons i t ih =>
    obtain ⟨x, hx, hmax⟩ := hnn HD i h0
    simp only [List.foldl_cons, hx, maxOpt, hmax]
    exact ih _ (le_trans h0 (le_maxR_left HD (md i)))

theorem foldl_max_spec (md : Nat → Rat) (l : List Nat) (a : Rat) :
    a ≤ l.foldl (fun h i => maxR h (md i)) a ∧ (∀ i ∈ l, md i ≤ l.foldl (fun h i => maxR h (md i)) a) ∧
    (l.foldl (fun h i => maxR h (md i)) a = a ∨ ∃ i ∈ l, l.foldl (fun h i => maxR h (md i)) a = md i) := by
  induction l generalizing a with
  | nil => exact ⟨le_refl _, fun _ h => absurd h List.not_mem_nil, Or.inl rfl⟩
  | cons i t ih =>
    obtain ⟨h1, h2, h3⟩ := ih (maxR a (md i))
    simp only [List.foldl_cons]
    refine ⟨le_trans (le_maxR_left a (md i)) h1, fun j hj => ?_, ?_⟩
    · rcases List.mem_cons.mp hj with rfl | hj
      · exact le_trans (le_maxR_right a (md j)) h1
      · exact h2 j hj
    · rcases h3 with h3 | ⟨j, hj, h3⟩
      · rcases maxR_cases a (md i) with hc | hc
        · exact Or.inl (h3.trans hc)
        · exact Or.inr ⟨i, List.mem_cons_self, h3.trans hc⟩
      · exact Or.inr ⟨j, List.mem_cons_of_mem _ hj, h3⟩

theorem foldl_max_skip (md : Nat → Rat) (l : List Nat) (a : Rat) (h : ∀ i ∈ l, md i ≤ a) :
    l.foldl (fun h i => maxR h (md i)) a = a := by
  induction l with
  | nil => rfl
  | cons i t ih =>
    rw [List.foldl_cons, maxR_of_le a (md i) (h i List.mem_cons_self)]
    exact ih fun j hj => h j (List.mem_cons_of_mem _ hj)

theorem hausLoop_eq (md : Nat → Rat) (nn : Rat → Nat → Option Rat)
    (hnn : ∀ HD i, 0 ≤ HD → ∃ x, nn HD i = some x ∧ maxR HD x = maxR HD (md i))
    (L : List (Option Rat × List Nat))
    (hub : ∀ e ∈ L, ∀ u, e.1 = some u → ∀ i ∈ e.2, md i ≤ u)
    (hsorted : L.Pairwise fun x y => geOpt x.1 y.1 = true)
    (HD : Rat) (h0 : 0 ≤ HD) :
    hausLoop nn L HD = (L.flatMap (·.2)).foldl (fun h i => maxR h (md i)) HD := by
  induction L generalizing HD with
  | nil => rfl
  | cons e0 rest ih =>
    obtain ⟨ub, is⟩ := e0
    rw [List.pairwise_cons] at hsorted
    simp only [hausLoop]
    split
    · -- `break`: every remaining leaf bound, hence every remaining min-distance, is at most `HD`
      rename_i hbreak
      refine (foldl_max_skip md _ HD fun i hi => ?_).symm
      obtain ⟨e, he, hie⟩ := List.mem_flatMap.mp hi
      cases ub with
      | none => cases hbreak
      | some x =>
        have hx : x ≤ HD := of_decide_eq_true hbreak
        rcases List.mem_cons.mp he with rfl | he'
        · exact le_trans (hub _ List.mem_cons_self x rfl i hie) hx
        · obtain ⟨eu, eis⟩ := e
          have hge := hsorted.1 _ he'
          cases eu with
          | none => cases hge
          | some y =>
            exact le_trans (hub _ (List.mem_cons_of_mem _ he') y rfl i hie) (le_trans (of_decide_eq_true hge) hx)
    · have hfe := foldl_nn_eq_foldl_md md nn hnn is HD h0
      rw [List.flatMap_cons, List.foldl_append, ← hfe]
      exact ih (fun e he => hub e (List.mem_cons_of_mem _ he)) hsorted.2 _
        (hfe ▸ le_trans h0 (foldl_max_spec md is HD).1)

/-- the directed Hausdorff kernel on two arbitrary well-formed trees over the same root box -/
theorem hausDirectedT_correct (ptA ptB : Nat → P3) (nA nB : Nat) (root : Box) (tA tB : Oct) (hw : 0 ≤ root.w)
    (hWBA : WB ptA root tA) (hpermA : tA.idxs.Perm (List.range nA))
    (hWBB : WB ptB root tB) (hNEB : NE tB) (hpermB : tB.idxs.Perm (List.range nB))
    (hnA : 0 < nA) (hnB : 0 < nB) :
    IsHausdorff2 ptA ptB nA nB (hausDirectedT ptA ptB root tA tB) := by
  -- the true min-distance of every source point
  have hex : ∀ i, ∃ m, IsMinDist2 ptB nB (ptA i) m := fun i => exists_minDist ptB nB hnB (ptA i)
  let md : Nat → Rat := fun i => Classical.choose (hex i)
  have hmd : ∀ i, IsMinDist2 ptB nB (ptA i) (md i) := fun i => Classical.choose_spec (hex i)
  have hnn : ∀ HD i, 0 ≤ HD →
      ∃ x, nnVal (nnRun ptB root tB HD (ptA i) tB.size) = some x ∧ maxR HD x = maxR HD (md i) := by
    intro HD i hHD
    obtain ⟨x, hx, hxm⟩ := nnRun_spec ptB nB root tB HD (ptA i) hw hWBB hNEB hpermB hnB hHD
    exact ⟨x, hx, hxm (md i) (hmd i)⟩
  obtain ⟨hperm, hsorted⟩ := foldr_insDesc
    (fun bl : Box × List Nat => ((ubRun bl.1 root tB tB.size).2, bl.2)) (leavesOf root tA)
  -- the leaves listed are those of tree A, each with a sound upper bound
  have hleaf : ∀ e ∈ hausLeaves root tA tB, ∃ bl ∈ leavesOf root tA, ((ubRun bl.1 root tB tB.size).2, bl.2) = e :=
    fun e he => List.mem_map.mp (hperm.subset he)
  have hub : ∀ e ∈ hausLeaves root tA tB, ∀ u, e.1 = some u → ∀ i ∈ e.2, md i ≤ u := by
    intro e he u hu i hi
    obtain ⟨bl, hbl, rfl⟩ := hleaf e he
    have hall := leavesOf_sound ptA root tA hWBA bl hbl
    obtain ⟨j, hj, hle⟩ := ub_sound ptB nB bl.1 root tB hWBB hNEB hpermB hnB tB.size u hu
      (ptA i) (hall i hi).1
    exact le_trans ((hmd i).2 j hj) hle
  -- so the value is the plain maximum of the min-distances of the listed indices, starting from 0
  have hval : hausDirectedT ptA ptB root tA tB
      = ((hausLeaves root tA tB).flatMap (·.2)).foldl (fun h i => maxR h (md i)) 0 :=
    hausLoop_eq md _ hnn (hausLeaves root tA tB) hub hsorted 0 (le_refl _)
  obtain ⟨_, h2, h3⟩ := foldl_max_spec md ((hausLeaves root tA tB).flatMap (·.2)) 0
  rw [← hval] at h2 h3
  have hall : ∀ i, i < nA → md i ≤ hausDirectedT ptA ptB root tA tB := by
    intro i hi
    obtain ⟨bl, hbl, hibl⟩ := leavesOf_complete root tA i (hpermA.symm.subset (List.mem_range.mpr hi))
    exact h2 i (List.mem_flatMap.mpr ⟨_, hperm.symm.subset (List.mem_map.mpr ⟨bl, hbl, rfl⟩), hibl⟩)
  refine ⟨?_, fun i hi => ⟨md i, hmd i, hall i hi⟩⟩
  rcases h3 with h3 | ⟨i, hi, h3⟩
  · -- nothing beat the initial 0: every min-distance is 0
    have h00 : md 0 = 0 := le_antisymm (h3 ▸ hall 0 hnA) (minDist_nonneg (hmd 0))
    exact ⟨0, hnA, h3 ▸ h00 ▸ hmd 0⟩
  · obtain ⟨e, he, hie⟩ := List.mem_flatMap.mp hi
    obtain ⟨bl, hbl, rfl⟩ := hleaf e he
    have hallbl := leavesOf_sound ptA root tA hWBA bl hbl
    exact ⟨i, List.mem_range.mp (hpermA.subset (hallbl i hie).2), h3 ▸ hmd i⟩

/-- first clause of C16_hausdorff: the kernel computes the squared directed Hausdorff distance -/
theorem hausDirected_correct (ptA ptB : Nat → P3) (nA nB depth : Nat) (root : Box) (hw : 0 ≤ root.w)
    (hA : ∀ i, i < nA → inBox root (ptA i) = true) (hB : ∀ j, j < nB → inBox root (ptB j) = true)
    (hnA : 0 < nA) (hnB : 0 < nB) :
    IsHausdorff2 ptA ptB nA nB (hausDirected ptA ptB nA nB depth root) := by
  unfold hausDirected
  exact hausDirectedT_correct ptA ptB nA nB root _ _ hw
    (WB_build ptA depth root _ hw (fun i hi => hA i (List.mem_range.mp hi)))
    (build_idxs_perm ptA depth root _)
    (WB_build ptB depth root _ hw (fun j hj => hB j (List.mem_range.mp hj)))
    (NE_build ptB depth root _)
    (build_idxs_perm ptB depth root _) hnA hnB

end Femio.C16

#print axioms Femio.C16.hi2_ge
#print axioms Femio.C16.ubNode2_ge
#print axioms Femio.C16.nnRun_spec
#print axioms Femio.C16.ub_sound
#print axioms Femio.C16.hausDirected_correct
