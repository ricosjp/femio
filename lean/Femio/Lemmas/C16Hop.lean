import Femio.Model.Search
import Femio.Lemmas.Bfs

/-! The two BFS kernels of `calculate_euclidean_hop_graph`: visited = reachable (C16_hop_graph). The work-list loop
    is the generic BFS of `Bfs.lean` on the node–element graph. -/
namespace Femio.C16

theorem dedupNat_eq_dedup (l : List Nat) : dedupNat l = l.dedup := by
  induction l with
  | nil => rfl
  | cons a t ih =>
    simp only [dedupNat]
    by_cases h : a ∈ t
    · rw [List.dedup_cons_of_mem h]; simp [h, ih]
    · rw [List.dedup_cons_of_notMem h]; simp [h, ih]

theorem iter_eq_iterate {σ : Type} (f : σ → σ) (n : Nat) (s : σ) : iter f n s = f^[n] s := by
  induction n generalizing s with
  | zero => rfl
  | succ n ih => simp only [iter, Function.iterate_succ_apply, ih]

/-- the node–element graph with the `is_nbd` filter, as a graph of the generic BFS -/
def hopG (h : Hop) (nbd : Nat → Bool) : G := ⟨hopSucc h, hopAllowed h nbd⟩

theorem hopStep_eq (h : Hop) (nbd : Nat → Bool) : hopStep h nbd = bfsStep (hopG h nbd) := by
  funext s
  rcases s with ⟨_ | ⟨x, q⟩, vis⟩
  · rfl
  · simp only [hopStep, bfsStep, dedupNat_eq_dedup, hopG]

/-- one edge of the search: `y` is listed for `x` and may be entered -/
def hopR (h : Hop) (nbd : Nat → Bool) (x y : Nat) : Prop := y ∈ hopSucc h x ∧ hopAllowed h nbd y = true

/-- `BInv` of `Bfs.lean` spelt out for the hop graph (`hinv_iff`) -/
structure HInv (h : Hop) (nbd : Nat → Bool) (v : Nat) (popped : List Nat) (s : List Nat × List Nat) : Prop where
  split : s.2 = popped ++ s.1
  nodup : s.2.Nodup
  sound : ∀ w ∈ s.2, Relation.ReflTransGen (hopR h nbd) v w
  closed : ∀ x ∈ popped, ∀ y, hopR h nbd x y → y ∈ s.2
  start : v ∈ s.2

theorem hinv_iff {h : Hop} {nbd : Nat → Bool} {v : Nat} {popped : List Nat} {s : List Nat × List Nat} :
    HInv h nbd v popped s ↔ BInv (hopG h nbd) v popped s :=
  ⟨fun i => ⟨i.split, i.nodup, i.sound, i.closed, i.start⟩, fun i => ⟨i.split, i.nodup, i.sound, i.closed, i.start⟩⟩

theorem hopVisited_correct (h : Hop) (nbd : Nat → Bool) (n start : Nat) (hstart : start < n)
    (hsucc : ∀ x y, y ∈ hopSucc h x → y < n) (w : Nat) :
    w ∈ hopVisited h nbd n start ↔
      Relation.ReflTransGen (hopR h nbd) start w := by
  unfold hopVisited
  rw [iter_eq_iterate, hopStep_eq]
  -- the edge relation `R (hopG h nbd)` of the generic BFS unfolds to `hopR h nbd`
  exact bfs_correct (hopG h nbd) n start hstart hsucc w

/-- nodal mode: the row of node `v` lists exactly the other nodes reachable from it -/
theorem hopNodal_correct (h : Hop) (nbd : Nat → Bool) (n v : Nat) (hv : v < n)
    (hsucc : ∀ x y, y ∈ hopSucc h x → y < n) (w : Nat) :
    w ∈ hopNodal h nbd n v ↔ w < h.V ∧ w ≠ v ∧
      Relation.ReflTransGen (hopR h nbd) v w := by
  unfold hopNodal
  rw [List.mem_filter, hopVisited_correct h nbd n v hv hsucc w]
  simp only [Bool.and_eq_true, decide_eq_true_eq]
  exact and_comm.trans and_assoc

/-- elemental mode: the row of element `e` lists exactly the other elements reachable from it -/
theorem hopElemental_correct (h : Hop) (nbd : Nat → Bool) (n e : Nat) (he : h.V + e < n)
    (hsucc : ∀ x y, y ∈ hopSucc h x → y < n) (f : Nat) :
    f ∈ hopElemental h nbd n e ↔ f ≠ e ∧
      Relation.ReflTransGen (hopR h nbd) (h.V + e) (h.V + f) := by
  unfold hopElemental
  simp only [List.mem_map, List.mem_filter, Bool.and_eq_true, decide_eq_true_eq]
  constructor
  · rintro ⟨w, ⟨hw, hV, hne⟩, rfl⟩
    have hwe : h.V + (w - h.V) = w := Nat.add_sub_cancel' hV
    refine ⟨fun h' => hne (hwe.symm.trans (congrArg (h.V + ·) h')), ?_⟩
    rw [hwe]
    exact (hopVisited_correct h nbd n (h.V + e) he hsucc w).mp hw
  · rintro ⟨hne, hr⟩
    exact ⟨h.V + f, ⟨(hopVisited_correct h nbd n (h.V + e) he hsucc _).mpr hr, Nat.le_add_right _ _,
      fun h' => hne (Nat.add_left_cancel h')⟩, Nat.add_sub_cancel_left _ _⟩

/-! ### nodal mode as in the docstring: chains of nodes sharing elements -/

/-- one hop between nodes: `w` shares an element with `v` and is within the radius (`nbd`) -/
def nodeR (h : Hop) (nbd : Nat → Bool) (v w : Nat) : Prop :=
  (∃ e, e ∈ h.elemsOf v ∧ w ∈ h.nodesOf e) ∧ nbd w = true

theorem hopSucc_node (h : Hop) (x : Nat) (hx : x < h.V) : hopSucc h x = (h.elemsOf x).map (· + h.V) := by
  simp [hopSucc, hx]

theorem hopSucc_elem (h : Hop) (x : Nat) (hx : h.V ≤ x) : hopSucc h x = h.nodesOf (x - h.V) := by
  have : ¬ x < h.V := Nat.not_lt.mpr hx
  simp [hopSucc, this]

theorem nodeR_to_hop (h : Hop) (nbd : Nat → Bool) (hN : ∀ e w, w ∈ h.nodesOf e → w < h.V) (v : Nat) (hv : v < h.V)
    (w : Nat) (hr : Relation.ReflTransGen (nodeR h nbd) v w) :
    w < h.V ∧ Relation.ReflTransGen (hopR h nbd) v w := by
  induction hr with
  | refl => exact ⟨hv, Relation.ReflTransGen.refl⟩
  | @tail y z _ hstep ih =>
    obtain ⟨⟨e, he, hz⟩, hnbd⟩ := hstep
    obtain ⟨hy, hreach⟩ := ih
    have hzV : z < h.V := hN e z hz
    refine ⟨hzV, ?_⟩
    have h1 : hopR h nbd y (e + h.V) := by
      refine ⟨?_, ?_⟩
      · rw [hopSucc_node h y hy]; exact List.mem_map.mpr ⟨e, he, rfl⟩
      · have : ¬ e + h.V < h.V := Nat.not_lt.mpr (Nat.le_add_left _ _)
        simp [hopAllowed, this]
    have h2 : hopR h nbd (e + h.V) z := by
      refine ⟨?_, ?_⟩
      · rw [hopSucc_elem h (e + h.V) (Nat.le_add_left _ _), Nat.add_sub_cancel]
        exact hz
      · simp [hopAllowed, hzV, hnbd]
    exact (hreach.tail h1).tail h2

theorem hop_to_nodeR (h : Hop) (nbd : Nat → Bool) (hN : ∀ e w, w ∈ h.nodesOf e → w < h.V) (v : Nat) (hv : v < h.V)
    (x : Nat) (hr : Relation.ReflTransGen (hopR h nbd) v x) :
    (x < h.V → Relation.ReflTransGen (nodeR h nbd) v x) ∧
    (h.V ≤ x → ∃ u, u < h.V ∧ Relation.ReflTransGen (nodeR h nbd) v u ∧ (x - h.V) ∈ h.elemsOf u) := by
  induction hr with
  | refl => exact ⟨fun _ => Relation.ReflTransGen.refl, fun hc => absurd hv (Nat.not_lt.mpr hc)⟩
  | @tail y z _ hstep ih =>
    obtain ⟨hz, hallow⟩ := hstep
    by_cases hy : y < h.V
    · rw [hopSucc_node h y hy] at hz
      obtain ⟨e, he, rfl⟩ := List.mem_map.mp hz
      refine ⟨fun hc => absurd hc (Nat.not_lt.mpr (Nat.le_add_left _ _)), fun _ => ⟨y, hy, ih.1 hy, ?_⟩⟩
      rw [Nat.add_sub_cancel]
      exact he
    · have hy' : h.V ≤ y := Nat.le_of_not_lt hy
      rw [hopSucc_elem h y hy'] at hz
      have hzV : z < h.V := hN _ z hz
      refine ⟨fun _ => ?_, fun hc => absurd hzV (Nat.not_lt.mpr hc)⟩
      obtain ⟨u, _, hreach, hmem⟩ := ih.2 hy'
      have hnbd : nbd z = true := by simpa [hopAllowed, hzV] using hallow
      exact hreach.tail ⟨⟨y - h.V, hmem, hz⟩, hnbd⟩

/-- nodal mode in the form of the docstring of `calculate_euclidean_hop_graph`: row `v` lists exactly the other nodes
    linked to `v` by a chain of nodes in which consecutive nodes share an element and every node after `v` satisfies
    `nbd` -/
theorem hopNodal_chain (h : Hop) (nbd : Nat → Bool) (n v : Nat) (hv : v < h.V) (hVn : h.V ≤ n)
    (hsucc : ∀ x y, y ∈ hopSucc h x → y < n) (hN : ∀ e w, w ∈ h.nodesOf e → w < h.V) (w : Nat) :
    w ∈ hopNodal h nbd n v ↔ w ≠ v ∧ Relation.ReflTransGen (nodeR h nbd) v w := by
  rw [hopNodal_correct h nbd n v (Nat.lt_of_lt_of_le hv hVn) hsucc w]
  constructor
  · rintro ⟨hw, hne, hr⟩
    exact ⟨hne, (hop_to_nodeR h nbd hN v hv w hr).1 hw⟩
  · rintro ⟨hne, hr⟩
    obtain ⟨hw, hr'⟩ := nodeR_to_hop h nbd hN v hv w hr
    exact ⟨hw, hne, hr'⟩

end Femio.C16

#print axioms Femio.C16.hopVisited_correct
#print axioms Femio.C16.hopNodal_correct
#print axioms Femio.C16.hopElemental_correct
#print axioms Femio.C16.hopNodal_chain
