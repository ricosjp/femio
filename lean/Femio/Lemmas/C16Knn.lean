import Femio.Model.Search
import Femio.Lemmas.Axis
import Femio.Lemmas.C16BnB
import Femio.Lemmas.InsertionSort
import Mathlib.Data.Prod.Lex

/-! The octree k-nearest search of `Model/Search.lean` refines the abstract branch and bound of `C16BnB.lean`:
    geometry of boxes and children, the heap order on keys, the octree as a `SearchTree` (`octTree`), the invariant
    "every index stored under a box lies in it" (`WB`), and the simulation of one loop iteration (`sim_step`). -/
namespace Femio.C16

theorem inBox_iff (b : Box) (p : P3) : inBox b p = true ↔
    (b.c.x - b.w ≤ p.x ∧ p.x ≤ b.c.x + b.w) ∧ (b.c.y - b.w ≤ p.y ∧ p.y ≤ b.c.y + b.w) ∧
    (b.c.z - b.w ≤ p.z ∧ p.z ≤ b.c.z + b.w) := by
  simp only [inBox, Bool.and_eq_true, decide_eq_true_eq, and_assoc]

/-- the eight children cover the parent (exact arithmetic) -/
theorem children_cover (b : Box) (p : P3) (hw : 0 ≤ b.w) (h : inBox b p = true) :
    ∃ r, r < 8 ∧ inBox (child b r) p = true := by
  rw [inBox_iff] at h
  -- each bit: minus side iff the coordinate is ≤ the centre
  refine ⟨Axis.digit (p.x ≤ b.c.x) (p.y ≤ b.c.y) (p.z ≤ b.c.z), Axis.digit_lt, (inBox_iff _ _).mpr ?_⟩
  simp only [child]
  exact ⟨Axis.half _ Axis.digit_bit4 h.1, Axis.half _ Axis.digit_bit2 h.2.1, Axis.half _ Axis.digit_bit1 h.2.2⟩

theorem child_sub (b : Box) (r : Nat) (p : P3) (h : inBox (child b r) p = true) : inBox b p = true := by
  rw [inBox_iff] at h ⊢
  exact ⟨Axis.of_half _ h.1, Axis.of_half _ h.2.1, Axis.of_half _ h.2.2⟩

theorem pick_lt (b : Box) (p : P3) : pick b p < 8 := by
  unfold pick
  cases hf : (List.range 8).find? (fun r => inBox (child b r) p) with
  | none => simp
  | some r => simpa using List.mem_range.mp (List.mem_of_find?_eq_some hf)

theorem pick_spec (b : Box) (p : P3) (hw : 0 ≤ b.w) (h : inBox b p = true) :
    pick b p < 8 ∧ inBox (child b (pick b p)) p = true := by
  refine ⟨pick_lt b p, ?_⟩
  obtain ⟨r, hr, hin⟩ := children_cover b p hw h
  unfold pick
  cases hf : (List.range 8).find? (fun r => inBox (child b r) p) with
  | none => exact absurd hin (by simpa using List.find?_eq_none.mp hf r (List.mem_range.mpr hr))
  | some r' => simpa using List.find?_some hf

theorem child_w_nonneg (b : Box) (r : Nat) (hw : 0 ≤ b.w) : 0 ≤ (child b r).w :=
  div_nonneg hw (by norm_num)

/-- third clause of C16_leaf_contains: a point of the root box lies in every box along its assigned path -/
theorem in_prefix_box (b : Box) (p : P3) (hw : 0 ≤ b.w) (h : inBox b p = true) (d : Nat) :
    ∀ pre, pre <+: assign b p d → inBox (boxOf b pre) p = true := by
  induction d generalizing b with
  | zero => intro pre hpre; rw [List.prefix_nil.mp hpre]; exact h
  | succ d ih =>
    rintro (_ | ⟨r, rs⟩) hpre
    · exact h
    · obtain ⟨rfl, hrs⟩ := List.cons_prefix_cons.mp hpre
      exact ih _ (child_w_nonneg b _ hw) (pick_spec b p hw h).2 rs hrs

theorem clamp_le (lo hi v : Rat) (h : lo ≤ hi) : lo ≤ clamp lo hi v ∧ clamp lo hi v ≤ hi :=
  Axis.clamp_mem v h

/-- C16_lb_sound -/
theorem lb2_le (b : Box) (q p : P3) (h : inBox b p = true) : lb2 b q ≤ dist2 q p := by
  rw [inBox_iff] at h
  -- `lb2` and `dist2` unfold to sums of three `sq`, i.e. products, and the model's `clamp` has the body of `Axis.clamp`
  exact add_le_add (add_le_add (Axis.sq_sub_clamp_le q.x h.1.1 h.1.2) (Axis.sq_sub_clamp_le q.y h.2.1.1 h.2.1.2))
    (Axis.sq_sub_clamp_le q.z h.2.2.1 h.2.2.2)

theorem lb2_nonneg (b : Box) (q : P3) : 0 ≤ lb2 b q :=
  add_nonneg (add_nonneg (mul_self_nonneg _) (mul_self_nonneg _)) (mul_self_nonneg _)

theorem dist2_nonneg (p q : P3) : 0 ≤ dist2 p q :=
  add_nonneg (add_nonneg (mul_self_nonneg _) (mul_self_nonneg _)) (mul_self_nonneg _)

theorem dist2_pos_of_ne (p q : P3) (h : p ≠ q) : 0 < dist2 p q := by
  refine lt_of_le_of_ne (dist2_nonneg p q) fun h0 => h ?_
  obtain ⟨hx, hy, hz⟩ := Axis.add3_mul_self_eq_zero h0.symm
  rcases p with ⟨px, py, pz⟩
  rcases q with ⟨qx, qy, qz⟩
  obtain rfl : px = qx := sub_eq_zero.mp hx
  obtain rfl : py = qy := sub_eq_zero.mp hy
  obtain rfl : pz = qz := sub_eq_zero.mp hz
  rfl

/-! ### the order on keys is the heap order of the code -/
def keyEmb (k : Key) : ℚ ×ₗ ℕᵒᵈ := toLex (k.d, OrderDual.toDual k.idx)
theorem keyEmb_inj : Function.Injective keyEmb := by
  rintro ⟨d, i⟩ ⟨d', i'⟩ h
  cases h
  rfl
instance : LinearOrder Key := LinearOrder.lift' keyEmb keyEmb_inj

theorem key_le_iff (a b : Key) : a ≤ b ↔ a.d < b.d ∨ (a.d = b.d ∧ b.idx ≤ a.idx) := by
  show keyEmb a ≤ keyEmb b ↔ _
  simp only [keyEmb, Prod.Lex.le_iff, ofLex_toLex, OrderDual.toDual_le_toDual]

/-- on constructors, so that the conclusion unifies with any `x ≤ y` in `ℚ`: against `a.d ≤ b.d` the unifier unfolds
    `x` looking for a projection, which is slow when `x` is a `dist2` -/
theorem d_le_of_le {d d' : Rat} {i i' : Nat} (h : (⟨d, i⟩ : Key) ≤ ⟨d', i'⟩) : d ≤ d' :=
  ((key_le_iff _ _).mp h).elim le_of_lt fun h => le_of_eq h.1

theorem keyLe_iff (a b : Key) : keyLe a b = true ↔ a ≤ b := by
  rw [key_le_iff]; simp [keyLe]

theorem insKey_eq (k : Nat) (x : Key) (r : List Key) : insKey k x r = ins k x r := by
  rw [insKey, ins,
    eq_orderedInsert (· ≤ ·) insKeySorted (fun _ => rfl) fun x y _ => if_congr (keyLe_iff x y) rfl rfl]

/-! ### the octree as an abstract search tree -/
variable (pt : Nat → P3) (q : P3) (bound : Option Rat)

/-- the admissible keys (`d <= distance_upper_bound`) among those of the indices `is` -/
def admKeys (is : List Nat) : List Key := (keysOf pt q is).filter fun x => !exceeds bound x.d

theorem admKeys_none (is : List Nat) : admKeys pt q none is = keysOf pt q is :=
  List.filter_eq_self.mpr fun _ _ => rfl

theorem idxs_of_isEmpty (t : Oct) (h : t.isEmpty = true) : t.idxs = [] := by
  cases t with
  | empty => rfl
  | leaf is => cases h
  | node kids => cases h

/-- what `kidList` lists: the non-empty children of an inner node, each with its own box (`empty` counts as an inner
    node without children) -/
theorem mem_kidList {b : Box} {t : Oct} {kids : List (Box × Oct)} (h : kidList b t = some kids) {bt : Box × Oct}
    (hbt : bt ∈ kids) : ∃ ks r, t = .node ks ∧ bt = (child b (r : Fin 8).val, ks r) ∧ (ks r).isEmpty = false := by
  cases t with
  | empty => cases h; cases hbt
  | leaf is => cases h
  | node ks =>
    cases h
    simp only [List.mem_filter, List.mem_map] at hbt
    obtain ⟨⟨r, _, rfl⟩, hne⟩ := hbt
    exact ⟨ks, r, rfl, rfl, by simpa using hne⟩

theorem idxs_kidList (b : Box) (t : Oct) (cs : List (Box × Oct)) (h : kidList b t = some cs) :
    t.idxs = cs.flatMap fun bt => bt.2.idxs := by
  cases t with
  | empty => cases h; rfl
  | leaf is => cases h
  | node kids =>
    cases h
    -- dropping the empty children does not change the concatenation
    rw [Axis.flatMap_filter _ _ (fun bt h => idxs_of_isEmpty bt.2 (by simpa using h)), List.flatMap_map]
    rfl

def octTree : SearchTree (Box × Oct) Key where
  pts := fun bt => admKeys pt q bound bt.2.idxs
  children := fun bt => kidList bt.1 bt.2
  children_pts := by
    rintro ⟨b, t⟩ cs h
    simp only [admKeys, keysOf]
    rw [idxs_kidList b t cs h, List.map_flatMap, List.filter_flatMap]

/-! ### every point stored under a box lies in the box -/
def WB : Box → Oct → Prop
  | _, .empty => True
  | b, .leaf is => ∀ i ∈ is, inBox b (pt i) = true
  | b, .node kids => ∀ r : Fin 8, WB (child b r.val) (kids r)

theorem WB_idxs (b : Box) (t : Oct) (h : WB pt b t) : ∀ i ∈ t.idxs, inBox b (pt i) = true := by
  induction t generalizing b with
  | empty => intro i hi; cases hi
  | leaf is => exact h
  | node kids ih =>
    intro i hi
    simp only [Oct.idxs, List.mem_flatMap] at hi
    obtain ⟨r, _, hir⟩ := hi
    exact child_sub b r.val (pt i) (ih r (child b r.val) (h r) i hir)

theorem WB_kids {b : Box} {t : Oct} {kids : List (Box × Oct)} (hw : 0 ≤ b.w) (h : WB pt b t)
    (hk : kidList b t = some kids) {bt : Box × Oct} (hbt : bt ∈ kids) : 0 ≤ bt.1.w ∧ WB pt bt.1 bt.2 := by
  obtain ⟨ks, r, rfl, rfl, _⟩ := mem_kidList hk hbt
  exact ⟨child_w_nonneg b _ hw, h r⟩

theorem WB_build (d : Nat) (b : Box) (is : List Nat) (hw : 0 ≤ b.w) (h : ∀ i ∈ is, inBox b (pt i) = true) :
    WB pt b (build pt d b is) := by
  induction d generalizing b is with
  | zero => exact h
  | succ d ih =>
    intro r
    show WB pt _ (if _ then Oct.empty else _)
    split
    · trivial
    · refine ih _ _ (child_w_nonneg b _ hw) fun i hi => ?_
      have hmem := List.mem_filter.mp hi
      exact of_decide_eq_true hmem.2 ▸ (pick_spec b (pt i) hw (h i hmem.1)).2

/-! ### the root holds every target: `build` only redistributes indices -/
theorem build_idxs_perm (d : Nat) (b : Box) (is : List Nat) : (build pt d b is).idxs.Perm is := by
  induction d generalizing b is with
  | zero => exact List.Perm.refl _
  | succ d ih =>
    refine (List.Perm.flatMap_left _ fun r _ => ?_).trans
      (Axis.classes_perm is (fun i => pick b (pt i)) fun i => pick_lt b (pt i))
    show (if _ then Oct.empty else _).idxs.Perm _
    split
    · rename_i he
      rw [List.isEmpty_iff.mp he]
      exact List.Perm.refl _
    · exact ih _ _

/-! ### simulation of the concrete loop by the abstract transition system -/

theorem lt_of_kthLt {res : List Key} (hs : res.Pairwise (· ≤ ·)) {d : Rat} (hk : kthLt res d = true) :
    ∀ y ∈ res, y.d < d := by
  intro y hy
  unfold kthLt at hk
  split at hk
  · rename_i m hm
    exact lt_of_le_of_lt (d_le_of_le (le_of_getLast? hs hm y hy)) (of_decide_eq_true hk)
  · cases hk

theorem insQ_perm (e : QEntry) (l : List QEntry) : (insQ e l).Perm (e :: l) :=
  eq_orderedInsert (fun e f : QEntry => e.1 ≤ f.1) insQ (fun _ => rfl) (fun _ _ _ => rfl) ▸ List.perm_orderedInsert _ e l

theorem foldr_insQ_perm (f : Box × Oct → Rat) (kids : List (Box × Oct)) (rest : List QEntry) :
    (kids.foldr (fun bt acc => insQ (f bt, bt) acc) rest).Perm ((kids.map fun bt => (f bt, bt)) ++ rest) := by
  induction kids with
  | nil => exact List.Perm.refl _
  | cons a t ih => exact (insQ_perm _ _).trans (List.Perm.cons _ ih)

theorem step_queue_all (P : QEntry → Prop)
    (hP : ∀ d b t kids, P (d, (b, t)) → kidList b t = some kids → ∀ bt ∈ kids, P (lb2 bt.1 q, bt))
    (k : Nat) (s : CSt) (h : ∀ e ∈ s.queue, P e) : ∀ e ∈ (step pt k bound q s).queue, P e := by
  obtain ⟨queue, res⟩ := s
  cases queue with
  | nil => exact h
  | cons e0 rest =>
    obtain ⟨d, b, t⟩ := e0
    have hrest : ∀ e ∈ rest, P e := fun e he => h e (List.mem_cons_of_mem _ he)
    simp only [step]
    split
    · exact hrest
    · cases hkl : kidList b t with
      | some kids =>
        intro e he
        rcases List.mem_append.mp ((foldr_insQ_perm (fun bt => lb2 bt.1 q) kids rest).subset he) with he | he
        · obtain ⟨bt, hbt, rfl⟩ := List.mem_map.mp he
          exact hP d b t kids (h _ List.mem_cons_self) hkl bt hbt
        · exact hrest e he
      | none => exact hrest

theorem iter_inv {σ : Type} (P : σ → Prop) (f : σ → σ) (h : ∀ s, P s → P (f s)) (n : Nat) (s : σ) (hs : P s) :
    P (iter f n s) := by
  induction n generalizing s with
  | zero => exact hs
  | succ n ih => exact ih _ (h s hs)

/-- the concrete state, with the keys of its queue entries dropped and suitable ghost lists `seen` and `disc`,
    satisfies the invariant of the abstract search (`abs`); every queued box has non-negative width, holds the points
    stored under it, and is queued with a key that is at most its lower bound (`wb`) -/
structure Sim (k : Nat) (all : List Key) (s : CSt) : Prop where
  abs : ∃ seen disc, SInv (octTree pt q bound) k all ⟨s.queue.map Prod.snd, s.res, seen, disc⟩
  wb : ∀ e ∈ s.queue, 0 ≤ e.2.1.w ∧ WB pt e.2.1 e.2.2 ∧ e.1 ≤ lb2 e.2.1 q

theorem sim_step (k : Nat) (all : List Key) (s : CSt) (h : Sim pt q bound k all s) :
    Sim pt q bound k all (step pt k bound q s) := by
  obtain ⟨⟨seen, disc, hinv⟩, hwb⟩ := h
  refine ⟨?_, step_queue_all pt q bound _ (fun d b t kids h hk bt hbt => ?_) k s hwb⟩
  · obtain ⟨queue, res⟩ := s
    cases queue with
    | nil => exact ⟨seen, disc, hinv⟩
    | cons e rest =>
      obtain ⟨d, b, t⟩ := e
      obtain ⟨hw, hWB, hd⟩ := hwb (d, (b, t)) List.mem_cons_self
      -- every key under (b, t) is admissible and at least as far as the queued lower bound
      have hfar : ∀ x ∈ (octTree pt q bound).pts (b, t), d ≤ x.d ∧ exceeds bound x.d = false := by
        intro x hx
        simp only [octTree, admKeys, List.mem_filter, keysOf, List.mem_map] at hx
        obtain ⟨⟨i, hi, rfl⟩, hadm⟩ := hx
        exact ⟨le_trans hd (lb2_le b q (pt i) (WB_idxs pt b t hWB i hi)), by simpa using hadm⟩
      simp only [step]
      split
      · rename_i hcond
        rcases hcond with ⟨hfull, hk⟩ | hex
        · -- prune against the k-th best
          refine ⟨seen, _, step_inv hinv (Step.skip (b, t) (rest.map Prod.snd) res seen disc hfull ?_)⟩
          intro x hx y hy
          exact (key_le_iff y x).mpr (Or.inl (lt_of_lt_of_le (lt_of_kthLt hinv.best.sorted hk y hy) (hfar x hx).1))
        · -- the whole box lies beyond the distance bound: nothing admissible below it
          have hnil : (octTree pt q bound).pts (b, t) = [] := by
            apply List.eq_nil_iff_forall_not_mem.mpr
            intro x hx
            obtain ⟨hdx, hadm⟩ := hfar x hx
            cases bound with
            | none => cases hex
            | some bd =>
              simp only [exceeds, decide_eq_true_eq, decide_eq_false_iff_not, not_lt] at hex hadm
              exact absurd (lt_of_lt_of_le hex hdx) (not_lt.mpr hadm)
          exact ⟨seen, disc, step_inv hinv (Step.drop (b, t) (rest.map Prod.snd) res seen disc hnil)⟩
      · cases hkl : kidList b t with
        | some kids =>
          -- expand, then account for the sorted insertion by a reordering of the multiset queue
          have hexp := step_inv hinv (Step.expand (b, t) kids (rest.map Prod.snd) res seen disc hkl)
          have hre : (kids ++ rest.map Prod.snd).Perm
              ((kids.foldr (fun bt acc => insQ (lb2 bt.1 q, bt) acc) rest).map Prod.snd) := by
            have := ((foldr_insQ_perm (fun bt => lb2 bt.1 q) kids rest).map Prod.snd).symm
            simpa [List.map_append, List.map_map, Function.comp_def] using this
          exact ⟨seen, disc, step_inv hexp (Step.reorder _ _ res seen disc hre)⟩
        | none =>
          have hscan := step_inv hinv (Step.scan (b, t) (rest.map Prod.snd) res seen disc hkl)
          have hfun : (fun r x => insKey k x r) = (fun r x => ins k x r) := by
            funext r x; exact insKey_eq k x r
          refine ⟨((octTree pt q bound).pts (b, t)).reverse ++ seen, disc, ?_⟩
          simpa [octTree, admKeys, hfun] using hscan
  · obtain ⟨hw', hWB'⟩ := WB_kids pt h.1 h.2.1 hk hbt
    exact ⟨hw', hWB', le_refl _⟩

/-- the initial state simulates the abstract system for any well-boxed tree -/
theorem sim_init (k : Nat) (root : Box) (t : Oct) (hw : 0 ≤ root.w) (hWB : WB pt root t) :
    Sim pt q bound k (admKeys pt q bound t.idxs) ⟨[(0, (root, t))], []⟩ := by
  refine ⟨⟨[], [], ⟨?_, isBest_nil k, by simp⟩⟩, ?_⟩
  · simp [octTree]
  · intro e he
    cases List.mem_singleton.mp he
    exact ⟨hw, hWB, lb2_nonneg root q⟩

/-- whenever the concrete best-first loop over a well-boxed octree has emptied its queue, its result heap holds
    the `k` best admissible keys of the indices stored in the tree -/
theorem knn_correct_tree (k : Nat) (root : Box) (t : Oct) (hw : 0 ≤ root.w) (hWB : WB pt root t) (fuel : Nat)
    (hq : (knnRun pt k bound root t q fuel).queue = []) :
    IsBest k (admKeys pt q bound t.idxs) (knnRun pt k bound root t q fuel).res := by
  obtain ⟨⟨seen, disc, hinv⟩, _⟩ := iter_inv _ _ (sim_step pt q bound k _) fuel _ (sim_init pt q bound k root t hw hWB)
  exact final_best hinv (congrArg (List.map Prod.snd) hq)

/-- `knn_correct_tree` for the tree built over the targets `0..n-1` inside the root box; C16_knn_refines is this with
    the fuel that `knnRun_queue_empty` shows sufficient -/
theorem knn_correct (n depth k : Nat) (root : Box) (hw : 0 ≤ root.w)
    (hall : ∀ i, i < n → inBox root (pt i) = true) (fuel : Nat)
    (hq : (knnRun pt k bound root (build pt depth root (List.range n)) q fuel).queue = []) :
    IsBest k (admKeys pt q bound (List.range n)) (knnRun pt k bound root (build pt depth root (List.range n)) q fuel).res :=
  isBest_perm
    (knn_correct_tree pt q bound k root _ hw
      (WB_build pt depth root _ hw fun i hi => hall i (List.mem_range.mp hi)) fuel hq)
    (((build_idxs_perm pt depth root (List.range n)).map _).filter _)

end Femio.C16
