import Femio.Lemmas.C16Knn

/-! Termination of the three work-list loops over an octree (k-nearest, `calc_frm_node`, `calc_frm`) with fuel =
    number of tree nodes: each loop has a measure (the tree nodes still queued) that every iteration lowers by at least
    one as long as it is not zero. The fourth work-list loop of C16, the hop-graph BFS, ends for another reason (no
    vertex is popped twice, fuel = number of vertices): `bfs_correct` in `Bfs.lean`. -/
namespace Femio.C16

theorem iter_measure {σ : Type} (f : σ → σ) (μ : σ → Nat) (h : ∀ s, μ (f s) ≤ μ s - 1) (n : Nat) (s : σ) :
    μ (iter f n s) ≤ μ s - n := by
  induction n generalizing s with
  | zero => exact le_refl _
  | succ n ih =>
    refine (ih (f s)).trans ?_
    rw [Nat.add_comm, Nat.sub_add_eq]
    exact Nat.sub_le_sub_right (h s) n

/-- total number of tree nodes waiting in the queue -/
def qsize (queue : List QEntry) : Nat := (queue.map fun e => e.2.2.size).sum

theorem Oct.size_pos (t : Oct) : 1 ≤ t.size := by
  cases t <;> simp [Oct.size]

theorem qsize_nil : qsize [] = 0 := rfl

theorem qsize_cons (e : QEntry) (l : List QEntry) : qsize (e :: l) = e.2.2.size + qsize l := by
  simp [qsize]

theorem qsize_append (l l' : List QEntry) : qsize (l ++ l') = qsize l + qsize l' := by
  simp [qsize]

theorem qsize_perm {l l' : List QEntry} (h : l.Perm l') : qsize l = qsize l' :=
  (h.map _).sum_nat

theorem qsize_eq_zero {l : List QEntry} (h : qsize l = 0) : l = [] := by
  cases l with
  | nil => rfl
  | cons e t =>
    rw [qsize_cons] at h
    have := Oct.size_pos e.2.2
    omega

theorem sum_filter_le {α : Type} (g : α → Nat) (p : α → Bool) (l : List α) :
    ((l.filter p).map g).sum ≤ (l.map g).sum := by
  induction l with
  | nil => simp
  | cons a t ih =>
    cases h : p a
    · rw [List.filter_cons_of_neg (by simp [h]), List.map_cons, List.sum_cons]
      omega
    · rw [List.filter_cons_of_pos h, List.map_cons, List.map_cons, List.sum_cons, List.sum_cons]
      omega

/-- the children listed by `kidList` are strictly smaller than the tree in total -/
theorem kidList_size (b : Box) (t : Oct) (kids : List (Box × Oct)) (h : kidList b t = some kids) :
    (kids.map fun bt => bt.2.size).sum + 1 ≤ t.size := by
  cases t with
  | empty => cases h; simp [Oct.size]
  | leaf is => cases h
  | node ks =>
    cases h
    have h1 := sum_filter_le (fun bt : Box × Oct => bt.2.size) (fun bt => !bt.2.isEmpty)
      ((List.finRange 8).map fun r => (child b r.val, ks r))
    simp only [List.map_map, Function.comp_def] at h1
    simp only [Oct.size]
    omega

/-- the inserted (possibly filtered) children weigh less than the expanded node -/
theorem qsize_expand (f : Box × Oct → Rat) (p : Box × Oct → Bool) (b : Box) (t : Oct)
    (kids : List (Box × Oct)) (rest : List QEntry) (h : kidList b t = some kids) :
    qsize ((kids.filter p).foldr (fun bt acc => insQ (f bt, bt) acc) rest) + 1 ≤ t.size + qsize rest := by
  rw [qsize_perm (foldr_insQ_perm f _ rest), qsize_append]
  simp only [qsize, List.map_map, Function.comp_def]
  have h1 := sum_filter_le (fun bt : Box × Oct => bt.2.size) p kids
  have h2 := kidList_size b t kids h
  omega

theorem step_qsize (pt : Nat → P3) (k : Nat) (bound : Option Rat) (q : P3) (s : CSt) :
    qsize (step pt k bound q s).queue ≤ qsize s.queue - 1 := by
  obtain ⟨queue, res⟩ := s
  cases queue with
  | nil => exact le_refl _
  | cons e rest =>
    obtain ⟨d, b, t⟩ := e
    have hpos := Oct.size_pos t
    refine Nat.le_sub_one_of_lt ?_
    simp only [step]
    split
    · simp only [qsize_cons]; omega
    · cases hkl : kidList b t with
      | some kids =>
        simp only [qsize_cons]
        have := qsize_expand (fun bt => lb2 bt.1 q) (fun _ => true) b t kids rest hkl
        simp only [List.filter_true] at this
        omega
      | none => simp only [qsize_cons]; omega

theorem knnRun_queue_empty (pt : Nat → P3) (k : Nat) (bound : Option Rat) (root : Box) (t : Oct) (q : P3) :
    (knnRun pt k bound root t q t.size).queue = [] := by
  have h : qsize (knnRun pt k bound root t q t.size).queue ≤ qsize [(0, (root, t))] - t.size :=
    iter_measure _ (fun s : CSt => qsize s.queue) (step_qsize pt k bound q) t.size _
  exact qsize_eq_zero (by simpa [qsize] using h)

/-- total correctness of the k-nearest search with the fuel the model actually uses (`knn`) -/
theorem knn_correct_total (pt : Nat → P3) (q : P3) (bound : Option Rat) (n depth k : Nat) (root : Box)
    (hw : 0 ≤ root.w) (hall : ∀ i, i < n → inBox root (pt i) = true) :
    IsBest k (admKeys pt q bound (List.range n))
      (knnRun pt k bound root (build pt depth root (List.range n)) q
        (build pt depth root (List.range n)).size).res :=
  knn_correct pt q bound n depth k root hw hall _ (knnRun_queue_empty pt k bound root _ q)

/-! ### `calc_frm_node` -/

theorem ubStep_qsize (a : Box) (s : List QEntry × Option Rat) : qsize (ubStep a s).1 ≤ qsize s.1 - 1 := by
  obtain ⟨queue, dist⟩ := s
  cases queue with
  | nil => exact le_refl _
  | cons e rest =>
    obtain ⟨d, b, t⟩ := e
    have hpos := Oct.size_pos t
    refine Nat.le_sub_one_of_lt ?_
    simp only [ubStep]
    split
    · simp only [qsize_cons]; omega
    · cases hkl : kidList b t with
      | some kids =>
        simp only [qsize_cons]
        have := qsize_expand (fun bt => ubNode2 a bt.1) (fun bt => ltOpt (ubNode2 a bt.1) dist) b t kids rest hkl
        omega
      | none => simp only [qsize_cons]; omega

theorem ubRun_queue_empty (a root : Box) (tB : Oct) : (ubRun a root tB tB.size).1 = [] := by
  have h : qsize (ubRun a root tB tB.size).1 ≤ qsize [(0, (root, tB))] - tB.size :=
    iter_measure _ (fun s : List QEntry × Option Rat => qsize s.1) (ubStep_qsize a) tB.size _
  exact qsize_eq_zero (by simpa [qsize] using h)

/-! ### `calc_frm` with the early exit -/

/-- the measure of `calc_frm`: nothing is left to do after the early exit -/
def nnsize (h : HSt) : Nat := if h.exit then 0 else qsize h.s.queue

theorem nnStep_nnsize (pt : Nat → P3) (HD : Rat) (q : P3) (h : HSt) : nnsize (nnStep pt HD q h) ≤ nnsize h - 1 := by
  by_cases he : h.exit = true
  · -- after the exit the state stays and its measure is 0
    rw [nnStep, if_pos he, nnsize, if_pos he]
  · rw [nnStep, if_neg he]
    by_cases hx : exitNow HD q h.s = true
    · rw [if_pos hx]
      exact Nat.zero_le _
    · rw [if_neg hx]
      show qsize (step pt 1 none q h.s).queue ≤ nnsize h - 1
      rw [nnsize, if_neg he]
      exact step_qsize pt 1 none q h.s

theorem nnRun_done (pt : Nat → P3) (root : Box) (tB : Oct) (HD : Rat) (q : P3) :
    (nnRun pt root tB HD q tB.size).exit = true ∨ (nnRun pt root tB HD q tB.size).s.queue = [] := by
  have h : nnsize (nnRun pt root tB HD q tB.size) ≤ qsize [(0, (root, tB))] - tB.size :=
    iter_measure _ nnsize (nnStep_nnsize pt HD q) tB.size _
  have h0 : nnsize (nnRun pt root tB HD q tB.size) = 0 := by simpa [qsize] using h
  unfold nnsize at h0
  split at h0
  · exact Or.inl ‹_›
  · exact Or.inr (qsize_eq_zero h0)

end Femio.C16

#print axioms Femio.C16.knnRun_queue_empty
#print axioms Femio.C16.ubRun_queue_empty
#print axioms Femio.C16.nnRun_done
#print axioms Femio.C16.knn_correct_total
