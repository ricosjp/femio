import Femio.Model.CompressAdmit
import Mathlib.Data.Real.Basic
import Mathlib.Data.Rat.Cast.Order
import Mathlib.Tactic.Ring
import Mathlib.Tactic.SplitIfs

/-! What the proofs about the admission test of `remove_edges` rest on: the Prop `CosGe` that the Boolean `cosGe` decides,
its reading as `T * s ≤ d` over an ordered field, and the shoelace sum along a path into which the fan sum telescopes. -/
namespace Femio.C20
open V3

section
variable {K : Type} [Field K] [LinearOrder K] [IsStrictOrderedRing K]

/-- the Prop the Boolean `cosGe` decides, over any ordered field -/
def CosGe (d q T : K) : Prop :=
  q ≠ 0 ∧ ((T ≤ 0 ∧ (0 ≤ d ∨ d * d ≤ T * T * q)) ∨ (0 < T ∧ 0 ≤ d ∧ T * T * q ≤ d * d))

theorem le_iff_sign_sq (t d : K) :
    ((t ≤ 0 ∧ (0 ≤ d ∨ d * d ≤ t * t)) ∨ (0 < t ∧ 0 ≤ d ∧ t * t ≤ d * d)) ↔ t ≤ d := by
  rcases le_or_gt t 0 with ht | ht
  · rcases le_or_gt 0 d with hd | hd
    · exact ⟨fun _ => ht.trans hd, fun _ => Or.inl ⟨ht, Or.inl hd⟩⟩
    · have key : d * d ≤ t * t ↔ t ≤ d := by
        rw [← neg_mul_neg d d, ← neg_mul_neg t t,
          ← mul_self_le_mul_self_iff (neg_nonneg.mpr hd.le) (neg_nonneg.mpr ht), neg_le_neg_iff]
      constructor
      · rintro (⟨_, h | h⟩ | ⟨h, _⟩)
        · exact absurd h (not_le.mpr hd)
        · exact key.mp h
        · exact absurd h (not_lt.mpr ht)
      · exact fun h => Or.inl ⟨ht, Or.inr (key.mpr h)⟩
  · constructor
    · rintro (⟨h, _⟩ | ⟨_, hd, h⟩)
      · exact absurd ht (not_lt.mpr h)
      · exact (mul_self_le_mul_self_iff ht.le hd).mpr h
    · intro h
      have hd : 0 ≤ d := ht.le.trans h
      exact Or.inr ⟨ht, hd, (mul_self_le_mul_self_iff ht.le hd).mp h⟩

theorem cosGe_field_iff (d q T s : K) (hs : 0 < s) (hq : s * s = q) : CosGe d q T ↔ T * s ≤ d := by
  subst hq
  have hT : T ≤ 0 ↔ T * s ≤ 0 := by rw [← not_lt, ← not_lt, mul_pos_iff_of_pos_right hs]
  have hsq : T * T * (s * s) = T * s * (T * s) := by ring
  unfold CosGe
  rw [hT, ← mul_pos_iff_of_pos_right hs, hsq, le_iff_sign_sq]
  exact and_iff_right (mul_pos hs hs).ne'
end

theorem cosGe_eq_true_iff (d q T : Rat) : cosGe d q T = true ↔ CosGe d q T := by
  unfold cosGe CosGe
  split_ifs with hq hT
  · exact ⟨False.elim, fun h => h.1 hq⟩
  · rw [Bool.or_eq_true, decide_eq_true_eq, decide_eq_true_eq]
    exact ⟨fun h => ⟨hq, Or.inl ⟨hT, h⟩⟩, fun h => h.2.elim (·.2) fun h' => absurd hT (not_le.mpr h'.1)⟩
  · rw [Bool.and_eq_true, decide_eq_true_eq, decide_eq_true_eq]
    exact ⟨fun h => ⟨hq, Or.inr ⟨not_le.mp hT, h⟩⟩, fun h => h.2.elim (fun h' => absurd h'.1 hT) (·.2)⟩

theorem CosGe_cast (d q T : Rat) : CosGe (d : ℝ) (q : ℝ) (T : ℝ) ↔ CosGe d q T := by
  simp only [CosGe, ← Rat.cast_mul, Rat.cast_le, Rat.cast_ne_zero, Rat.cast_nonneg, Rat.cast_nonpos, Rat.cast_pos]

theorem V3.ext3 {R : Type} {u v : V3 R} (hx : u.x = v.x) (hy : u.y = v.y) (hz : u.z = v.z) : u = v := by
  cases u; cases v; simp_all

section
variable {R : Type} [CommRing R]

/-- shoelace sum along a path starting at `prev` -/
def pathFrom : V3 R → List (V3 R) → V3 R
  | _, [] => zero3
  | prev, b :: rest => V3.add (cross prev b) (pathFrom b rest)

def pathLast : V3 R → List (V3 R) → V3 R
  | prev, [] => prev
  | _, b :: rest => pathLast b rest

omit [CommRing R] in
theorem pathLast_append (a : V3 R) (ps : List (V3 R)) (x : V3 R) : pathLast a (ps ++ [x]) = x := by
  induction ps generalizing a with
  | nil => rfl
  | cons b rest ih => simpa [pathLast] using ih b

theorem pathFrom_append (a : V3 R) (ps : List (V3 R)) (x : V3 R) :
    pathFrom a (ps ++ [x]) = V3.add (pathFrom a ps) (cross (pathLast a ps) x) := by
  induction ps generalizing a with
  | nil => apply V3.ext3 <;> simp only [List.nil_append, pathFrom, pathLast, V3.add, zero3] <;> ring
  | cons b rest ih =>
    simp only [List.cons_append, pathFrom, pathLast, ih b]
    apply V3.ext3 <;> simp only [V3.add] <;> ring

/-- the fan from `p0` telescopes into the shoelace sum of the path plus the two terms closing it through `p0` -/
theorem fanFrom_eq (p0 a : V3 R) (ps : List (V3 R)) :
    fanFrom p0 a ps = V3.sub (V3.add (pathFrom a ps) (cross p0 a)) (cross p0 (pathLast a ps)) := by
  induction ps generalizing a with
  | nil => apply V3.ext3 <;> simp only [fanFrom, pathFrom, pathLast, V3.add, V3.sub, zero3] <;> ring
  | cons b rest ih =>
    simp only [fanFrom, pathFrom, pathLast, ih b]
    apply V3.ext3 <;> simp only [V3.add, V3.sub, cross] <;> ring

end

end Femio.C20
