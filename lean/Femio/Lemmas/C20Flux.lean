import Femio.Lemmas.C20Rv2

/-! C20 — the flux (6 × volume by femio's polyhedron kernel: per face the fan from its first node) of cells with
    planar faces: independence of the apex, of the rotation of the face, oddness under reversal. -/
namespace Femio.C20
open Faces V3

section
variable {R : Type} [CommRing R]

/-- `Σ_{i ≥ 2} det P₀ P_{i-1} P_i` for the face `f` with node positions `pos` -/
def faceFlux (pos : Nat → V3 R) (f : Face) : R := fanFlux (f.map pos)
/-- `_calculate_element_volumes_polyhedron_core` of one cell: 6·V -/
def cellFlux (pos : Nat → V3 R) (c : Cell) : R := (c.map (faceFlux pos)).sum
def totalFlux (pos : Nat → V3 R) (cells : List Cell) : R := (cells.map (cellFlux pos)).sum

/-- the nodes of the face are coplanar: every four of them span a degenerate tetrahedron.  Only the set of nodes
matters (`cop_of_sub`), so that two faces lie in one plane is written `Cop pos (f1 ++ f2)`: the list stands for the
union of their nodes, not for a face -/
def Cop (pos : Nat → V3 R) (f : Face) : Prop :=
  ∀ a ∈ f, ∀ x ∈ f, ∀ y ∈ f, ∀ b ∈ f, det (pos a - pos b) (pos x - pos b) (pos y - pos b) = 0

/-- edge weight `det u P_x P_y`; its sum over the edges of a face is `u · (2 × area vector)` -/
def ωu (pos : Nat → V3 R) (u : V3 R) : Nat × Nat → R := fun e => det u (pos e.1) (pos e.2)

theorem ωu_anti (pos : Nat → V3 R) (u : V3 R) (x y : Nat) : ωu pos u (y, x) = - ωu pos u (x, y) := by
  simp only [ωu, det]; ring

theorem ωu_diag (pos : Nat → V3 R) (u : V3 R) (x : Nat) : ωu pos u (x, x) = 0 := by
  simp only [ωu, det]; ring

theorem cop_of_sub {pos : Nat → V3 R} {f g : Face} (h : Cop pos f) (hs : ∀ v ∈ g, v ∈ f) : Cop pos g :=
  fun a ha x hx y hy b hb => h a (hs a ha) x (hs x hx) y (hs y hy) b (hs b hb)

theorem cop_rot {pos : Nat → V3 R} {f g : Face} (h : Cop pos f) (hr : f ~r g) : Cop pos g :=
  cop_of_sub h fun _ hv => hr.perm.mem_iff.mpr hv

theorem dot_pathCross_map (pos : Nat → V3 R) (u : V3 R) (l : List Nat) :
    dot u (pathCross (l.map pos)) = esum (ωu pos u) (pathEdges l) := by
  induction l with
  | nil => simp [pathCross, pathEdges, dot_zero, esum_nil]
  | cons a l ih =>
    cases l with
    | nil => simp [pathCross, pathEdges, dot_zero, esum_nil]
    | cons b l =>
      simp only [List.map_cons] at ih ⊢
      rw [pathCross, dot_add, ih, pathEdges, esum_cons, ← det_eq_dot_cross]
      rfl

theorem dot_cycArea2_map (pos : Nat → V3 R) (u : V3 R) (f : Face) :
    dot u (cycArea2 (f.map pos)) = esum (ωu pos u) (dirEdges f) := by
  cases f with
  | nil => exact dot_zero u
  | cons a t =>
    rw [List.map_cons, cycArea2_cons, dirEdges_eq_pathEdges, ← dot_pathCross_map]
    simp

/-- the flux of a face is the edge sum of `det P₀ · ·` -/
theorem faceFlux_eq_esum (pos : Nat → V3 R) (a : Nat) (t : List Nat) :
    faceFlux pos (a :: t) = esum (ωu pos (pos a)) (dirEdges (a :: t)) := by
  rw [← dot_cycArea2_map, faceFlux, List.map_cons, fanFlux_eq_dot]

theorem esum_eq_zero {ω : Nat × Nat → R} {es : List (Nat × Nat)} (h : ∀ e ∈ es, ω e = 0) : esum ω es = 0 := by
  induction es with
  | nil => rfl
  | cons e es ih =>
    rw [esum_cons, h e List.mem_cons_self, ih fun e' he' => h e' (List.mem_cons_of_mem _ he'), add_zero]

theorem esum_eq_add {ω1 ω2 ω3 : Nat × Nat → R} {es : List (Nat × Nat)} (h : ∀ e ∈ es, ω1 e = ω2 e + ω3 e) :
    esum ω1 es = esum ω2 es + esum ω3 es := by
  unfold esum
  rw [List.map_congr_left h, List.sum_map_add]

theorem esum_map_swap {ω : Nat × Nat → R} (hanti : ∀ x y, ω (y, x) = - ω (x, y)) (es : List (Nat × Nat)) :
    esum ω (es.map Prod.swap) = - esum ω es := by
  induction es with
  | nil => simp [esum_nil]
  | cons e es ih =>
    obtain ⟨x, y⟩ := e
    rw [List.map_cons, esum_cons, esum_cons, ih, Prod.swap_prod_mk, hanti]
    ring

theorem esum_tele_path (F : Nat → R) (a : Nat) (t : List Nat) (z : Nat) :
    esum (fun e => F e.2 - F e.1) (pathEdges (a :: t ++ [z])) = F z - F a := by
  induction t generalizing a with
  | nil => simp [pathEdges, esum_cons, esum_nil]
  | cons b t ih =>
    have := ih b
    simp only [List.cons_append] at this ⊢
    rw [pathEdges, esum_cons, this]
    ring

theorem esum_tele (F : Nat → R) (f : Face) : esum (fun e => F e.2 - F e.1) (dirEdges f) = 0 := by
  cases f with
  | nil => rfl
  | cons a t => rw [dirEdges_eq_pathEdges, esum_tele_path, sub_self]

theorem det_apex (A B X Y : V3 R) :
    det A X Y = det B X Y + (det (A - B) (X - B) (Y - B) + (det (A - B) B Y - det (A - B) B X)) := by
  show det A X Y = det B X Y + (det (V3.sub A B) (V3.sub X B) (V3.sub Y B)
    + (det (V3.sub A B) B Y - det (V3.sub A B) B X))
  simp only [det, V3.sub]; ring

/-- for a planar face the edge sum does not depend on which of its nodes is the apex -/
theorem esum_apex {pos : Nat → V3 R} {f : Face} (h : Cop pos f) {a b : Nat} (ha : a ∈ f) (hb : b ∈ f) :
    esum (ωu pos (pos a)) (dirEdges f) = esum (ωu pos (pos b)) (dirEdges f) := by
  have h1 : ∀ e ∈ dirEdges f, ωu pos (pos a) e = ωu pos (pos b) e
      + (fun e : Nat × Nat => det (pos a - pos b) (pos b) (pos e.2) - det (pos a - pos b) (pos b) (pos e.1)) e := by
    intro e he
    obtain ⟨hx, hy⟩ := mem_of_mem_dirEdges he
    have := det_apex (pos a) (pos b) (pos e.1) (pos e.2)
    rw [h a ha e.1 hx e.2 hy b hb, zero_add] at this
    exact this
  rw [esum_eq_add h1, esum_tele (fun z => det (pos a - pos b) (pos b) (pos z)), add_zero]

/-- the flux of a planar face is the edge sum with any of its nodes as apex -/
theorem faceFlux_eq_esum_of_mem {pos : Nat → V3 R} {f : Face} (h : Cop pos f) {a : Nat} (ha : a ∈ f) :
    faceFlux pos f = esum (ωu pos (pos a)) (dirEdges f) := by
  cases f with
  | nil => simp at ha
  | cons b t => rw [faceFlux_eq_esum]; exact esum_apex h List.mem_cons_self ha

/-- the flux of a planar face does not depend on the node it is written from -/
theorem faceFlux_rot {pos : Nat → V3 R} {f g : Face} (h : Cop pos f) (hr : f ~r g) :
    faceFlux pos f = faceFlux pos g := by
  cases f with
  | nil => rw [List.isRotated_nil_iff'.mp hr]
  | cons a t =>
    have ha : a ∈ g := hr.perm.mem_iff.mp List.mem_cons_self
    rw [faceFlux_eq_esum, faceFlux_eq_esum_of_mem (cop_rot h hr) ha]
    exact esum_rot _ hr

theorem faceFlux_reverse {pos : Nat → V3 R} {f : Face} (h : Cop pos f) :
    faceFlux pos f.reverse = - faceFlux pos f := by
  cases hf : f.reverse with
  | nil =>
    have : f = [] := List.reverse_eq_nil_iff.mp hf
    subst this
    simp [faceFlux, fanFlux]
  | cons z t' =>
    have hz : z ∈ f := by
      have : z ∈ f.reverse := by rw [hf]; exact List.mem_cons_self
      exact List.mem_reverse.mp this
    rw [faceFlux_eq_esum, ← hf, esum_perm _ (dirEdges_reverse_perm f),
      esum_map_swap (ωu_anti pos _), faceFlux_eq_esum_of_mem h hz]

/-- the sum of an antisymmetric edge weight over a balanced edge list vanishes: every edge is removed together
with one copy of its reverse -/
theorem esum_bal_zero (ω : Nat × Nat → R) (hanti : ∀ x y, ω (y, x) = - ω (x, y)) (hdiag : ∀ x, ω (x, x) = 0)
    {es : List (Nat × Nat)} (h : Bal es) : esum ω es = 0 := by
  induction hn : es.length using Nat.strong_induction_on generalizing es with
  | _ n ih =>
    cases es with
    | nil => rfl
    | cons e tl =>
      obtain ⟨x, y⟩ := e
      by_cases hxy : x = y
      · subst hxy
        rw [esum_cons, hdiag, zero_add]
        exact ih tl.length (by simp [← hn]) (bal_of_append_left (e1 := [(x, x)]) h (bal_short [x] (Nat.le_succ 1))) rfl
      · have hmem : (y, x) ∈ tl := by
          have : ((x, y) :: tl).count (x, y) = ((x, y) :: tl).count (y, x) := h (x, y)
          rw [List.count_cons_self, List.count_cons_of_ne (show (x, y) ≠ (y, x) from fun e => hxy (Prod.mk.inj e).1)] at this
          exact List.count_pos_iff.mp (by omega)
        have hp := List.perm_cons_erase hmem
        have hbal : Bal (tl.erase (y, x)) :=
          bal_of_append_left (e1 := [(x, y), (y, x)]) (bal_of_perm (hp.cons _) h) (pair_bal x y)
        have hlen : (tl.erase (y, x)).length < n := by
          rw [List.length_erase_of_mem hmem, ← hn, List.length_cons]
          omega
        rw [esum_cons, esum_perm ω hp, esum_cons, hanti, ih _ hlen hbal rfl]
        ring

/-- faces with at most two nodes have no flux -/
theorem faceFlux_short (pos : Nat → V3 R) {f : Face} (h : f.length ≤ 2) : faceFlux pos f = 0 := by
  match f, h with
  | [], _ => rfl
  | [_], _ => rfl
  | [_, _], _ => rfl

end

end Femio.C20
