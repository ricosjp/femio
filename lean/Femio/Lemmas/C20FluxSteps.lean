import Femio.Lemmas.C20Flux
import Femio.Lemmas.C20Pipeline

/-! C20 — conservation of the total flux (6 × volume) along a run of the transition system, on cells whose faces are
    planar: `removeOneEdge` (two faces merged along an edge, coplanar by hypothesis), `remove_vertices_2` (no hypothesis
    beyond planar faces), `shrink` (the dropped cells are flat), `merge_polyhedrons` along a partition of the cells (the
    face flux is a `MergeOK` weight), and the final renumbering. -/
namespace Femio.C20
open Faces V3

section
variable {R : Type} [CommRing R]

/-- all faces of the state are planar -/
def AllCop (pos : Nat → V3 R) (cells : List Cell) : Prop := ∀ c ∈ cells, ∀ f ∈ c, Cop pos f

theorem getD_cop (pos : Nat → V3 R) {cells : List Cell} (hcop : AllCop pos cells) (i : Nat) :
    ∀ f ∈ cells.getD i [], Cop pos f := by
  rcases getD_nil_or_mem cells i with h' | h'
  · rw [h']; exact fun f hf => absurd hf List.not_mem_nil
  · exact hcop _ h'

theorem cellFlux_cons (pos : Nat → V3 R) (f : Face) (c : Cell) :
    cellFlux pos (f :: c) = faceFlux pos f + cellFlux pos c := List.sum_cons

theorem cellFlux_append (pos : Nat → V3 R) (c1 c2 : Cell) :
    cellFlux pos (c1 ++ c2) = cellFlux pos c1 + cellFlux pos c2 := by
  rw [cellFlux, List.map_append, List.sum_append]; rfl

theorem cellFlux_perm (pos : Nat → V3 R) {c1 c2 : Cell} (h : c1.Perm c2) : cellFlux pos c1 = cellFlux pos c2 :=
  (h.map _).sum_eq

theorem sum_map_filter {α : Type} (g : α → R) (p : α → Bool) (l : List α) (h : ∀ x ∈ l, p x = false → g x = 0) :
    ((l.filter p).map g).sum = (l.map g).sum := by
  induction l with
  | nil => rfl
  | cons x t ih =>
    have iht := ih fun y hy => h y (List.mem_cons_of_mem _ hy)
    cases hp : p x
    · rw [List.filter_cons_of_neg (by simp [hp]), iht, List.map_cons, List.sum_cons, h x List.mem_cons_self hp, zero_add]
    · rw [List.filter_cons_of_pos hp, List.map_cons, List.sum_cons, iht, List.map_cons, List.sum_cons]

/-! ### merging two faces along an edge -/

/-- the flux of the merged face is the sum of the two fluxes as soon as the first face is planar: `Cop` makes
`pos A - pos B` orthogonal to its area vector (`esum_apex`), which is all `fanFlux_merge_of_edge` asks for -/
theorem faceFlux_mergeAlong (pos : Nat → V3 R) (A B : Nat) (p q : List Nat) (h1 : Cop pos (A :: B :: p)) :
    faceFlux pos (mergeAlong A B p q) = faceFlux pos (A :: B :: p) + faceFlux pos (B :: A :: q) := by
  have hAB : dot (pos A - pos B) (cycArea2 ((A :: B :: p).map pos)) = 0 := by
    rw [sub_dot, dot_cycArea2_map, dot_cycArea2_map,
      esum_apex h1 List.mem_cons_self (List.mem_cons_of_mem _ List.mem_cons_self), sub_self]
  simp only [faceFlux, mergeAlong, List.map_cons, List.map_append] at hAB ⊢
  exact fanFlux_merge_of_edge (pos A) (pos B) (p.map pos) (q.map pos) hAB

theorem removeOneEdge_flux (pos : Nat → V3 R) {A B : Nat} {c c' : Cell} (hc : CellOK c)
    (hcop : ∀ f ∈ c, Cop pos f)
    (hmerge : ∀ f1 ∈ c, ∀ f2 ∈ c, hasE A B f1 = true → hasE B A f2 = true → Cop pos (f1 ++ f2))
    (h : removeOneEdge A B c = some c') :
    cellFlux pos c' = cellFlux pos c ∧ ∀ f ∈ c', Cop pos f := by
  rcases removeOneEdge_spec hc.2 h with rfl | ⟨f1, f2, p, q, hm1, hm2, hrot1, hrot2, -, hperm, rfl⟩
  · exact ⟨rfl, hcop⟩
  have hcg : Cop pos (mergeAlong A B p q) := by
    refine cop_of_sub (hmerge f1 hm1.1 f2 hm2.1 hm1.2 hm2.2) fun v hv => List.mem_append.mpr ?_
    rcases mem_mergeAlong hv with h | h
    · exact Or.inl (hrot1.perm.mem_iff.mpr h)
    · exact Or.inr (hrot2.perm.mem_iff.mpr h)
  have hrotg := rotMin_isRotated (mergeAlong A B p q)
  constructor
  · rw [cellFlux_perm pos hperm, cellFlux_append, cellFlux_append, cellFlux_cons, cellFlux_cons, cellFlux_cons,
      ← faceFlux_rot hcg hrotg, faceFlux_mergeAlong pos A B p q (cop_rot (hcop f1 hm1.1) hrot1),
      ← faceFlux_rot (hcop f1 hm1.1) hrot1, ← faceFlux_rot (hcop f2 hm2.1) hrot2, add_assoc]
  · intro f hf
    rcases List.mem_append.mp hf with hf | hf
    · exact hcop f (List.mem_filter.mp hf).1
    · rw [List.mem_singleton.mp hf]; exact cop_rot hcg hrotg

/-! ### removing a node with at most two neighbours -/

theorem faceFlux_rmF (pos : Nat → V3 R) {v : Nat} {f : Face} (hn : f.Nodup) (hcop : Cop pos f) :
    faceFlux pos f = faceFlux pos (rmF v f) + br (fun x y => det (pos x) (pos v) (pos y)) v f := by
  by_cases hv : v ∈ f
  · obtain ⟨hvr, _, hrot⟩ := restOf_spec hn hv
    have hrf := rot_restOf hv
    unfold br
    rw [if_pos hv]
    cases hr : restOf v f with
    | nil =>
      rw [hr] at hrot hrf
      rw [List.isRotated_nil_iff.mp hrot, List.isRotated_singleton_iff.mp hrf]
      simp [faceFlux, fanFlux, fanAux]
    | cons h m =>
      rw [hr] at hrot
      have hh1 : h ∈ rmF v f := hrot.perm.mem_iff.mpr List.mem_cons_self
      rw [faceFlux_eq_esum_of_mem (cop_of_sub hcop fun _ hx => rmF_sub hx) hh1,
        faceFlux_eq_esum_of_mem hcop (rmF_sub hh1), face_remove (ωu pos (pos h)) hn hv, hr]
      simp only [corr, ωu, det]
      ring
  · rw [rmF_of_not_mem hv, br, if_neg hv, add_zero]

theorem rmV_flux (pos : Nat → V3 R) {v a b : Nat} {c : Cell} (hn : ∀ f ∈ c, f.Nodup) (hbal : Bal (edgesOf c))
    (hcop : ∀ f ∈ c, Cop pos f) (hnb : NbrIn (edgesOf c) v a b) :
    cellFlux pos (rmV v c) = cellFlux pos c := by
  have hb := bridge_sum (fun x y => det (pos x) (pos v) (pos y)) (fun x y => by simp only [det]; ring)
    (fun x => by simp only [det]; ring) hn hbal hnb
  rw [cellFlux, cellFlux, List.map_congr_left fun f hf => faceFlux_rmF pos (v := v) (hn f hf) (hcop f hf),
    List.sum_map_add, hb, add_zero, rmV, List.map_map]
  rfl

theorem rmV_cop (pos : Nat → V3 R) {v : Nat} {c : Cell} (hcop : ∀ f ∈ c, Cop pos f) : ∀ f ∈ rmV v c, Cop pos f :=
  List.forall_mem_map.mpr fun g hg => cop_of_sub (hcop g hg) fun _ hx => rmF_sub hx

theorem cellFlux_drop_short (pos : Nat → V3 R) (c : Cell) :
    cellFlux pos (c.filter fun f => decide (3 ≤ f.length)) = cellFlux pos c :=
  sum_map_filter _ _ c fun f _ hf => faceFlux_short pos (Nat.le_of_lt_succ (by simpa using hf))

theorem rv2Cell_flux (pos : Nat → V3 R) {rm : Nat → Bool} {c : Cell} (hc : CellOK c) (hcop : ∀ f ∈ c, Cop pos f)
    (hrm : ∀ w, rm w = true → ∃ a b, NbrIn (edgesOf c) w a b) :
    cellFlux pos (rv2Cell rm c) = cellFlux pos c ∧ ∀ f ∈ rv2Cell rm c, Cop pos f := by
  rw [rv2Cell_eq]
  obtain ⟨-, -, h1, h2⟩ := rmL_ok (c.flatten.filter rm)
    (fun c' => cellFlux pos c' = cellFlux pos c ∧ ∀ f ∈ c', Cop pos f)
    (fun c' v a b hn hb hv hp => ⟨(rmV_flux pos hn hb hp.2 hv).trans hp.1, rmV_cop pos hp.2⟩)
    c (fun f hf => (hc.2 f hf).1) hc.1 (fun w hw => hrm w (List.mem_filter.mp hw).2) ⟨rfl, hcop⟩
  exact ⟨(cellFlux_drop_short pos _).trans h1, fun f hf => h2 f (List.mem_filter.mp hf).1⟩

/-! ### shrink: the dropped cells are flat -/

theorem esum_edgesOf (ω : Nat × Nat → R) (c : Cell) :
    esum ω (edgesOf c) = (c.map fun f => esum ω (dirEdges f)).sum := by
  induction c with
  | nil => rfl
  | cons f t ih => rw [edgesOf_cons, esum_append, ih, List.map_cons, List.sum_cons]

/-- a closed cell with planar faces that all pass through one node `a` is flat (a cone over an apex lying on every
face): with `a` as apex of every face the flux is an antisymmetric edge sum over a balanced edge list -/
theorem cellFlux_cone (pos : Nat → V3 R) {c : Cell} (hbal : Bal (edgesOf c)) (hcop : ∀ f ∈ c, Cop pos f) {a : Nat}
    (ha : ∀ f ∈ c, a ∈ f) : cellFlux pos c = 0 := by
  rw [cellFlux, List.map_congr_left fun f hf => faceFlux_eq_esum_of_mem (hcop f hf) (ha f hf), ← esum_edgesOf]
  exact esum_bal_zero _ (ωu_anti pos (pos a)) (ωu_diag pos (pos a)) hbal

theorem cellFlux_thin (pos : Nat → V3 R) {c : Cell} (hc : CellOK c) (hcop : ∀ f ∈ c, Cop pos f)
    (hlen : c.length ≤ 2) : cellFlux pos c = 0 := by
  have hfirst : ∀ f ∈ c, ∃ a b t, f = a :: b :: t := by
    intro f hf
    match f, (hc.2 f hf).2 with
    | a :: b :: t, _ => exact ⟨a, b, t, rfl⟩
  match c, hlen with
  | [], _ => rfl
  | [f], _ =>
    obtain ⟨a, b, t, rfl⟩ := hfirst f List.mem_cons_self
    exact cellFlux_cone pos hc.1 hcop (a := a) fun f' hf' => by
      rw [List.mem_singleton.mp hf']; exact List.mem_cons_self
  | [f, g], _ =>
    obtain ⟨a, b, t, rfl⟩ := hfirst f List.mem_cons_self
    have hab : (a, b) ∈ dirEdges (a :: b :: t) := by rw [dirEdges_cons_cons]; exact List.mem_cons_self
    have hba : (b, a) ∈ dirEdges (a :: b :: t) ++ (dirEdges g ++ []) :=
      mem_rev_of_bal hc.1 (e := (a, b)) (List.mem_append_left _ hab)
    have hag : a ∈ g := by
      rcases List.mem_append.mp hba with h | h
      · exact absurd h (not_both_dirs (hc.2 _ List.mem_cons_self) hab)
      · exact (mem_of_mem_dirEdges ((List.mem_append.mp h).resolve_right List.not_mem_nil)).2
    exact cellFlux_cone pos hc.1 hcop (a := a) fun f' hf' => by
      rcases List.mem_cons.mp hf' with rfl | hf'
      · exact List.mem_cons_self
      · rw [List.mem_singleton.mp hf']; exact hag

theorem shrink_flux (pos : Nat → V3 R) {cells : List Cell} (h : Inv cells) (hcop : AllCop pos cells) :
    totalFlux pos (shrink cells) = totalFlux pos cells := by
  rw [shrink_eq_filter h]
  exact sum_map_filter _ _ cells fun c hc hl => cellFlux_thin pos (h c hc) (hcop c hc) (by simpa using hl)

theorem shrink_cop (pos : Nat → V3 R) {cells : List Cell} (hcop : AllCop pos cells) : AllCop pos (shrink cells) := by
  intro c' hc' f hf
  obtain ⟨c, hc, rfl⟩ := mem_shrink hc'
  exact hcop c hc f (List.mem_filter.mp hf).1

/-! ### remove_vertices_2 and one iteration of the edge loop -/

theorem removeVertices2_flux (pos : Nat → V3 R) {cells cells' : List Cell} (h : Inv cells)
    (hcop : AllCop pos cells) (hr : removeVertices2 cells = some cells') :
    totalFlux pos cells' = totalFlux pos cells ∧ AllCop pos cells' := by
  obtain ⟨he, hinv'⟩ := removeVertices2_spec h
  rw [he] at hr
  cases hr
  have hcop' : AllCop pos (cells.map (rv2Cell (canRm cells))) :=
    List.forall_mem_map.mpr fun c hc => (rv2Cell_flux pos (h c hc) (hcop c hc) fun _ => canRm_nbrIn_cell hc).2
  refine ⟨?_, shrink_cop pos hcop'⟩
  rw [shrink_flux pos hinv' hcop', totalFlux, List.map_map]
  exact congrArg List.sum (List.map_congr_left fun c hc => (rv2Cell_flux pos (h c hc) (hcop c hc) fun _ => canRm_nbrIn_cell hc).1)

theorem removeEdgeStep_flux (pos : Nat → V3 R) {cells : List Cell} (h : Inv cells)
    (hcop : AllCop pos cells) (A B : Nat) (ps : List Nat)
    (hmerge : ∀ p ∈ ps, ∀ f1 ∈ cells.getD p [], ∀ f2 ∈ cells.getD p [],
      hasE A B f1 = true → hasE B A f2 = true → Cop pos (f1 ++ f2)) :
    totalFlux pos (removeEdgeStep A B ps cells) = totalFlux pos cells ∧
    AllCop pos (removeEdgeStep A B ps cells) := by
  obtain ⟨g, he, hg⟩ := removeEdgeStep_spec A B ps cells
  have hone : ∀ i, cellFlux pos (g i) = cellFlux pos (cells.getD i []) ∧ ∀ f ∈ g i, Cop pos f := by
    intro i
    rcases hg i with h' | ⟨hin, h'⟩
    · rw [h']; exact ⟨rfl, getD_cop pos hcop i⟩
    · exact removeOneEdge_flux pos (getD_cellOK h i) (getD_cop pos hcop i) (hmerge i hin) h'
  rw [he]
  constructor
  · conv_rhs => rw [cells_eq_range_map cells]
    simp only [totalFlux, List.map_map]
    exact congrArg List.sum (List.map_congr_left fun i _ => (hone i).1)
  · exact List.forall_mem_map.mpr fun i _ => (hone i).2

/-! ### renumbering -/

theorem map_flux (pos pos' : Nat → V3 R) (σ : Nat → Nat) (cells : List Cell)
    (h : ∀ v ∈ cells.flatten.flatten, pos' (σ v) = pos v) :
    totalFlux pos' (cells.map fun c => c.map fun f => f.map σ) = totalFlux pos cells := by
  simp only [totalFlux, List.map_map]
  congr 1
  apply List.map_congr_left
  intro c hc
  simp only [Function.comp, cellFlux, List.map_map]
  congr 1
  apply List.map_congr_left
  intro f hf
  simp only [Function.comp, faceFlux, List.map_map]
  congr 1
  apply List.map_congr_left
  intro v hv
  exact h v (mem_nodes.mpr ⟨c, hc, f, hf, hv⟩)

/-! ### merge_polyhedrons -/

/-- a simple cycle of ≥ 3 nodes is not a rotation of its own reverse -/
theorem not_rot_reverse {f : Face} (hf : FaceOK f) : ¬ (f ~r f.reverse) := by
  intro hr
  obtain ⟨hnd, hlen⟩ := hf
  match f, hnd, hlen, hr with
  | a :: b :: t, hnd, hlen, hr =>
    have hab : (a, b) ∈ dirEdges (a :: b :: t) := by
      simp [dirEdges]
    have hba' : (b, a) ∈ dirEdges (a :: b :: t).reverse := by
      rw [(dirEdges_reverse_perm _).mem_iff]
      exact List.mem_map.mpr ⟨(a, b), hab, rfl⟩
    have hba : (b, a) ∈ dirEdges (a :: b :: t) := (isRotated_dirEdges hr).mem_iff.mpr hba'
    exact not_both_dirs ⟨hnd, hlen⟩ hab hba

/-- the face flux of planar simple faces is a weight that `mergeCells` sums correctly -/
theorem mergeOK_faceFlux (pos : Nat → V3 R) (fs : List Face) (hok : ∀ f ∈ fs, FaceOK f)
    (hcop : ∀ f ∈ fs, Cop pos f) : MergeOK (faceFlux pos) fs := by
  refine ⟨fun f hf g hg h => ⟨canon_reverse_congr (hok f hf).1 h, ?_⟩,
    fun f hf g hg h => ⟨canon_reverse_symm (hok g hg).1 h, ?_⟩,
    fun f hf h => ?_⟩
  · exact faceFlux_rot (hcop f hf) (isRotated_of_canon_eq h)
  · have hr : f.reverse ~r g := isRotated_of_canon_eq h
    have hc : Cop pos f.reverse := cop_of_sub (hcop f hf) fun v hv => List.mem_reverse.mp hv
    rw [← faceFlux_rot hc hr, faceFlux_reverse (hcop f hf)]
  · exact absurd (isRotated_of_canon_eq h) (not_rot_reverse (hok f hf))

/-- merging closed cells with planar simple faces: the flux of the merged cell is the sum of the fluxes -/
theorem mergeCells_flux (pos : Nat → V3 R) (cells : List Cell) (hok : ∀ c ∈ cells, CellOK c)
    (hcop : AllCop pos cells) :
    cellFlux pos (mergeCells cells) = (cells.map (cellFlux pos)).sum := by
  unfold cellFlux
  rw [mergeCells_sum (faceFlux pos) cells (mergeOK_faceFlux pos _ (List.forall_mem_flatten.mpr fun c hc => (hok c hc).2)
    (List.forall_mem_flatten.mpr hcop)), List.map_flatten, List.sum_flatten, List.map_map]
  rfl

/-- `Op.merge groups` with `groups` a partition of the cell indices keeps the total flux -/
theorem merge_step_flux (pos : Nat → V3 R) {cells : List Cell} (h : Inv cells) (hcop : AllCop pos cells)
    (groups : List (List Nat)) (hpart : groups.flatten.Perm (List.range cells.length)) :
    totalFlux pos (groups.map fun g => mergeCells (g.map fun i => cells.getD i [])) = totalFlux pos cells := by
  have hg : ∀ g : List Nat, cellFlux pos (mergeCells (g.map fun i => cells.getD i []))
      = (g.map fun i => cellFlux pos (cells.getD i [])).sum := by
    intro g
    rw [mergeCells_flux pos _ (List.forall_mem_map.mpr fun i _ => getD_cellOK h i)
      (List.forall_mem_map.mpr fun i _ => getD_cop pos hcop i), List.map_map]
    rfl
  conv_rhs => rw [cells_eq_range_map cells]
  rw [totalFlux, totalFlux, List.map_map, List.map_map, ← (hpart.map _).sum_eq, List.map_flatten, List.sum_flatten,
    List.map_map]
  exact congrArg List.sum (List.map_congr_left fun g _ => hg g)

/-- the faces of the merged cells are faces of the input, hence still planar -/
theorem merge_step_cop (pos : Nat → V3 R) {cells : List Cell} (hcop : AllCop pos cells) (groups : List (List Nat)) :
    AllCop pos (groups.map fun g => mergeCells (g.map fun i => cells.getD i [])) := by
  intro c hc f hf
  obtain ⟨g, _, rfl⟩ := List.mem_map.mp hc
  obtain ⟨c', hc', hfc⟩ := List.mem_flatten.mp (mem_mergeCells _ f hf)
  obtain ⟨i, _, rfl⟩ := List.mem_map.mp hc'
  exact getD_cop pos hcop i f hfc

/-- the hypothesis under which the volume clause is stated, per operation: cells are merged along a partition; two faces
are merged along an edge only when all their nodes lie in one plane (`Cop pos (f1 ++ f2)`, see `Cop`); `mergeVertex`
moves a node, so a run that contains one is not covered (`False`) -/
def FluxOK (pos : Nat → V3 R) (st : St) : Op → Prop
  | .merge groups => groups.flatten.Perm (List.range st.cells.length)
  | .removeEdge A B ps => ∀ p ∈ ps, ∀ f1 ∈ st.cells.getD p [], ∀ f2 ∈ st.cells.getD p [],
      hasE A B f1 = true → hasE B A f2 = true → Cop pos (f1 ++ f2)
  | .removeVertices2 => True
  | .mergeVertex _ _ => False
  | .shrink => True

/-- `FluxOK` for every operation of the run, in the state in which it is applied -/
def FluxRun (pos : Nat → V3 R) : List Op → St → Prop
  | [], _ => True
  | op :: ops, st => FluxOK pos st op ∧ ∀ st', step st op = some st' → FluxRun pos ops st'

theorem step_flux (pos : Nat → V3 R) {st st' : St} (hg : Good st) (hcop : AllCop pos st.cells) (op : Op)
    (hok : FluxOK pos st op) (h : step st op = some st') :
    totalFlux pos st'.cells = totalFlux pos st.cells ∧ AllCop pos st'.cells ∧ st'.conv = st.conv := by
  cases op with
  | merge groups =>
    simp only [step, Option.some.injEq] at h; subst h
    exact ⟨merge_step_flux pos hg.inv hcop groups hok, merge_step_cop pos hcop groups, rfl⟩
  | removeEdge A B ps =>
    simp only [step, Option.some.injEq] at h; subst h
    have := removeEdgeStep_flux pos hg.inv hcop A B ps hok
    exact ⟨this.1, this.2, rfl⟩
  | removeVertices2 =>
    simp only [step, Option.map_eq_some_iff] at h
    obtain ⟨cs, hcs, rfl⟩ := h
    have := removeVertices2_flux pos hg.inv hcop hcs
    exact ⟨this.1, this.2, rfl⟩
  | mergeVertex a b => exact False.elim hok
  | shrink =>
    simp only [step, Option.some.injEq] at h; subst h
    exact ⟨shrink_flux pos hg.inv hcop, shrink_cop pos hcop, rfl⟩

theorem runOps_flux (pos : Nat → V3 R) (ops : List Op) : ∀ st : St, Good st → AllCop pos st.cells →
    FluxRun pos ops st →
    ∃ st', runOps ops st = some st' ∧ Good st' ∧ totalFlux pos st'.cells = totalFlux pos st.cells ∧
      AllCop pos st'.cells ∧ st'.conv = st.conv := by
  induction ops with
  | nil => intro st hg hc _; exact ⟨st, rfl, hg, rfl, hc, rfl⟩
  | cons op ops ih =>
    intro st hg hc hrun
    obtain ⟨st1, h1⟩ := step_isSome hg op
    obtain ⟨hg1, _⟩ := step_good hg op h1
    obtain ⟨hf1, hc1, hconv1⟩ := step_flux pos hg hc op hrun.1 h1
    obtain ⟨st', h', hg', hf', hc', hconv'⟩ := ih st1 hg1 hc1 (hrun.2 st1 h1)
    exact ⟨st', by simp only [runOps, h1, Option.bind_some, h'], hg', hf'.trans hf1, hc', hconv'.trans hconv1⟩

end

end Femio.C20
