import Femio.Model.Compress
import Femio.Model.Geom
import Femio.Lemmas.SurfaceProps
import Mathlib.Algebra.BigOperators.Group.List.Basic
import Mathlib.Algebra.BigOperators.Group.Finset.Basic
import Mathlib.Data.Rat.Defs
import Mathlib.Data.List.Range
import Mathlib.Tactic.Ring
import Mathlib.Tactic.LinearCombination
import Mathlib.Data.List.Rotate

/-! C20 (mesh_compressor) — the checker, the data transfer matrices, `reindex`, the face cancellation of
    `merge_polyhedrons` (`mergeCells_sum`), `canon` as a rotation invariant, and the merge of two faces along an edge. -/
namespace Femio.C20
open Faces

theorem nodupB_iff (f : Face) : nodupB f = true ↔ f.Nodup := by
  induction f with
  | nil => simp [nodupB]
  | cons a t ih => simp [nodupB, ih, List.nodup_cons]

theorem sumL_eq_sum (l : List Rat) : sumL l = l.sum := by
  induction l with
  | nil => rfl
  | cons a t ih => simp only [sumL, List.foldr_cons, List.sum_cons] at ih ⊢; rw [ih]

theorem sum_map_const (r : List Nat) (c : Rat) : (r.map fun _ => c).sum = (r.length : Rat) * c := by
  induction r with
  | nil => simp
  | cons a t ih => simp only [List.map_cons, List.sum_cons, ih, List.length_cons]; push_cast; ring

/-- a duplicate-free list of indices `< n` summed directly = indicator sum over `range n` -/
theorem sum_nodup_eq_range (r : List Nat) (n : Nat) (g : Nat → Rat) (hn : r.Nodup) (hlt : ∀ j ∈ r, j < n) :
    (r.map g).sum = ((List.range n).map fun j => if r.contains j then g j else 0).sum := by
  have hr : (List.range n).toFinset = Finset.range n := by ext; simp
  rw [← List.sum_toFinset g hn, ← List.sum_toFinset _ (List.nodup_range), hr]
  rw [← Finset.sum_filter]
  apply Finset.sum_congr _ (fun _ _ => rfl)
  ext j
  simp only [List.mem_toFinset, Finset.mem_filter, Finset.mem_range, List.contains_iff_mem]
  exact ⟨fun h => ⟨hlt j h, h⟩, fun h => h.2⟩

theorem sum_rows_eq (rows : List (List Nat)) (n : Nat) (g : Nat → Rat)
    (hn : ∀ r ∈ rows, r.Nodup) (hlt : ∀ r ∈ rows, ∀ j ∈ r, j < n) :
    (rows.map fun r => (r.map g).sum).sum
      = ((List.range n).map fun j => ((rows.filter fun r => r.contains j).length : Rat) * g j).sum := by
  induction rows with
  | nil => simp
  | cons r t ih =>
    rw [List.map_cons, List.sum_cons, ih (fun r hr => hn r (List.mem_cons_of_mem _ hr))
      (fun r hr => hlt r (List.mem_cons_of_mem _ hr)),
      sum_nodup_eq_range r n g (hn r List.mem_cons_self) (hlt r List.mem_cons_self), ← List.sum_map_add]
    congr 1
    apply List.map_congr_left
    intro j _
    by_cases h : j ∈ r
    · simp only [List.contains_iff_mem, h, if_true, List.filter_cons, List.length_cons]; push_cast; ring
    · simp [h]

theorem mem_transpose_rows (m : Mat) (r : List Nat) (h : r ∈ m.transpose.rows) :
    ∃ j, j < m.ncols ∧ r = (List.range m.rows.length).filter fun i => (m.rows.getD i []).contains j := by
  simp only [Mat.transpose, List.mem_map, List.mem_range] at h
  obtain ⟨j, hj, rfl⟩ := h
  exact ⟨j, hj, rfl⟩

theorem transpose_rows_nodup (m : Mat) : ∀ r ∈ m.transpose.rows, r.Nodup := by
  intro r h
  obtain ⟨j, _, rfl⟩ := mem_transpose_rows m r h
  exact List.Nodup.filter _ List.nodup_range

theorem transpose_rows_lt (m : Mat) : ∀ r ∈ m.transpose.rows, ∀ i ∈ r, i < m.transpose.ncols := by
  intro r h i hi
  obtain ⟨j, _, rfl⟩ := mem_transpose_rows m r h
  simp only [List.mem_filter, List.mem_range] at hi
  exact hi.1

theorem colCount_pos_iff (m : Mat) (j : Nat) : 0 < colCount m j ↔ ∃ r ∈ m.rows, j ∈ r := by
  simp [colCount, List.length_pos_iff_exists_mem, List.mem_filter]

theorem transpose_colCount_pos (m : Mat) (i : Nat) (hi : i < m.rows.length) (j : Nat) (hj : j < m.ncols)
    (hmem : j ∈ m.rows[i]) : 0 < colCount m.transpose i := by
  rw [colCount_pos_iff]
  refine ⟨(List.range m.rows.length).filter fun i => (m.rows.getD i []).contains j, ?_, ?_⟩
  · simp only [Mat.transpose, List.mem_map, List.mem_range]
    exact ⟨j, hj, rfl⟩
  · simp only [List.mem_filter, List.mem_range, List.contains_iff_mem]
    refine ⟨hi, ?_⟩
    simpa [List.getD_eq_getElem?_getD, hi] using hmem

theorem transpose_rows_ne_nil (m : Mat) (h : ∀ j < m.ncols, ∃ r ∈ m.rows, j ∈ r) :
    ∀ r ∈ m.transpose.rows, r ≠ [] := by
  intro r hr
  obtain ⟨j, hj, rfl⟩ := mem_transpose_rows m r hr
  obtain ⟨r0, hr0, hj0⟩ := h j hj
  obtain ⟨i, hi, rfl⟩ := List.getElem_of_mem hr0
  apply List.ne_nil_of_mem (a := i)
  simp only [List.mem_filter, List.mem_range, List.contains_iff_mem]
  refine ⟨hi, ?_⟩
  simpa [List.getD_eq_getElem?_getD, hi] using hj0

/-- model of the nodal conversion matrix: rows = compressed nodes `i < M`, columns = original nodes `v`,
    entry 1 iff `i ∈ nbd[v]` (`calculate_nodal_knn` after dropping the `-1` entries) -/
def matOfNbd (M : Nat) (nbd : List (List Nat)) : Mat :=
  ⟨nbd.length, (List.range M).map fun i => (List.range nbd.length).filter fun v => (nbd.getD v []).contains i⟩

theorem matOfNbd_eq_transpose (M : Nat) (nbd : List (List Nat)) : matOfNbd M nbd = (Mat.mk M nbd).transpose := rfl

theorem getElem_idxOf? (l : List Nat) (v : Nat) (hv : v ∈ l) :
    ∃ h : (l.idxOf? v).getD 0 < l.length, l[(l.idxOf? v).getD 0] = v := by
  cases hi : l.idxOf? v with
  | none => exact absurd hv (List.idxOf?_eq_none_iff.mp hi)
  | some i =>
    obtain ⟨h, hv', _⟩ := List.idxOf?_eq_some_iff.mp hi
    exact ⟨h, hv'⟩

theorem idxOf?_getElem (l : List Nat) (hn : l.Nodup) (k : Nat) (hk : k < l.length) : l.idxOf? l[k] = some k := by
  rw [List.idxOf?_eq_some_iff]
  refine ⟨hk, rfl, fun j hj h => ?_⟩
  have := (hn.getElem_inj_iff (hi := by omega) (hj := hk)).mp h
  omega

theorem reindex_kept (cells : List Cell) (conv : List Nat) :
    (reindex cells conv).kept = (List.range conv.length).filter fun v => cells.flatten.flatten.contains v := rfl

theorem reindex_cells (cells : List Cell) (conv : List Nat) :
    (reindex cells conv).cells
      = cells.map fun c => c.map fun f => f.map fun v => (((reindex cells conv).kept).idxOf? v).getD 0 := rfl

theorem mem_nodes_map (cells : List Cell) (g : Nat → Nat) (k : Nat) :
    k ∈ (cells.map fun c => c.map fun f => f.map g).flatten.flatten ↔ ∃ v ∈ cells.flatten.flatten, g v = k := by
  simp only [← List.map_flatten, List.mem_map]

theorem idxOf?_getD_inj {l : List Nat} {v w : Nat} (hv : v ∈ l) (hw : w ∈ l)
    (h : (l.idxOf? v).getD 0 = (l.idxOf? w).getD 0) : v = w := by
  obtain ⟨_, e1⟩ := getElem_idxOf? l v hv
  obtain ⟨_, e2⟩ := getElem_idxOf? l w hw
  rw [← e1, ← e2]
  simp only [h]

theorem mem_reindex_kept (cells : List Cell) (conv : List Nat) (v : Nat) :
    v ∈ (reindex cells conv).kept ↔ v < conv.length ∧ v ∈ cells.flatten.flatten := by
  simp only [reindex_kept, List.mem_filter, List.mem_range, List.contains_iff_mem]

theorem reindex_kept_pairwise (cells : List Cell) (conv : List Nat) : (reindex cells conv).kept.Pairwise (· < ·) := by
  rw [reindex_kept]
  exact List.Pairwise.filter _ List.pairwise_lt_range

theorem reindex_kept_nodup (cells : List Cell) (conv : List Nat) : (reindex cells conv).kept.Nodup :=
  (reindex_kept_pairwise cells conv).imp Nat.ne_of_lt

theorem reindex_nodes_lt (cells : List Cell) (conv : List Nat) (hall : ∀ v ∈ cells.flatten.flatten, v < conv.length) :
    ∀ k ∈ (reindex cells conv).cells.flatten.flatten, k < (reindex cells conv).kept.length := by
  intro k hk
  rw [reindex_cells, mem_nodes_map] at hk
  obtain ⟨v, hv, rfl⟩ := hk
  exact (getElem_idxOf? _ v ((mem_reindex_kept cells conv v).mpr ⟨hall v hv, hv⟩)).1

theorem reindex_nodes_surj (cells : List Cell) (conv : List Nat) :
    ∀ k < (reindex cells conv).kept.length, k ∈ (reindex cells conv).cells.flatten.flatten := by
  intro k hk
  rw [reindex_cells, mem_nodes_map]
  exact ⟨_, ((mem_reindex_kept cells conv _).mp (List.getElem_mem hk)).2,
    congrArg (·.getD 0) (idxOf?_getElem _ (reindex_kept_nodup cells conv) k hk)⟩

theorem getC_setC (t : Tbl) (k k' : Face) (c : Nat) :
    getC (setC t k c) k' = if k = k' then c else getC t k' := by
  induction t with
  | nil => simp [setC, getC]
  | cons p t ih =>
    obtain ⟨k0, c0⟩ := p
    simp only [setC]
    by_cases h : k0 = k
    · subst h
      rw [if_pos rfl]
      simp only [getC]
      by_cases h1 : k0 = k'
      · rw [if_pos h1, if_pos h1]
      · rw [if_neg h1, if_neg h1, if_neg h1]
    · rw [if_neg h]
      simp only [getC, ih]
      by_cases h1 : k0 = k'
      · rw [if_pos h1, if_neg fun e : k = k' => h (h1.trans e.symm), if_pos h1]
      · rw [if_neg h1, if_neg h1]

/-- number of faces of the list in the `canon`-class `k` -/
def cntK (fs : List Face) (k : Face) : Nat := fs.countP fun g => decide (canon g = k)

theorem getC_countFold (fs : List Face) (T : Tbl) (k : Face) :
    getC (fs.foldl (fun t f => setC t (canon f) (getC t (canon f) + 1)) T) k = getC T k + cntK fs k := by
  induction fs generalizing T with
  | nil => simp [cntK]
  | cons f t ih =>
    rw [List.foldl_cons, ih, getC_setC]
    by_cases h : canon f = k
    · subst h; simp [cntK]; omega
    · simp [cntK, h]

theorem getC_countTbl (fs : List Face) (k : Face) : getC (countTbl fs) k = cntK fs k := by
  unfold countTbl; rw [getC_countFold]; simp [getC]

section Merge
variable {R : Type} [CommRing R]

theorem cntK_eq_zero (t : List Face) (k : Face) (h : (t.any fun g => decide (canon g = k)) = false) : cntK t k = 0 :=
  List.countP_eq_zero.mpr (List.any_eq_false.mp h)

/-- `(m - n)⁺` in `R`: the number of copies of a face that `mergeLoop` emits -/
def surplus (m n : ℕ) : R := ((m - n : ℕ) : R)

theorem surplus_of_le {m n : ℕ} (h : m ≤ n) : (surplus m n : R) = 0 := by
  rw [surplus, Nat.sub_eq_zero_of_le h, Nat.cast_zero]

theorem surplus_sub (m n : ℕ) : (surplus m n : R) - surplus n m = (m : R) - (n : R) := by
  rcases Nat.le_total m n with h | h
  · rw [surplus_of_le h, surplus, Nat.cast_sub h, zero_sub, neg_sub]
  · rw [surplus_of_le h, surplus, Nat.cast_sub h, sub_zero]

/-! The face cancellation keeps `Σ φ` (`mergeCells_sum`), in two steps through the potential `psi φ N`, in which the
last face of every `canon`-class carries the surplus, by the table `N`, of its class over the reversed class:
(i) `mergeLoop_sum`: what `mergeLoop fs T` emits sums to `psi φ (getC T) fs`, for every table `T`;
(ii) `psi_cntK`: for the table of the true counts, `psi φ (cntK fs) fs = Σ φ`, since `φ` is odd and the surpluses of a
class and of its reversed class differ by the difference of the counts (`surplus_sub`).
Both are inductions along `fs` in which the table changes at one key: `psi_update`. -/

def psi (φ : Face → R) (N : Face → Nat) : List Face → R
  | [] => 0
  | f :: t => (if t.any (fun g => decide (canon g = canon f)) then 0
      else surplus (N (canon f)) (N (canon f.reverse)) * φ f) + psi φ N t

/-- the consistency the face list must satisfy: `canon`-classes have a well defined reversed class, reversal is an
involution on the classes present, the weight is a class function that is odd under reversal, and a face whose class
equals its reversed class has weight 0 (over ℤ this follows from oddness; in a ring where 2 may be a zero divisor it
must be required) -/
def MergeOK (φ : Face → R) (fs : List Face) : Prop :=
  (∀ f ∈ fs, ∀ g ∈ fs, canon f = canon g → canon f.reverse = canon g.reverse ∧ φ f = φ g) ∧
  (∀ f ∈ fs, ∀ g ∈ fs, canon f.reverse = canon g → canon g.reverse = canon f ∧ φ g = -φ f) ∧
  (∀ f ∈ fs, canon f = canon f.reverse → φ f = 0)

theorem MergeOK.tail {φ : Face → R} {f : Face} {t : List Face} (h : MergeOK φ (f :: t)) : MergeOK φ t :=
  ⟨fun a ha b hb => h.1 a (List.mem_cons_of_mem _ ha) b (List.mem_cons_of_mem _ hb),
   fun a ha b hb => h.2.1 a (List.mem_cons_of_mem _ ha) b (List.mem_cons_of_mem _ hb),
   fun a ha => h.2.2 a (List.mem_cons_of_mem _ ha)⟩

theorem MergeOK.head {φ : Face → R} {f : Face} {t : List Face} (h : MergeOK φ (f :: t)) :
    (canon f = canon f.reverse → φ f = 0) ∧
    (∀ g ∈ t, canon g = canon f → canon g.reverse = canon f.reverse ∧ φ g = φ f) ∧
    (∀ g ∈ t, canon g.reverse = canon f → canon g = canon f.reverse) ∧
    (∀ g ∈ t, canon g = canon f.reverse → canon g.reverse = canon f ∧ φ g = -φ f) := by
  have hf : f ∈ f :: t := List.mem_cons_self
  refine ⟨fun e => ?_, fun g hg e => ?_, fun g hg e => ?_, fun g hg e => ?_⟩
  · exact h.2.2 f hf e
  · exact h.1 g (List.mem_cons_of_mem _ hg) f hf e
  · exact (h.2.1 g (List.mem_cons_of_mem _ hg) f hf e).1.symm
  · exact h.2.1 f hf g (List.mem_cons_of_mem _ hg) e.symm

theorem psi_update (φ : Face → R) (N N' : Face → Nat) {f : Face} {s : List Face} (h : MergeOK φ (f :: s))
    (hne : ∀ k, k ≠ canon f → N' k = N k) :
    psi φ N' s = psi φ N s
      + (if s.any (fun g => decide (canon g = canon f))
          then (surplus (N' (canon f)) (N (canon f.reverse)) - surplus (N (canon f)) (N (canon f.reverse))) * φ f
          else 0)
      + (if s.any (fun g => decide (canon g = canon f.reverse))
          then (surplus (N (canon f.reverse)) (N' (canon f)) - surplus (N (canon f.reverse)) (N (canon f))) * (-φ f)
          else 0) := by
  -- of `f` only `MergeOK.head` is used: its class `x`, reversed class `y` and weight `φf`
  obtain ⟨hxy, h1, h2, h3⟩ := h.head
  clear h
  revert hne hxy h1 h2 h3
  generalize canon f.reverse = y
  generalize canon f = x
  generalize φ f = φf
  intro hne hxy
  generalize hx : N' x = v
  induction s with
  | nil => intro _ _ _; simp [psi]
  | cons g s ih =>
    intro h1 h2 h3
    have ih' := ih (fun g hg => h1 g (List.mem_cons_of_mem _ hg)) (fun g hg => h2 g (List.mem_cons_of_mem _ hg))
      (fun g hg => h3 g (List.mem_cons_of_mem _ hg))
    have g1 := h1 g List.mem_cons_self
    have g2 := h2 g List.mem_cons_self
    have g3 := h3 g List.mem_cons_self
    have hany : ∀ k, ((g :: s).any fun g => decide (canon g = k)) = (decide (canon g = k) || s.any fun g => decide (canon g = k)) :=
      fun k => rfl
    rw [psi, psi, ih', hany x, hany y]
    by_cases hk : canon g = x
    · obtain ⟨hr, hφ⟩ := g1 hk
      subst hk hr hφ hx
      by_cases hxy' : canon g = canon g.reverse
      · simp only [hxy hxy', mul_zero, neg_zero, ite_self, add_zero, zero_add]
      · have hy : N' (canon g.reverse) = N (canon g.reverse) := hne _ (fun h => hxy' h.symm)
        rw [hy]
        simp only [decide_true, Bool.true_or, if_true, hxy', decide_false, Bool.false_or]
        by_cases ha : (s.any fun g' => decide (canon g' = canon g)) = true
        · simp only [ha, if_true]; ring
        · simp only [ha]; simp only [Bool.false_eq_true, if_false]; ring
    · have hkN : N' (canon g) = N (canon g) := hne _ hk
      rw [hkN]
      by_cases hr : canon g.reverse = x
      · have hky := g2 hr
        obtain ⟨_, hφ⟩ := g3 hky
        have hxy' : ¬ y = x := fun h => hk (hky.trans h)
        subst hr hky hx
        rw [hφ]
        have hk' : ¬ canon g = canon g.reverse := hk
        simp only [decide_true, Bool.true_or, if_true, hk', decide_false, Bool.false_or]
        by_cases ha : (s.any fun g' => decide (canon g' = canon g)) = true
        · simp only [ha, if_true]; ring
        · simp only [ha]; simp only [Bool.false_eq_true, if_false]; ring
      · have hrN : N' (canon g.reverse) = N (canon g.reverse) := hne _ hr
        have hky : ¬ canon g = y := fun h => hr (g3 h).1
        rw [hrN]
        simp only [hk, hky, decide_false, Bool.false_or]
        ring

theorem sum_replicate_map (φ : Face → R) (m n : Nat) (f : Face) :
    ((List.replicate (m - n) f).map φ).sum = surplus m n * φ f := by
  rw [List.map_replicate, List.sum_replicate, nsmul_eq_mul, surplus]

theorem mergeLoop_sum (φ : Face → R) (fs : List Face) (T : Tbl) (h : MergeOK φ fs) :
    ((mergeLoop fs T).map φ).sum = psi φ (getC T) fs := by
  induction fs generalizing T with
  | nil => rfl
  | cons f t ih =>
    simp only [mergeLoop, psi]
    by_cases hlt : getC T (canon f.reverse) < getC T (canon f)
    · rw [if_pos hlt, List.map_append, List.sum_append, sum_replicate_map, ih _ h.tail]
      rw [psi_update φ (getC T) (getC (setC T (canon f) (getC T (canon f.reverse)))) h
        (fun k hk => by rw [getC_setC, if_neg (Ne.symm hk)]), getC_setC, if_pos rfl,
        surplus_of_le (le_refl _), surplus_of_le hlt.le]
      by_cases ha : (t.any fun g => decide (canon g = canon f)) = true
      · simp only [ha, if_true]; split <;> ring
      · simp only [ha]; simp only [Bool.false_eq_true, if_false]; split <;> ring
    · rw [if_neg hlt, ih _ h.tail, surplus_of_le (not_lt.mp hlt), zero_mul, ite_self, zero_add]

/-- the terms `psi_update` leaves in `psi_cntK` for one more face of a class with `a` members so far, `b` in the
reversed class; `A`, `B`: these classes are present -/
theorem surplus_succ (a b : ℕ) (A B : Bool) (hA : A = false → a = 0) (hB : B = false → b = 0) (x : R) :
    (if A = true then 0 else surplus (a + 1) b * x)
      + ((if A = true then (surplus (a + 1) b - surplus a b) * x else 0)
      + (if B = true then (surplus b (a + 1) - surplus b a) * (-x) else 0)) = x := by
  have key : ((surplus (a + 1) b : R) - surplus a b) - (surplus b (a + 1) - surplus b a) = 1 := by
    have h1 := surplus_sub (R := R) (a + 1) b
    rw [Nat.cast_succ] at h1
    linear_combination h1 - surplus_sub (R := R) a b
  have ea : A = false → (surplus a b : R) = 0 := fun h => surplus_of_le (by rw [hA h]; exact Nat.zero_le b)
  have eb : B = false → (surplus b (a + 1) : R) - surplus b a = 0 := fun h => by
    rw [hB h, surplus_of_le (Nat.zero_le _), surplus_of_le (Nat.zero_le _), sub_self]
  have hA : (if A = true then 0 else surplus (a + 1) b * x) + (if A = true then (surplus (a + 1) b - surplus a b) * x else 0)
      = (surplus (a + 1) b - surplus a b) * x := by
    cases A
    · rw [if_neg Bool.false_ne_true, if_neg Bool.false_ne_true, ea rfl, sub_zero, add_zero]
    · rw [if_pos rfl, if_pos rfl, zero_add]
  have hB : (if B = true then (surplus b (a + 1) - surplus b a) * (-x) else 0)
      = (surplus b (a + 1) - surplus b a) * (-x) := by
    cases B
    · rw [if_neg Bool.false_ne_true, eb rfl, zero_mul]
    · rw [if_pos rfl]
  rw [← add_assoc, hA, hB]
  linear_combination x * key

theorem psi_cntK (φ : Face → R) (fs : List Face) (h : MergeOK φ fs) : psi φ (cntK fs) fs = (fs.map φ).sum := by
  induction fs with
  | nil => rfl
  | cons f t ih =>
    simp only [psi, List.map_cons, List.sum_cons]
    have hx : cntK (f :: t) (canon f) = cntK t (canon f) + 1 := by simp [cntK]
    rw [psi_update φ (cntK t) (cntK (f :: t)) h (fun k hk => by simp [cntK, Ne.symm hk]), hx, ih h.tail]
    by_cases hxy : canon f = canon f.reverse
    · rw [h.head.1 hxy]; simp
    · have hy : cntK (f :: t) (canon f.reverse) = cntK t (canon f.reverse) := by
        simp [cntK, hxy]
      rw [hy]
      have := surplus_succ _ _ _ _ (cntK_eq_zero t (canon f)) (cntK_eq_zero t (canon f.reverse)) (φ f)
      rw [add_assoc, add_left_comm, this, add_comm]

theorem mergeCells_sum (φ : Face → R) (cells : List Cell) (h : MergeOK φ cells.flatten) :
    ((mergeCells cells).map φ).sum = (cells.flatten.map φ).sum := by
  unfold mergeCells
  rw [mergeLoop_sum φ _ _ h]
  have : getC (countTbl cells.flatten) = cntK cells.flatten := funext (getC_countTbl _)
  rw [this, psi_cntK φ _ h]

end Merge

/-- over ℤ oddness gives weight 0 on a class equal to its reverse: a weight constant on `canon`-classes and odd under
reversal is a `MergeOK` weight once the reversed class is well defined (`hc1`) and reversal is an involution on the
classes (`hc2`) -/
theorem mergeOK_int {φ : Face → ℤ} {fs : List Face} (hcls : ∀ f g, canon f = canon g → φ f = φ g)
    (hodd : ∀ f ∈ fs, φ f.reverse = - φ f)
    (hc1 : ∀ f ∈ fs, ∀ g ∈ fs, canon f = canon g → canon f.reverse = canon g.reverse)
    (hc2 : ∀ f ∈ fs, ∀ g ∈ fs, canon f.reverse = canon g → canon g.reverse = canon f) : MergeOK φ fs := by
  refine ⟨fun f hf g hg e => ⟨hc1 f hf g hg e, hcls f g e⟩, fun f hf g hg e => ⟨hc2 f hf g hg e, ?_⟩, fun f hf e => ?_⟩
  · rw [← hcls _ _ e, hodd f hf]
  · have := hcls _ _ e
    rw [hodd f hf] at this
    omega

theorem bal_flatten (cells : List Cell) (h : ∀ c ∈ cells, Bal (edgesOf c)) : Bal (edgesOf cells.flatten) := by
  induction cells with
  | nil => intro e; simp [edgesOf]
  | cons c t ih =>
    intro e
    have h1 := h c List.mem_cons_self e
    have h2 := ih (fun c hc => h c (List.mem_cons_of_mem _ hc)) e
    simp only [edgesOf, List.flatten_cons, List.flatMap_append, List.count_append] at h1 h2 ⊢
    omega

theorem mergeCells_bal (cells : List Cell) (hbal : ∀ c ∈ cells, Bal (edgesOf c))
    (hok : ∀ e, MergeOK (wt e) cells.flatten) : Bal (edgesOf (mergeCells cells)) := by
  intro e
  have hs := mergeCells_sum (wt e) cells (hok e)
  rw [sum_wt, sum_wt] at hs
  have hb := bal_flatten cells hbal e
  omega

theorem dirEdges_eq_zip_rotate (f : Face) : dirEdges f = f.zip (f.rotate 1) := by
  cases f with
  | nil => simp [dirEdges]
  | cons a t => simp [dirEdges, List.rotate_cons_succ]

theorem dirEdges_rotate_perm (f : Face) (k : Nat) : (dirEdges (f.rotate k)).Perm (dirEdges f) := by
  rw [dirEdges_eq_zip_rotate, dirEdges_eq_zip_rotate, List.rotate_rotate, Nat.add_comm,
    ← List.rotate_rotate, List.zip, ← List.zipWith_rotate_distrib _ _ _ _ (by simp)]
  exact List.rotate_perm _ _

theorem map_swap_zip (l₁ l₂ : List Nat) : (l₁.zip l₂).map Prod.swap = l₂.zip l₁ := by
  induction l₁ generalizing l₂ with
  | nil => cases l₂ <;> simp
  | cons a t ih => cases l₂ <;> simp [ih]

theorem dirEdges_reverse_perm (f : Face) : (dirEdges f.reverse).Perm ((dirEdges f).map Prod.swap) := by
  cases f with
  | nil => simp [dirEdges]
  | cons a t =>
    have h1 : (a :: t).reverse = (a :: t.reverse).rotate 1 := by
      simp [List.rotate_cons_succ]
    rw [h1]
    refine (dirEdges_rotate_perm _ 1).trans ?_
    have h2 : dirEdges (a :: t.reverse) = ((dirEdges (a :: t)).map Prod.swap).reverse := by
      simp only [dirEdges, map_swap_zip]
      rw [List.zip_eq_zipWith, List.zip_eq_zipWith, List.reverse_zipWith (by simp)]
      simp
    rw [h2]
    exact List.reverse_perm _

theorem count_map_swap (l : List (Nat × Nat)) (e : Nat × Nat) :
    (l.map Prod.swap).count e = l.count (e.2, e.1) := by
  induction l with
  | nil => simp
  | cons x t ih =>
    obtain ⟨a, b⟩ := x
    obtain ⟨c, d⟩ := e
    simp only [List.map_cons, List.count_cons, ih, Prod.swap_prod_mk, beq_iff_eq, Prod.mk.injEq]
    congr 1
    by_cases h : b = c ∧ a = d
    · rw [if_pos h, if_pos ⟨h.2, h.1⟩]
    · rw [if_neg h, if_neg (fun h' => h ⟨h'.2, h'.1⟩)]

theorem wt_rotate (e : Nat × Nat) (f : Face) (k : Nat) : wt e (f.rotate k) = wt e f := by
  unfold wt
  rw [(dirEdges_rotate_perm f k).count_eq, (dirEdges_rotate_perm f k).count_eq]

theorem wt_reverse (e : Nat × Nat) (f : Face) : wt e f.reverse = - wt e f := by
  unfold wt
  rw [(dirEdges_reverse_perm f).count_eq, (dirEdges_reverse_perm f).count_eq,
    count_map_swap, count_map_swap]
  simp

theorem argMin_spec (f : List Nat) (hf : f ≠ []) : argMin f < f.length ∧ ∀ b ∈ f, f.getD (argMin f) 0 ≤ b := by
  induction f with
  | nil => exact absurd rfl hf
  | cons a t ih =>
    unfold argMin
    split
    · rename_i h
      simp only [List.all_eq_true, decide_eq_true_eq] at h
      refine ⟨Nat.succ_pos _, fun b hb => ?_⟩
      rcases List.mem_cons.mp hb with rfl | hb
      · exact Nat.le_refl _
      · exact h b hb
    · rename_i h
      simp only [List.all_eq_true, decide_eq_true_eq, not_forall, Nat.not_le] at h
      obtain ⟨c, hc, hlt⟩ := h
      obtain ⟨hi, hle⟩ := ih (List.ne_nil_of_mem hc)
      refine ⟨Nat.succ_lt_succ hi, fun b hb => ?_⟩
      rcases List.mem_cons.mp hb with rfl | hb
      · exact Nat.le_of_lt (Nat.lt_of_le_of_lt (hle c hc) hlt)
      · exact hle b hb

theorem canon_length (f : Face) : (canon f).length = f.length := by
  simp only [canon, List.length_map, List.length_range]

theorem canon_eq (f : Face) : canon f = (f.rotate (argMin f + 1)).reverse := by
  apply List.ext_getElem
  · rw [canon_length, List.length_reverse, List.length_rotate]
  intro i h1 _
  rw [canon_length] at h1
  have hlt : (argMin f + f.length - i) % f.length < f.length := Nat.mod_lt _ (by omega)
  have e : f.length - 1 - i + (argMin f + 1) = argMin f + f.length - i := by omega
  simp only [canon, List.getElem_map, List.getElem_range, List.getElem_reverse, List.getElem_rotate,
    List.length_rotate, e]
  rw [List.getD_eq_getElem?_getD, List.getElem?_eq_getElem hlt, Option.getD_some]

theorem canon_isRotated (f : Face) : canon f ~r f.reverse := by
  rw [canon_eq]
  exact (List.IsRotated.symm ⟨_, rfl⟩).reverse

theorem wt_canon (e : Nat × Nat) (f : Face) : wt e (canon f) = - wt e f := by
  obtain ⟨k, hk⟩ := canon_isRotated f
  rw [← wt_rotate e (canon f) k, hk, wt_reverse]

theorem wt_canon_class (e : Nat × Nat) (f g : Face) (h : canon f = canon g) : wt e f = wt e g := by
  have hf := wt_canon e f
  have hg := wt_canon e g
  rw [h] at hf
  omega

/-- `canon f` starts with a minimum of `f` -/
theorem canon_head (f : Face) (hf : f ≠ []) :
    ∃ m, (canon f).head? = some m ∧ m ∈ f ∧ ∀ b ∈ f, m ≤ b := by
  obtain ⟨h0, hle⟩ := argMin_spec f hf
  refine ⟨f.getD (argMin f) 0, ?_, by
    rw [List.getD_eq_getElem?_getD, List.getElem?_eq_getElem h0]; exact List.getElem_mem h0, hle⟩
  obtain ⟨n, hn⟩ : ∃ n, f.length = n + 1 := ⟨f.length - 1, by omega⟩
  have hmod : (argMin f + (n + 1) - 0) % (n + 1) = argMin f := by
    rw [Nat.sub_zero, Nat.add_mod_right, Nat.mod_eq_of_lt (by omega)]
  simp only [canon, hn, List.range_succ_eq_map, List.map_cons, List.head?_cons, hmod]

/-- two rotations of a list without repetition that start with the same element are equal -/
theorem rot_unique {l₁ l₂ : List Nat} (h : l₁ ~r l₂) (hn : l₁.Nodup) (hh : l₁.head? = l₂.head?) : l₁ = l₂ := by
  obtain ⟨k, rfl⟩ := h
  by_cases hl : l₁ = []
  · subst hl
    simp
  have hpos : 0 < l₁.length := List.length_pos_iff.mpr hl
  have hk : k % l₁.length < l₁.length := Nat.mod_lt _ hpos
  rw [← List.rotate_mod] at hh ⊢
  rw [List.head?_rotate hk, List.head?_eq_getElem?, List.getElem?_eq_getElem hpos,
    List.getElem?_eq_getElem hk, Option.some_inj] at hh
  have := (List.Nodup.getElem_inj_iff hn).mp hh
  rw [← this, List.rotate_zero]

/-- on faces without repeated nodes `canon` is a rotation invariant -/
theorem canon_eq_of_isRotated {f g : Face} (hf : f.Nodup) (h : f ~r g) : canon f = canon g := by
  by_cases hfe : f = []
  · subst hfe
    have : g = [] := by simpa using h.symm
    rw [this]
  have hge : g ≠ [] := by
    rintro rfl
    exact hfe (by simpa using h)
  have hr : canon f ~r canon g :=
    ((canon_isRotated f).trans h.reverse).trans (canon_isRotated g).symm
  have hnd : (canon f).Nodup := (canon_isRotated f).nodup_iff.mpr (List.nodup_reverse.mpr hf)
  obtain ⟨m, hm, hmf, hlf⟩ := canon_head f hfe
  obtain ⟨m', hm', hmg, hlg⟩ := canon_head g hge
  have e : m = m' := Nat.le_antisymm (hlf _ (h.mem_iff.mpr hmg)) (hlg _ (h.mem_iff.mp hmf))
  apply rot_unique hr hnd
  rw [hm, hm', e]

/-- `canon f` determines `f` up to rotation (any face) -/
theorem isRotated_of_canon_eq {f g : Face} (h : canon f = canon g) : f ~r g := by
  have : f.reverse ~r g.reverse := by
    have h1 := (canon_isRotated f).symm
    rw [h] at h1
    exact h1.trans (canon_isRotated g)
  exact List.isRotated_reverse_iff.mp this

/-- the reversed class is well defined -/
theorem canon_reverse_congr {f g : Face} (hf : f.Nodup) (h : canon f = canon g) :
    canon f.reverse = canon g.reverse :=
  canon_eq_of_isRotated (List.nodup_reverse.mpr hf) (isRotated_of_canon_eq h).reverse

/-- reversal is an involution on classes -/
theorem canon_reverse_symm {f g : Face} (hg : g.Nodup) (h : canon f.reverse = canon g) :
    canon g.reverse = canon f := by
  have h1 : f.reverse ~r g := isRotated_of_canon_eq h
  have h2 : g.reverse ~r f := by simpa using h1.reverse.symm
  exact canon_eq_of_isRotated (List.nodup_reverse.mpr hg) h2

/-- consecutive pairs of a list -/
def pathEdges : List Nat → List (Nat × Nat)
  | a :: b :: t => (a, b) :: pathEdges (b :: t)
  | _ => []

theorem zip_eq_pathEdges (a : Nat) (t : List Nat) (x : Nat) :
    (a :: t).zip (t ++ [x]) = pathEdges (a :: t ++ [x]) := by
  induction t generalizing a with
  | nil => simp [pathEdges]
  | cons b t ih =>
    have := ih b
    simp only [List.cons_append] at this ⊢
    rw [List.zip_cons_cons, this, pathEdges]

theorem dirEdges_eq_pathEdges (a : Nat) (t : List Nat) : dirEdges (a :: t) = pathEdges (a :: t ++ [a]) := by
  rw [dirEdges]; exact zip_eq_pathEdges a t a

theorem pathEdges_split (l : List Nat) (x : Nat) (r : List Nat) :
    pathEdges (l ++ x :: r) = pathEdges (l ++ [x]) ++ pathEdges (x :: r) := by
  induction l with
  | nil => rfl
  | cons a l ih =>
    cases l with
    | nil => rfl
    | cons b l =>
      simp only [List.cons_append] at ih ⊢
      rw [pathEdges, ih, pathEdges, List.cons_append]

theorem dirEdges_mergeAlong (A B : Nat) (p q : List Nat) :
    dirEdges (mergeAlong A B p q) = pathEdges (B :: p ++ [A]) ++ pathEdges (A :: q ++ [B]) := by
  show dirEdges (B :: (p ++ A :: q)) = _
  rw [dirEdges_eq_pathEdges]
  have : B :: (p ++ A :: q) ++ [B] = (B :: p) ++ A :: (q ++ [B]) := by simp
  rw [this, pathEdges_split]
  rfl

theorem dirEdges_cons_cons (A B : Nat) (p : List Nat) :
    dirEdges (A :: B :: p) = (A, B) :: pathEdges (B :: p ++ [A]) := by
  rw [dirEdges_eq_pathEdges]; rfl

theorem edge_merge_perm (A B : Nat) (p q : List Nat) :
    (dirEdges (mergeAlong A B p q) ++ [(A,B),(B,A)]).Perm (dirEdges (A :: B :: p) ++ dirEdges (B :: A :: q)) := by
  rw [dirEdges_mergeAlong, dirEdges_cons_cons, dirEdges_cons_cons]
  rw [List.perm_iff_count]
  intro e
  simp only [List.count_append, List.count_cons, List.count_nil]
  omega

theorem pair_bal (A B : Nat) (e : Nat × Nat) :
    [(A,B),(B,A)].count e = [(A,B),(B,A)].count (e.2, e.1) := by
  rw [← count_map_swap]
  exact (List.Perm.swap (B, A) (A, B) []).count_eq e

theorem edge_merge_bal (A B : Nat) (p q : List Nat) (rest : List Face)
    (h : Bal (edgesOf (rest ++ [A :: B :: p, B :: A :: q]))) :
    Bal (edgesOf (rest ++ [mergeAlong A B p q])) := by
  intro e
  have hc := fun e' => (edge_merge_perm A B p q).count_eq e'
  have h1 := h e
  have hp := pair_bal A B e
  have e1 := hc e
  have e2 := hc (e.2, e.1)
  simp only [edgesOf, List.flatMap_append, List.flatMap_cons, List.flatMap_nil, List.append_nil,
    List.count_append] at h1 e1 e2 ⊢
  omega

section Flux
open V3
variable {R : Type} [CommRing R]

/-- `Σ_{i ≥ 1} det p0 l[i-1] l[i]` -/
def fanAux (p0 : V3 R) : List (V3 R) → R
  | a :: b :: t => det p0 a b + fanAux p0 (b :: t)
  | _ => 0

/-- `Σ_{i ≥ 2} det P[0] P[i-1] P[i]`: six times the flux of `x/3` through the fan triangulation of `P` -/
def fanFlux : List (V3 R) → R
  | [] => 0
  | p0 :: rest => fanAux p0 rest

/-- `Σ cross a b` over the cyclic consecutive pairs `(a, b)` of `P`: twice the area vector -/
def cycArea2 : List (V3 R) → V3 R
  | [] => ⟨0, 0, 0⟩
  | p0 :: t => (((p0 :: t).zip (t ++ [p0])).map fun e => cross e.1 e.2).foldr (· + ·) ⟨0, 0, 0⟩

/-- `Σ cross a b` over the consecutive pairs of a path -/
def pathCross : List (V3 R) → V3 R
  | a :: b :: t => cross a b + pathCross (b :: t)
  | _ => ⟨0, 0, 0⟩

theorem zip_eq_pathCross (a : V3 R) (t : List (V3 R)) (x : V3 R) :
    (((a :: t).zip (t ++ [x])).map fun e => cross e.1 e.2).foldr (· + ·) ⟨0, 0, 0⟩
      = pathCross (a :: t ++ [x]) := by
  induction t generalizing a with
  | nil => simp [pathCross]
  | cons b t ih =>
    have := ih b
    simp only [List.cons_append] at this ⊢
    rw [List.zip_cons_cons, List.map_cons, List.foldr_cons, this, pathCross]

theorem cycArea2_cons (p0 : V3 R) (t : List (V3 R)) : cycArea2 (p0 :: t) = pathCross (p0 :: t ++ [p0]) := by
  rw [cycArea2]; exact zip_eq_pathCross p0 t p0

theorem dot_add (v a b : V3 R) : dot v (a + b) = dot v a + dot v b := by
  show dot v (V3.add a b) = _
  simp only [dot, V3.add]; ring

theorem sub_dot (v w n : V3 R) : dot (v - w) n = dot v n - dot w n := by
  show dot (V3.sub v w) n = _
  simp only [dot, V3.sub]; ring

theorem dot_zero (v : V3 R) : dot v (⟨0, 0, 0⟩ : V3 R) = 0 := by
  simp only [dot]; ring

theorem det_eq_dot_cross (p a b : V3 R) : det p a b = dot p (cross a b) := by
  simp only [det, dot, cross]; ring

theorem dot_cross_self_left (p a : V3 R) : dot p (cross p a) = 0 := by
  simp only [dot, cross]; ring

theorem dot_cross_self_right (p a : V3 R) : dot p (cross a p) = 0 := by
  simp only [dot, cross]; ring

theorem dot_cross_swap (v a b : V3 R) : dot v (cross a b) + dot v (cross b a) = 0 := by
  simp only [dot, cross]; ring

theorem dot_pathCross_split (v : V3 R) (l : List (V3 R)) (x : V3 R) (r : List (V3 R)) :
    dot v (pathCross (l ++ x :: r)) = dot v (pathCross (l ++ [x])) + dot v (pathCross (x :: r)) := by
  induction l with
  | nil =>
    show _ = dot v ⟨0, 0, 0⟩ + _
    rw [dot_zero, zero_add]; rfl
  | cons a l ih =>
    cases l with
    | nil =>
      show dot v (cross a x + pathCross (x :: r)) = dot v (cross a x + ⟨0, 0, 0⟩) + _
      rw [dot_add, dot_add, dot_zero, add_zero]
    | cons b l =>
      simp only [List.cons_append] at ih ⊢
      rw [pathCross, dot_add, ih, pathCross, dot_add, add_assoc]

theorem fanAux_eq (p0 : V3 R) (l : List (V3 R)) : fanAux p0 l = dot p0 (pathCross l) := by
  induction l with
  | nil => simp [fanAux, pathCross, dot_zero]
  | cons a l ih =>
    cases l with
    | nil => simp [fanAux, pathCross, dot_zero]
    | cons b l => rw [fanAux, pathCross, dot_add, ih, det_eq_dot_cross]

theorem dot_pathCross_snoc (x : V3 R) (l : List (V3 R)) :
    dot x (pathCross (l ++ [x])) = dot x (pathCross l) := by
  induction l with
  | nil => simp [pathCross]
  | cons a l ih =>
    cases l with
    | nil => simp [pathCross, dot_add, dot_zero, dot_cross_self_right]
    | cons b l =>
      simp only [List.cons_append] at ih ⊢
      rw [pathCross, dot_add, ih, pathCross, dot_add]

/-- the fan flux is the base point dotted with twice the area vector -/
theorem fanFlux_eq_dot (p0 : V3 R) (t : List (V3 R)) : fanFlux (p0 :: t) = dot p0 (cycArea2 (p0 :: t)) := by
  rw [fanFlux, cycArea2_cons, fanAux_eq, dot_pathCross_snoc]
  cases t with
  | nil => simp [pathCross]
  | cons a t => rw [pathCross, dot_add, dot_cross_self_left, zero_add]

/-- twice the area vector of the merged face is the sum of those of the two faces (tested against any `v`) -/
theorem dot_cycArea2_merge (v A B : V3 R) (p q : List (V3 R)) :
    dot v (cycArea2 (B :: p ++ A :: q)) = dot v (cycArea2 (A :: B :: p)) + dot v (cycArea2 (B :: A :: q)) := by
  show dot v (cycArea2 (B :: (p ++ A :: q))) = _
  rw [cycArea2_cons, cycArea2_cons, cycArea2_cons]
  have h : B :: (p ++ A :: q) ++ [B] = (B :: p) ++ A :: (q ++ [B]) := by simp
  rw [h, dot_pathCross_split]
  simp only [List.cons_append]
  rw [pathCross, pathCross, dot_add, dot_add]
  linear_combination (-1 : R) * dot_cross_swap v A B

/-- of the coplanarity of the two faces only `A - B ⟂ area vector of the first face` is needed -/
theorem fanFlux_merge_of_edge (A B : V3 R) (p q : List (V3 R))
    (hAB : dot (A - B) (cycArea2 (A :: B :: p)) = 0) :
    fanFlux (B :: p ++ A :: q) = fanFlux (A :: B :: p) + fanFlux (B :: A :: q) := by
  rw [sub_dot] at hAB
  show fanFlux (B :: (p ++ A :: q)) = _
  rw [fanFlux_eq_dot, fanFlux_eq_dot, fanFlux_eq_dot]
  have := dot_cycArea2_merge B A B p q
  simp only [List.cons_append] at this
  rw [this]
  linear_combination (-1 : R) * hAB

end Flux

end Femio.C20
