import Femio.Lemmas.C20Steps

/-! C20 — the invariant of the transition system: `merge(a, b)` of `merge_vertices`
    (`mergeVertexFace` / `mergeVertexCell`), for ANY pair of nodes `a`, `b`.
    The overwrite `F[ib] = a` is the renaming `b ↦ a` of a simple cycle; a renaming keeps a cell closed (`bal_map`);
    cutting a cycle that visits `a` twice at these two visits splits its directed edges into those of the two pieces;
    the pieces that are dropped have at most two nodes and so carry a balanced set of edges (`bal_short`). -/
namespace Femio.C20
open Faces

theorem lastIdx_fold (x : Nat) (f : Face) (n : Nat) :
    ((List.range n).foldl (fun acc i => if f.getD i 0 = x then some i else acc) none = none ↔
        ∀ i < n, f.getD i 0 ≠ x) ∧
    (∀ i, (List.range n).foldl (fun acc i => if f.getD i 0 = x then some i else acc) none = some i →
        i < n ∧ f.getD i 0 = x) := by
  induction n with
  | zero => simp
  | succ n ih =>
    rw [List.range_succ, List.foldl_append]
    simp only [List.foldl_cons, List.foldl_nil]
    by_cases h : f.getD n 0 = x
    · rw [if_pos h]
      refine ⟨⟨fun hh => (by cases hh), fun hh => absurd h (hh n (Nat.lt_succ_self n))⟩, ?_⟩
      intro i hi
      cases hi
      exact ⟨Nat.lt_succ_self _, h⟩
    · rw [if_neg h]
      refine ⟨?_, ?_⟩
      · rw [ih.1]
        constructor
        · intro hh i hi
          rcases Nat.lt_succ_iff_lt_or_eq.mp hi with h' | rfl
          · exact hh i h'
          · exact h
        · intro hh i hi
          exact hh i (Nat.lt_succ_of_lt hi)
      · intro i hi
        obtain ⟨h1, h2⟩ := ih.2 i hi
        exact ⟨Nat.lt_succ_of_lt h1, h2⟩

theorem lastIdx_none {x : Nat} {f : Face} : lastIdx x f = none ↔ x ∉ f := by
  unfold lastIdx
  rw [(lastIdx_fold x f f.length).1, List.mem_iff_getElem]
  constructor
  · rintro h ⟨i, hi, hx⟩
    apply h i hi
    rw [List.getD_eq_getElem?_getD, List.getElem?_eq_getElem hi]
    exact hx
  · intro h i hi hx
    apply h
    refine ⟨i, hi, ?_⟩
    rw [List.getD_eq_getElem?_getD, List.getElem?_eq_getElem hi] at hx
    exact hx

theorem lastIdx_some {x : Nat} {f : Face} {i : Nat} (h : lastIdx x f = some i) : f[i]? = some x := by
  unfold lastIdx at h
  obtain ⟨hi, hx⟩ := (lastIdx_fold x f f.length).2 i h
  rw [List.getD_eq_getElem?_getD, List.getElem?_eq_getElem hi] at hx
  rw [List.getElem?_eq_getElem hi]
  exact congrArg some hx

/-- the three shapes of the result of `merge(a, b)` on one face -/
theorem mergeVertexFace_cases (a b : Nat) (f : Face) :
    (b ∉ f ∧ mergeVertexFace a b f = [f]) ∨
    (∃ j, f[j]? = some b ∧ a ∉ f ∧ mergeVertexFace a b f = [f.set j a]) ∨
    (∃ i j, f[i]? = some a ∧ f[j]? = some b ∧
      mergeVertexFace a b f =
        [((f.set j a).take (max i j)).drop (min i j),
          (f.set j a).drop (max i j) ++ (f.set j a).take (min i j)].filter fun g => decide (3 ≤ g.length)) := by
  unfold mergeVertexFace
  cases hb : lastIdx b f with
  | none =>
    left
    refine ⟨lastIdx_none.mp hb, ?_⟩
    cases lastIdx a f <;> rfl
  | some j =>
    right
    cases ha : lastIdx a f with
    | none => left; exact ⟨j, lastIdx_some hb, lastIdx_none.mp ha, rfl⟩
    | some i => right; exact ⟨i, j, lastIdx_some ha, lastIdx_some hb, rfl⟩

/-- `b ↦ a` -/
def subNode (a b : Nat) : Nat → Nat := fun v => if v = b then a else v

theorem map_sub_of_not_mem {a b : Nat} {f : Face} (hb : b ∉ f) : f.map (subNode a b) = f := by
  conv_rhs => rw [← List.map_id f]
  apply List.map_congr_left
  intro v hv
  have : v ≠ b := fun h => hb (h ▸ hv)
  simp [subNode, this]

theorem set_eq_map_sub {f : Face} (hf : f.Nodup) {j b : Nat} (hj : f[j]? = some b) (a : Nat) :
    f.set j a = f.map (subNode a b) := by
  obtain ⟨hjl, hjb⟩ := List.getElem?_eq_some_iff.mp hj
  apply List.ext_getElem (by simp)
  intro k h1 h2
  have hk : k < f.length := by simpa using h1
  rw [List.getElem_set, List.getElem_map]
  unfold subNode
  by_cases hjk : j = k
  · subst hjk
    rw [if_pos rfl, if_pos hjb]
  · rw [if_neg hjk, if_neg]
    intro h
    exact hjk ((hf.getElem_inj_iff).mp (h.trans hjb.symm)).symm

theorem mem_map_sub {a b v : Nat} {f : Face} (h : v ∈ f.map (subNode a b)) : (v ∈ f ∨ v = a) ∧ (a ≠ b → v ≠ b) := by
  obtain ⟨w, hw, rfl⟩ := List.mem_map.mp h
  unfold subNode
  by_cases hwb : w = b
  · rw [if_pos hwb]; exact ⟨Or.inr rfl, fun h => h⟩
  · rw [if_neg hwb]; exact ⟨Or.inl hw, fun _ => hwb⟩

theorem exists_cons_of_getElem?_zero {l : List Nat} {a : Nat} (h : l[0]? = some a) : ∃ t, l = a :: t := by
  cases l with
  | nil => exact nomatch h
  | cons x t => exact ⟨t, by rw [Option.some.inj h]⟩

theorem dirEdges_glue (a : Nat) (mid rest : List Nat) :
    dirEdges (a :: mid ++ a :: rest) = dirEdges (a :: mid) ++ dirEdges (a :: rest) := by
  rw [dirEdges_eq_pathEdges a mid, dirEdges_eq_pathEdges a rest]
  exact dirEdges_mergeAlong a a mid rest

theorem cut_rotate (g : Face) {lo hi : Nat} (hle : lo ≤ hi) (hh : hi ≤ g.length) :
    (g.take hi).drop lo ++ (g.drop hi ++ g.take lo) = g.rotate lo := by
  rw [List.rotate_eq_drop_append_take (Nat.le_trans hle hh), ← List.append_assoc]
  congr 1
  conv_rhs => rw [← List.take_append_drop hi g, List.drop_append]
  have : lo - (List.take hi g).length = 0 := by
    rw [List.length_take]; omega
  rw [this, List.drop_zero]

theorem cut_head_left {g : Face} {lo hi a : Nat} (hlt : lo < hi) (hlo : g[lo]? = some a) :
    ∃ t, (g.take hi).drop lo = a :: t := by
  apply exists_cons_of_getElem?_zero
  rw [List.getElem?_drop, List.getElem?_take, if_pos (by omega)]
  exact hlo

theorem cut_head_right {g : Face} {hi a : Nat} (hhi : g[hi]? = some a) : ∃ t, g.drop hi = a :: t := by
  apply exists_cons_of_getElem?_zero
  rw [List.getElem?_drop]
  exact hhi

theorem dirEdges_cut (g : Face) {lo hi a : Nat} (hle : lo ≤ hi) (hlo : g[lo]? = some a) (hhi : g[hi]? = some a) :
    (dirEdges ((g.take hi).drop lo) ++ dirEdges (g.drop hi ++ g.take lo)).Perm (dirEdges g) := by
  have hh : hi < g.length := (List.getElem?_eq_some_iff.mp hhi).1
  refine List.Perm.trans ?_ (dirEdges_rotate_perm g lo)
  rw [← cut_rotate g hle (Nat.le_of_lt hh)]
  rcases Nat.eq_or_lt_of_le hle with rfl | hlt
  · have : (g.take lo).drop lo = [] := by
      apply List.drop_eq_nil_of_le; rw [List.length_take]; omega
    rw [this]
    simp [dirEdges]
  · obtain ⟨P, hP⟩ := cut_head_left (hi := hi) hlt hlo
    obtain ⟨R, hR⟩ := cut_head_right hhi
    rw [hP, hR, List.cons_append, dirEdges_glue]

theorem count_set_le {f : Face} (hf : f.Nodup) {a b i j : Nat} (hi : f[i]? = some a) (hj : f[j]? = some b)
    (x : Nat) : (f.set j a).count x ≤ if x = a ∧ min i j ≠ max i j then 2 else 1 := by
  obtain ⟨hil, hia⟩ := List.getElem?_eq_some_iff.mp hi
  obtain ⟨hjl, hjb⟩ := List.getElem?_eq_some_iff.mp hj
  have h2 := List.nodup_iff_count_le_one.mp hf x
  rw [List.count_set hjl]
  by_cases hx : x = a
  · subst hx
    by_cases hij : i = j
    · subst hij
      have h1 : 1 ≤ f.count x := List.one_le_count_iff.mpr (List.mem_of_getElem? hi)
      simp only [hia, beq_self_eq_true, if_true, min_self, max_self, ne_eq, not_true_eq_false, and_false, if_false]
      rw [Nat.sub_add_cancel h1]
      exact h2
    · have hne : min i j ≠ max i j := fun h =>
        hij (Nat.le_antisymm
          (Nat.le_trans (Nat.le_max_left i j) (Nat.le_trans (Nat.le_of_eq h.symm) (Nat.min_le_right i j)))
          (Nat.le_trans (Nat.le_max_right i j) (Nat.le_trans (Nat.le_of_eq h.symm) (Nat.min_le_left i j))))
      simp only [beq_self_eq_true, if_true, ne_eq, hne, not_false_eq_true, and_self]
      exact Nat.succ_le_succ (Nat.le_trans (Nat.sub_le _ _) h2)
  · have hax : (a == x) = false := by simpa using Ne.symm hx
    simp only [hax, hx, false_and, if_false, Bool.false_eq_true, Nat.add_zero]
    exact Nat.le_trans (Nat.sub_le _ _) h2

theorem cut_nodup {g : Face} {a lo hi : Nat} (hle : lo ≤ hi) (hlo : g[lo]? = some a) (hhi : g[hi]? = some a)
    (hcnt : ∀ x, g.count x ≤ if x = a ∧ lo ≠ hi then 2 else 1) :
    ((g.take hi).drop lo).Nodup ∧ (g.drop hi ++ g.take lo).Nodup := by
  have hh : hi ≤ g.length := Nat.le_of_lt (List.getElem?_eq_some_iff.mp hhi).1
  rw [List.nodup_iff_count_le_one, List.nodup_iff_count_le_one]
  suffices h : ∀ x, List.count x ((g.take hi).drop lo) ≤ 1 ∧ List.count x (g.drop hi ++ g.take lo) ≤ 1 from
    ⟨fun x => (h x).1, fun x => (h x).2⟩
  intro x
  have h1 : List.count x ((g.take hi).drop lo) + List.count x (g.drop hi ++ g.take lo) = List.count x g := by
    rw [← List.count_append, cut_rotate _ hle hh]
    exact (List.rotate_perm _ _).count_eq x
  have h2 := hcnt x
  by_cases hx : x = a ∧ lo ≠ hi
  · obtain ⟨rfl, hne⟩ := hx
    obtain ⟨P, hP⟩ := cut_head_left (hi := hi) (Nat.lt_of_le_of_ne hle hne) hlo
    obtain ⟨Q, hQ⟩ := cut_head_right hhi
    have c1 : 1 ≤ List.count x ((g.take hi).drop lo) := by
      rw [hP]; exact List.one_le_count_iff.mpr List.mem_cons_self
    have c2 : 1 ≤ List.count x (g.drop hi ++ g.take lo) := by
      rw [hQ]; exact List.one_le_count_iff.mpr (by simp)
    rw [if_pos ⟨rfl, hne⟩] at h2
    omega
  · rw [if_neg hx] at h2
    omega

theorem cut_spec {g : Face} {a lo hi : Nat} (hle : lo ≤ hi) (hlo : g[lo]? = some a) (hhi : g[hi]? = some a)
    (hcnt : ∀ x, g.count x ≤ if x = a ∧ lo ≠ hi then 2 else 1) :
    (∀ p ∈ [(g.take hi).drop lo, g.drop hi ++ g.take lo].filter fun p => decide (3 ≤ p.length),
      FaceOK p ∧ ∀ v ∈ p, v ∈ g) ∧
    BalRest (edgesOf ([(g.take hi).drop lo, g.drop hi ++ g.take lo].filter fun p => decide (3 ≤ p.length)))
      (dirEdges g) := by
  have hnd := cut_nodup hle hlo hhi hcnt
  have hrot := cut_rotate g hle (Nat.le_of_lt (List.getElem?_eq_some_iff.mp hhi).1)
  constructor
  · intro p hp
    obtain ⟨hp1, hp2⟩ := List.mem_filter.mp hp
    have hlen : 3 ≤ p.length := by simpa using hp2
    have hsub : ∀ v ∈ (g.take hi).drop lo ++ (g.drop hi ++ g.take lo), v ∈ g := by
      intro v hv
      rw [hrot] at hv
      exact List.mem_rotate.mp hv
    simp only [List.mem_cons, List.not_mem_nil, or_false] at hp1
    rcases hp1 with rfl | rfl
    · exact ⟨⟨hnd.1, hlen⟩, fun v hv => hsub v (List.mem_append_left _ hv)⟩
    · exact ⟨⟨hnd.2, hlen⟩, fun v hv => hsub v (List.mem_append_right _ hv)⟩
  · refine (filter_len_split [(g.take hi).drop lo, g.drop hi ++ g.take lo]).perm ?_
    simpa [edgesOf] using dirEdges_cut g hle hlo hhi

theorem mergeVertexFace_spec {f : Face} (hf : FaceOK f) (a b : Nat) :
    (∀ g ∈ mergeVertexFace a b f, FaceOK g ∧ ∀ v ∈ g, v ∈ f.map (subNode a b)) ∧
    BalRest (edgesOf (mergeVertexFace a b f)) (dirEdges (f.map (subNode a b))) := by
  rcases mergeVertexFace_cases a b f with ⟨hb, he⟩ | ⟨j, hj, ha, he⟩ | ⟨i, j, hi, hj, he⟩
  · rw [he, map_sub_of_not_mem hb]
    refine ⟨?_, by rw [edgesOf_singleton]; exact BalRest.refl _⟩
    intro g hg
    rw [List.mem_singleton.mp hg]
    exact ⟨hf, fun v hv => hv⟩
  · rw [he, ← set_eq_map_sub hf.1 hj a]
    refine ⟨?_, by rw [edgesOf_singleton]; exact BalRest.refl _⟩
    intro g hg
    rw [List.mem_singleton.mp hg]
    exact ⟨⟨hf.1.set ha, by rw [List.length_set]; exact hf.2⟩, fun v hv => hv⟩
  · have hjl := (List.getElem?_eq_some_iff.mp hj).1
    have hgj : (f.set j a)[j]? = some a := by rw [List.getElem?_set, if_pos rfl, if_pos hjl]
    have hgi : (f.set j a)[i]? = some a := by
      by_cases hij : j = i
      · rw [← hij]; exact hgj
      · rw [List.getElem?_set, if_neg hij]; exact hi
    have hlo : (f.set j a)[min i j]? = some a := by
      rcases Nat.le_total i j with h | h
      · rw [Nat.min_eq_left h]; exact hgi
      · rw [Nat.min_eq_right h]; exact hgj
    have hhi : (f.set j a)[max i j]? = some a := by
      rcases Nat.le_total i j with h | h
      · rw [Nat.max_eq_right h]; exact hgj
      · rw [Nat.max_eq_left h]; exact hgi
    rw [he, ← set_eq_map_sub hf.1 hj a]
    exact cut_spec (Nat.le_trans (Nat.min_le_left i j) (Nat.le_max_left i j)) hlo hhi (count_set_le hf.1 hi hj)

theorem mergeVertexCell_cons (a b : Nat) (f : Face) (t : Cell) :
    mergeVertexCell a b (f :: t) = mergeVertexFace a b f ++ mergeVertexCell a b t := by
  simp [mergeVertexCell]

theorem mergeVertexCell_edges {c : Cell} (hc : ∀ f ∈ c, FaceOK f) (a b : Nat) :
    BalRest (edgesOf (mergeVertexCell a b c)) (edgesOf (c.map fun f => f.map (subNode a b))) := by
  induction c with
  | nil => exact BalRest.refl _
  | cons f t ih =>
    rw [mergeVertexCell_cons, edgesOf_append, List.map_cons, edgesOf_cons]
    exact (mergeVertexFace_spec (hc f List.mem_cons_self) a b).2.append (ih fun g hg => hc g (List.mem_cons_of_mem _ hg))

theorem mem_mergeVertexCell {a b : Nat} {c : Cell} {g : Face} (h : g ∈ mergeVertexCell a b c) :
    ∃ f ∈ c, g ∈ mergeVertexFace a b f := by
  simpa [mergeVertexCell] using h

/-- `merge(a, b)` keeps a cell closed and its faces simple cycles of at least three nodes — for any `a`, `b` -/
theorem mergeVertexCell_cellOK {c : Cell} (hc : CellOK c) (a b : Nat) : CellOK (mergeVertexCell a b c) := by
  refine ⟨?_, ?_⟩
  · refine (mergeVertexCell_edges hc.2 a b).bal ?_
    rw [edgesOf_map]
    exact bal_map _ hc.1
  · intro g hg
    obtain ⟨f, hf, hgf⟩ := mem_mergeVertexCell hg
    exact ((mergeVertexFace_spec (hc.2 f hf) a b).1 g hgf).1

theorem mergeVertexCell_mem_map {c : Cell} (hc : ∀ f ∈ c, FaceOK f) (a b : Nat) :
    ∀ v ∈ (mergeVertexCell a b c).flatten, ∃ f ∈ c, v ∈ f.map (subNode a b) := by
  intro v hv
  obtain ⟨g, hg, hvg⟩ := List.mem_flatten.mp hv
  obtain ⟨f, hf, hgf⟩ := mem_mergeVertexCell hg
  exact ⟨f, hf, ((mergeVertexFace_spec (hc f hf) a b).1 g hgf).2 v hvg⟩

theorem mergeVertexCell_nodes {c : Cell} (hc : ∀ f ∈ c, FaceOK f) (a b : Nat) :
    ∀ v ∈ (mergeVertexCell a b c).flatten, v ∈ c.flatten ∨ v = a := by
  intro v hv
  obtain ⟨f, hf, hvf⟩ := mergeVertexCell_mem_map hc a b v hv
  rcases (mem_map_sub hvf).1 with h | h
  · exact Or.inl (List.mem_flatten.mpr ⟨f, hf, h⟩)
  · exact Or.inr h

/-- `b` is gone -/
theorem mergeVertexCell_not_mem {c : Cell} (hc : ∀ f ∈ c, FaceOK f) {a b : Nat} (hab : a ≠ b) :
    b ∉ (mergeVertexCell a b c).flatten := by
  intro hv
  obtain ⟨f, _, hvf⟩ := mergeVertexCell_mem_map hc a b b hv
  exact (mem_map_sub hvf).2 hab rfl

theorem mergeVertexCell_id {c : Cell} {a b : Nat} (hb : b ∉ c.flatten) :
    mergeVertexCell a b c = c := by
  induction c with
  | nil => rfl
  | cons f t ih =>
    rw [List.flatten_cons, List.mem_append, not_or] at hb
    rw [mergeVertexCell_cons, ih hb.2]
    rcases mergeVertexFace_cases a b f with ⟨_, he⟩ | ⟨j, hj, _, _⟩ | ⟨i, j, _, hj, _⟩
    · rw [he]; rfl
    · exact absurd (List.mem_of_getElem? hj) hb.1
    · exact absurd (List.mem_of_getElem? hj) hb.1

end Femio.C20
