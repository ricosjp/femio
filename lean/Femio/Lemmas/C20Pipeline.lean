import Femio.Lemmas.C20Rv2
import Femio.Lemmas.C20MergeV

/-! C20 — the state invariant of the transition system (`Model/CompressSteps.lean`) and its preservation by every
    step: cells closed with simple faces of ≥ 3 nodes (`Inv`), node indices in range of `node_conv`, and no node that
    is still used has been merged away (`conv[v] = v`). -/
namespace Femio.C20
open Faces

theorem mem_nodes {cells : List Cell} {v : Nat} :
    v ∈ cells.flatten.flatten ↔ ∃ c ∈ cells, ∃ f ∈ c, v ∈ f := by
  simp only [List.mem_flatten]
  constructor
  · rintro ⟨f, ⟨c, hc, hf⟩, hv⟩; exact ⟨c, hc, f, hf, hv⟩
  · rintro ⟨c, hc, f, hf, hv⟩; exact ⟨f, ⟨c, hc, hf⟩, hv⟩

/-- every node of `cells'` is a node of `cells` -/
def NodesSub (cells' cells : List Cell) : Prop := ∀ v ∈ cells'.flatten.flatten, v ∈ cells.flatten.flatten

theorem nodesSub_of_cells {cells' cells : List Cell}
    (h : ∀ c' ∈ cells', ∀ f' ∈ c', ∀ v ∈ f', v ∈ cells.flatten.flatten) : NodesSub cells' cells := by
  intro v hv
  obtain ⟨c', hc', f', hf', hv'⟩ := mem_nodes.mp hv
  exact h c' hc' f' hf' v hv'

theorem getD_nodes {cells : List Cell} (i : Nat) {f : Face} (hf : f ∈ cells.getD i []) {v : Nat} (hv : v ∈ f) :
    v ∈ cells.flatten.flatten := by
  rcases getD_nil_or_mem cells i with h' | h'
  · rw [h'] at hf; exact absurd hf List.not_mem_nil
  · exact mem_nodes.mpr ⟨_, h', f, hf, hv⟩

theorem merge_nodesSub (cells : List Cell) (groups : List (List Nat)) :
    NodesSub (groups.map fun g => mergeCells (g.map fun i => cells.getD i [])) cells := by
  apply nodesSub_of_cells
  intro c' hc' f' hf' v hv
  obtain ⟨g, _, rfl⟩ := List.mem_map.mp hc'
  obtain ⟨c, hc, hfc⟩ := List.mem_flatten.mp (mem_mergeCells _ f' hf')
  obtain ⟨i, _, rfl⟩ := List.mem_map.mp hc
  exact getD_nodes i hfc hv

theorem shrink_nodesSub (cells : List Cell) : NodesSub (shrink cells) cells := by
  apply nodesSub_of_cells
  intro c' hc' f' hf' v hv
  obtain ⟨c, hc, rfl⟩ := mem_shrink hc'
  exact mem_nodes.mpr ⟨c, hc, f', (List.mem_filter.mp hf').1, hv⟩

theorem removeEdgeStep_nodesSub {cells : List Cell} (h : Inv cells) (A B : Nat) (ps : List Nat) :
    NodesSub (removeEdgeStep A B ps cells) cells := by
  obtain ⟨g, he, hg⟩ := removeEdgeStep_spec A B ps cells
  rw [he]
  apply nodesSub_of_cells
  intro c' hc' f' hf' v hv
  obtain ⟨i, _, rfl⟩ := List.mem_map.mp hc'
  rcases hg i with h' | ⟨_, h'⟩
  · rw [h'] at hf'; exact getD_nodes i hf' hv
  · obtain ⟨f, hf, hvf⟩ := List.mem_flatten.mp (removeOneEdge_nodes (getD_cellOK h i).2 h' f' hf' v hv)
    exact getD_nodes i hf hvf

theorem removeVertices2_nodesSub {cells cells' : List Cell} (hinv : Inv cells)
    (h : removeVertices2 cells = some cells') : NodesSub cells' cells := by
  rw [(removeVertices2_spec hinv).1] at h
  cases h
  intro v hv
  obtain ⟨c', hc', f', hf', hvf⟩ := mem_nodes.mp (shrink_nodesSub _ v hv)
  obtain ⟨c, hc, rfl⟩ := List.mem_map.mp hc'
  simp only [rv2Cell, List.mem_filter, List.mem_map] at hf'
  obtain ⟨⟨f, hf, rfl⟩, _⟩ := hf'
  exact mem_nodes.mpr ⟨c, hc, f, hf, (List.mem_filter.mp hvf).1⟩

/-- the state invariant: the cells are `Inv`, every used node is a row of `node_conv` (`range`) and has not been merged
away (`fixed`: `conv[v] = v`; by `range` the default of `getD` is never taken) -/
structure Good (st : St) : Prop where
  inv : Inv st.cells
  range : ∀ v ∈ st.cells.flatten.flatten, v < st.conv.length
  fixed : ∀ v ∈ st.cells.flatten.flatten, st.conv.getD v v = v

theorem good_of_nodesSub {st : St} (hg : Good st) {cells' : List Cell} (hinv : Inv cells')
    (hs : NodesSub cells' st.cells) : Good { st with cells := cells' } :=
  ⟨hinv, fun v hv => hg.range v (hs v hv), fun v hv => hg.fixed v (hs v hv)⟩

theorem mergeVertex_inv {cells : List Cell} (h : Inv cells) (a b : Nat) : Inv (cells.map (mergeVertexCell a b)) :=
  List.forall_mem_map.mpr fun c hc => mergeVertexCell_cellOK (h c hc) a b

theorem step_good {st st' : St} (hg : Good st) (op : Op) (h : step st op = some st') :
    Good st' ∧ st'.conv.length = st.conv.length := by
  cases op with
  | merge groups =>
    simp only [step, Option.some.injEq] at h; subst h
    exact ⟨good_of_nodesSub hg (merge_step_inv hg.inv groups) (merge_nodesSub _ _), rfl⟩
  | removeEdge A B ps =>
    simp only [step, Option.some.injEq] at h; subst h
    exact ⟨good_of_nodesSub hg (removeEdgeStep_inv hg.inv A B ps) (removeEdgeStep_nodesSub hg.inv A B ps), rfl⟩
  | removeVertices2 =>
    simp only [step, Option.map_eq_some_iff] at h
    obtain ⟨cs, hcs, rfl⟩ := h
    obtain ⟨cs', hcs', hinv⟩ := removeVertices2_inv hg.inv
    rw [hcs] at hcs'; cases hcs'
    exact ⟨good_of_nodesSub hg hinv (removeVertices2_nodesSub hg.inv hcs), rfl⟩
  | mergeVertex a b =>
    simp only [step] at h
    split at h
    · rename_i hguard
      obtain ⟨ha, hb, hab, hfix⟩ := hguard
      cases h
      have hnodes : ∀ v ∈ (st.cells.map (mergeVertexCell a b)).flatten.flatten,
          (v ∈ st.cells.flatten.flatten ∨ v = a) ∧ v ≠ b := by
        intro v hv
        obtain ⟨c', hc', f', hf', hvf⟩ := mem_nodes.mp hv
        obtain ⟨c, hc, rfl⟩ := List.mem_map.mp hc'
        have hvc : v ∈ (mergeVertexCell a b c).flatten := List.mem_flatten.mpr ⟨f', hf', hvf⟩
        refine ⟨?_, fun e => mergeVertexCell_not_mem (hg.inv c hc).2 hab (e ▸ hvc)⟩
        rcases mergeVertexCell_nodes (hg.inv c hc).2 a b v hvc with h | h
        · obtain ⟨f, hf, hvf'⟩ := List.mem_flatten.mp h
          exact Or.inl (mem_nodes.mpr ⟨c, hc, f, hf, hvf'⟩)
        · exact Or.inr h
      refine ⟨⟨mergeVertex_inv hg.inv a b, fun v hv => ?_, fun v hv => ?_⟩, by simp⟩
      · simp only [List.length_set]
        rcases (hnodes v hv).1 with h | h
        · exact hg.range v h
        · rw [h]; exact ha
      · have hvb := (hnodes v hv).2
        simp only
        rw [List.getD_eq_getElem?_getD, List.getElem?_set_ne (fun e => hvb e.symm), ← List.getD_eq_getElem?_getD]
        rcases (hnodes v hv).1 with h | h
        · exact hg.fixed v h
        · rw [h]; exact hfix
    · cases h; exact ⟨hg, rfl⟩
  | shrink =>
    simp only [step, Option.some.injEq] at h; subst h
    exact ⟨good_of_nodesSub hg (shrink_inv hg.inv) (shrink_nodesSub _), rfl⟩

/-- no `assert` fires on a state of the invariant -/
theorem step_isSome {st : St} (hg : Good st) (op : Op) : ∃ st', step st op = some st' := by
  cases op with
  | merge groups => exact ⟨_, rfl⟩
  | removeEdge A B ps => exact ⟨_, rfl⟩
  | removeVertices2 =>
    obtain ⟨cs', hcs', _⟩ := removeVertices2_inv hg.inv
    exact ⟨{ st with cells := cs' }, by simp only [step, hcs', Option.map_some]⟩
  | mergeVertex a b => simp only [step]; split <;> exact ⟨_, rfl⟩
  | shrink => exact ⟨_, rfl⟩

theorem runOps_good (ops : List Op) : ∀ st : St, Good st →
    ∃ st', runOps ops st = some st' ∧ Good st' ∧ st'.conv.length = st.conv.length := by
  induction ops with
  | nil => intro st hg; exact ⟨st, rfl, hg, rfl⟩
  | cons op ops ih =>
    intro st hg
    obtain ⟨st1, h1⟩ := step_isSome hg op
    obtain ⟨hg1, hl1⟩ := step_good hg op h1
    obtain ⟨st', h', hg', hl'⟩ := ih st1 hg1
    exact ⟨st', by simp only [runOps, h1, Option.bind_some, h'], hg', hl'.trans hl1⟩

theorem chaseOnce_length (conv : List Nat) : (chaseOnce conv).length = conv.length := by simp [chaseOnce]

theorem chase_length (n : Nat) (conv : List Nat) : (chase n conv).length = conv.length := by
  induction n generalizing conv with
  | zero => rfl
  | succ n ih =>
    simp only [chase]
    split
    · rfl
    · rw [ih, chaseOnce_length]

theorem chaseOnce_fixed {conv : List Nat} {v : Nat} (hv : v < conv.length) (h : conv.getD v v = v) :
    (chaseOnce conv).getD v v = v := by
  have hcv : conv[v] = v := by
    rw [List.getD_eq_getElem?_getD, List.getElem?_eq_getElem hv, Option.getD_some] at h; exact h
  unfold chaseOnce
  rw [List.getD_eq_getElem?_getD, List.getElem?_map, List.getElem?_eq_getElem hv, Option.map_some, Option.getD_some,
    hcv, h]

theorem chase_fixed (n : Nat) {conv : List Nat} {v : Nat} (hv : v < conv.length) (h : conv.getD v v = v) :
    (chase n conv).getD v v = v := by
  induction n generalizing conv with
  | zero => exact h
  | succ n ih =>
    simp only [chase]
    split
    · exact h
    · exact ih (by rw [chaseOnce_length]; exact hv) (chaseOnce_fixed hv h)

theorem reindex_conv (cells : List Cell) (conv : List Nat) :
    (reindex cells conv).conv = (chase conv.length conv).map fun p =>
      if cells.flatten.flatten.contains p then (reindex cells conv).kept.idxOf? p else none := rfl

theorem cellOKB_sound {c : Cell} (h : cellOKB c = true) : CellOK c := by
  simp only [cellOKB, Bool.and_eq_true, List.all_eq_true, decide_eq_true_eq] at h
  exact ⟨balB_sound _ h.1, fun f hf => ⟨(nodupB_iff f).mp (h.2 f hf).1, (h.2 f hf).2⟩⟩

theorem goodB_sound {st : St} (h : goodB st = true) : Good st := by
  simp only [goodB, Bool.and_eq_true, List.all_eq_true, decide_eq_true_eq] at h
  exact ⟨fun c hc => cellOKB_sound (h.1 c hc), fun v hv => (h.2 v hv).1, fun v hv => (h.2 v hv).2⟩

end Femio.C20
