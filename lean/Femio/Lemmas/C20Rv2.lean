import Femio.Lemmas.C20Steps
import Mathlib.Tactic.SplitIfs

/-! C20 — removal of a node with at most two neighbours from every face of a closed cell (`remove_vertices_2`).

For a face `f` (simple cycle) through `v`, written cyclically as `v :: h :: … :: l`, removing `v` replaces the two
edges `l → v → h` by the *bridge* `l → h`.  `esum ω` is the sum of an arbitrary edge weight `ω`; `face_remove`
gives the change of `esum ω` per face; `bridge_sum` shows that for a closed cell and a node whose neighbours lie in
`{a, b}` the bridges cancel for every antisymmetric weight.  Closedness (`ω` = signed indicator of an edge) and the
total flux (`ω` = `det u · ·`) both follow. -/
namespace Femio.C20
open Faces

section Esum
variable {R : Type} [CommRing R]

/-- sum of an edge weight over a list of directed edges -/
def esum (ω : Nat × Nat → R) (es : List (Nat × Nat)) : R := (es.map ω).sum

theorem esum_nil (ω : Nat × Nat → R) : esum ω [] = 0 := rfl
theorem esum_cons (ω : Nat × Nat → R) (e : Nat × Nat) (es : List (Nat × Nat)) :
    esum ω (e :: es) = ω e + esum ω es := by simp [esum]
theorem esum_append (ω : Nat × Nat → R) (e1 e2 : List (Nat × Nat)) :
    esum ω (e1 ++ e2) = esum ω e1 + esum ω e2 := by simp [esum]
theorem esum_perm (ω : Nat × Nat → R) {e1 e2 : List (Nat × Nat)} (h : e1.Perm e2) : esum ω e1 = esum ω e2 :=
  (h.map ω).sum_eq
theorem esum_rot (ω : Nat × Nat → R) {f g : Face} (h : f ~r g) : esum ω (dirEdges f) = esum ω (dirEdges g) :=
  esum_perm ω (isRotated_dirEdges h)

end Esum

/-- `F[F != v]` -/
def rmF (v : Nat) (f : Face) : Face := f.filter fun x => !(x == v)
def rmV (v : Nat) (c : Cell) : Cell := c.map (rmF v)

/-- the face read cyclically after its (first) occurrence of `v` -/
def restOf (v : Nat) (f : Face) : List Nat :=
  (f.dropWhile fun x => !(x == v)).tail ++ f.takeWhile fun x => !(x == v)

def lastOf (h : Nat) : List Nat → Nat
  | [] => h
  | x :: t => lastOf x t

theorem lastOf_mem (h : Nat) (m : List Nat) : lastOf h m ∈ h :: m := by
  induction m generalizing h with
  | nil => exact List.mem_cons_self
  | cons x t ih => exact List.mem_cons_of_mem _ (ih x)

theorem decomp_of_mem {v : Nat} {f : Face} (h : v ∈ f) :
    f = (f.takeWhile fun x => !(x == v)) ++ v :: (f.dropWhile fun x => !(x == v)).tail := by
  induction f with
  | nil => simp at h
  | cons a t ih =>
    by_cases hav : a = v
    · subst hav; simp [List.takeWhile, List.dropWhile]
    · have hv : v ∈ t := by
        rcases List.mem_cons.mp h with h | h
        · exact absurd h.symm hav
        · exact h
      have := ih hv
      have hb : (!(a == v)) = true := by simp [hav]
      simp only [List.takeWhile_cons, List.dropWhile_cons, hb, if_true, List.cons_append]
      exact congrArg (a :: ·) this

theorem rot_restOf {v : Nat} {f : Face} (h : v ∈ f) : f ~r v :: restOf v f := by
  have hd := decomp_of_mem h
  set l1 := f.takeWhile fun x => !(x == v)
  set l2 := (f.dropWhile fun x => !(x == v)).tail
  have : restOf v f = l2 ++ l1 := rfl
  rw [this, hd]
  exact ⟨l1.length, by rw [List.rotate_append_length_eq]; simp⟩

theorem rmF_of_not_mem {v : Nat} {f : Face} (h : v ∉ f) : rmF v f = f := by
  unfold rmF
  rw [List.filter_eq_self]
  intro x hx
  have : x ≠ v := fun e => h (e ▸ hx)
  simp [this]

theorem not_mem_rmF (v : Nat) (f : Face) : v ∉ rmF v f := by
  simp [rmF, List.mem_filter]

theorem rmF_sub {v x : Nat} {f : Face} (h : x ∈ rmF v f) : x ∈ f := (List.mem_filter.mp h).1

/-- for a simple cycle through `v`: `v ∉ rest`, `rest` simple, and the face without `v` is `rest` up to rotation -/
theorem restOf_spec {v : Nat} {f : Face} (hn : f.Nodup) (h : v ∈ f) :
    v ∉ restOf v f ∧ (restOf v f).Nodup ∧ rmF v f ~r restOf v f := by
  have hr := rot_restOf h
  have hnd : (v :: restOf v f).Nodup := hr.nodup_iff.mp hn
  rw [List.nodup_cons] at hnd
  refine ⟨hnd.1, hnd.2, ?_⟩
  have hd := decomp_of_mem h
  set l1 := f.takeWhile fun x => !(x == v)
  set l2 := (f.dropWhile fun x => !(x == v)).tail
  have hrest : restOf v f = l2 ++ l1 := rfl
  have h1 : v ∉ l1 := fun hm => hnd.1 (by rw [hrest]; exact List.mem_append_right _ hm)
  have h2 : v ∉ l2 := fun hm => hnd.1 (by rw [hrest]; exact List.mem_append_left _ hm)
  have : rmF v f = l1 ++ l2 := by
    conv_lhs => rw [hd]
    unfold rmF
    rw [List.filter_append, List.filter_cons]
    simp only [beq_self_eq_true, Bool.not_true, Bool.false_eq_true, if_false]
    have e1 := rmF_of_not_mem h1
    have e2 := rmF_of_not_mem h2
    unfold rmF at e1 e2
    rw [e1, e2]
  rw [this, hrest]
  exact List.isRotated_append

theorem pathEdges_snoc (h : Nat) (m : List Nat) (z : Nat) :
    pathEdges (h :: m ++ [z]) = pathEdges (h :: m) ++ [(lastOf h m, z)] := by
  induction m generalizing h with
  | nil => simp [pathEdges, lastOf]
  | cons x t ih =>
    have := ih x
    simp only [List.cons_append] at this ⊢
    rw [pathEdges, this, pathEdges, lastOf, List.cons_append]

theorem mem_of_mem_pathEdges {e : Nat × Nat} {l : List Nat} (h : e ∈ pathEdges l) : e.1 ∈ l ∧ e.2 ∈ l := by
  obtain ⟨x, y⟩ := e
  obtain ⟨l1, l2, rfl⟩ := mem_pathEdges.mp h
  simp

theorem mem_of_mem_dirEdges {e : Nat × Nat} {f : Face} (h : e ∈ dirEdges f) : e.1 ∈ f ∧ e.2 ∈ f := by
  cases f with
  | nil => simp [dirEdges] at h
  | cons a t =>
    rw [dirEdges_eq_pathEdges] at h
    have := mem_of_mem_pathEdges h
    have conv : ∀ x, x ∈ a :: t ++ [a] → x ∈ a :: t := by
      intro x hx
      rcases List.mem_append.mp hx with hx | hx
      · exact hx
      · rw [List.mem_singleton.mp hx]; exact List.mem_cons_self
    exact ⟨conv _ this.1, conv _ this.2⟩

theorem dirEdges_rest (h : Nat) (m : List Nat) :
    dirEdges (h :: m) = pathEdges (h :: m) ++ [(lastOf h m, h)] := by
  rw [dirEdges_eq_pathEdges, pathEdges_snoc]

theorem dirEdges_v_rest (v h : Nat) (m : List Nat) :
    dirEdges (v :: h :: m) = (v, h) :: (pathEdges (h :: m) ++ [(lastOf h m, v)]) := by
  rw [dirEdges_cons_cons, pathEdges_snoc]

section FaceRemove
variable {R : Type} [CommRing R]

/-- what removing `v` adds to `esum ω` of a face `v :: rest` -/
def corr (ω : Nat × Nat → R) (v : Nat) : List Nat → R
  | [] => - ω (v, v)
  | h :: m => ω (lastOf h m, h) - ω (v, h) - ω (lastOf h m, v)

theorem face_remove (ω : Nat × Nat → R) {v : Nat} {f : Face} (hn : f.Nodup) (hv : v ∈ f) :
    esum ω (dirEdges (rmF v f)) = esum ω (dirEdges f) + corr ω v (restOf v f) := by
  obtain ⟨_, _, hrot⟩ := restOf_spec hn hv
  rw [esum_rot ω hrot, esum_rot ω (rot_restOf hv)]
  cases hr : restOf v f with
  | nil => simp [dirEdges, esum, corr]
  | cons h m =>
    rw [dirEdges_rest, dirEdges_v_rest, corr]
    simp only [esum_cons, esum_append, esum_nil]
    ring

end FaceRemove

/-- all neighbours of `v` in the edge list are among `a`, `b` (or `v` itself) -/
def NbrIn (es : List (Nat × Nat)) (v a b : Nat) : Prop :=
  ∀ e ∈ es, (e.1 = v → e.2 = a ∨ e.2 = b ∨ e.2 = v) ∧ (e.2 = v → e.1 = a ∨ e.1 = b ∨ e.1 = v)

section Bridge
variable {R : Type} [CommRing R]

/-- weight of the bridge `l → h` created in a face by removing `v` -/
def br (ψ : Nat → Nat → R) (v : Nat) (f : Face) : R :=
  if v ∈ f then
    match restOf v f with
    | [] => 0
    | h :: m => ψ (lastOf h m) h
  else 0

theorem count_zero_of_not_mem_path {x y : Nat} {l : List Nat} (h : x ∉ l ∨ y ∉ l) : (pathEdges l).count (x, y) = 0 := by
  rw [List.count_eq_zero]
  intro hm
  have := mem_of_mem_pathEdges hm
  rcases h with h | h
  · exact h this.1
  · exact h this.2

theorem wt_of_not_mem {v : Nat} {f : Face} (h : v ∉ f) (a : Nat) : wt (a, v) f = 0 := by
  unfold wt
  have h1 : (dirEdges f).count (a, v) = 0 := by
    rw [List.count_eq_zero]; intro hm; exact h (mem_of_mem_dirEdges hm).2
  have h2 : (dirEdges f).count (v, a) = 0 := by
    rw [List.count_eq_zero]; intro hm; exact h (mem_of_mem_dirEdges hm).1
  simp [h1, h2]

theorem wt_at_head {v h : Nat} {m : List Nat} (hv : v ∉ h :: m) (a : Nat) :
    wt (a, v) (v :: h :: m) = (if lastOf h m = a then 1 else 0) - (if h = a then 1 else 0) := by
  have hh : h ≠ v := fun e => hv (e ▸ List.mem_cons_self)
  have hl : lastOf h m ≠ v := fun e => hv (e ▸ lastOf_mem h m)
  unfold wt
  rw [dirEdges_v_rest]
  simp only [List.count_cons, List.count_append, List.count_nil,
    count_zero_of_not_mem_path (Or.inr hv : a ∉ h :: m ∨ v ∉ h :: m),
    count_zero_of_not_mem_path (Or.inl hv : v ∉ h :: m ∨ a ∉ h :: m), beq_iff_eq, Prod.mk.injEq]
  have c1 : ¬ (v = a ∧ h = v) := fun hh2 => hh hh2.2
  have c2 : ¬ (lastOf h m = v ∧ v = a) := fun hh2 => hl hh2.1
  simp only [c1, c2, if_false, and_true, true_and]
  push_cast
  ring

theorem anti_of_pair (ψ : Nat → Nat → R) (hanti : ∀ x y, ψ y x = - ψ x y) (hdiag : ∀ x, ψ x x = 0)
    {l h a b : Nat} (hl : l = a ∨ l = b) (hh : h = a ∨ h = b) :
    ψ l h = (((if l = a then 1 else 0) - (if h = a then 1 else 0) : ℤ) : R) * ψ a b := by
  by_cases hab : b = a
  · rcases hl with hl | hl <;> rcases hh with hh | hh <;> simp [hl, hh, hab, hdiag]
  · rcases hl with hl | hl <;> rcases hh with hh | hh <;> simp [hl, hh, hab, hdiag, hanti a b]

theorem br_eq (ψ : Nat → Nat → R) (hanti : ∀ x y, ψ y x = - ψ x y) (hdiag : ∀ x, ψ x x = 0)
    {v a b : Nat} {f : Face} (hn : f.Nodup) (hnb : NbrIn (dirEdges f) v a b) :
    br ψ v f = ((wt (a, v) f : ℤ) : R) * ψ a b := by
  unfold br
  by_cases hv : v ∈ f
  · rw [if_pos hv]
    obtain ⟨hvr, _, _⟩ := restOf_spec hn hv
    obtain ⟨k, hk⟩ := rot_restOf hv
    have hmem : ∀ e, e ∈ dirEdges (v :: restOf v f) → e ∈ dirEdges f :=
      fun e he => (isRotated_dirEdges ⟨k, hk⟩).mem_iff.mpr he
    rw [← wt_rotate _ f k, hk]
    cases hr : restOf v f with
    | nil =>
      have : wt (a, v) [v] = 0 := by unfold wt; rw [bal_short [v] (Nat.le_succ 1) (a, v)]; exact sub_self _
      simp [this]
    | cons h m =>
      rw [hr] at hvr hmem
      have hh : h ≠ v := fun e => hvr (e ▸ List.mem_cons_self)
      have hl : lastOf h m ≠ v := fun e => hvr (e ▸ lastOf_mem h m)
      have e1 : (v, h) ∈ dirEdges f := hmem _ (by rw [dirEdges_v_rest]; simp)
      have e2 : (lastOf h m, v) ∈ dirEdges f := hmem _ (by rw [dirEdges_v_rest]; simp)
      rw [wt_at_head hvr]
      exact anti_of_pair ψ hanti hdiag (or_assoc.mpr ((hnb _ e2).2 rfl) |>.resolve_right hl)
        (or_assoc.mpr ((hnb _ e1).1 rfl) |>.resolve_right hh)
  · rw [if_neg hv, wt_of_not_mem hv]; simp

/-- **the bridges cancel**: closed cell, simple faces, neighbours of `v` in `{a, b}` -/
theorem bridge_sum (ψ : Nat → Nat → R) (hanti : ∀ x y, ψ y x = - ψ x y) (hdiag : ∀ x, ψ x x = 0)
    {v a b : Nat} {c : Cell} (hn : ∀ f ∈ c, f.Nodup) (hbal : Bal (edgesOf c)) (hnb : NbrIn (edgesOf c) v a b) :
    (c.map (br ψ v)).sum = 0 := by
  have h1 : (c.map (br ψ v)).sum = (((c.map (wt (a, v))).sum : ℤ) : R) * ψ a b := by
    have : ∀ c' : Cell, (∀ f ∈ c', f ∈ c) → (c'.map (br ψ v)).sum = (((c'.map (wt (a, v))).sum : ℤ) : R) * ψ a b := by
      intro c'
      induction c' with
      | nil => intro _; simp
      | cons f t ih =>
        intro hsub
        have hf : f ∈ c := hsub f List.mem_cons_self
        have hnbf : NbrIn (dirEdges f) v a b := fun e he => hnb e (List.mem_flatMap.mpr ⟨f, hf, he⟩)
        simp only [List.map_cons, List.sum_cons, ih fun g hg => hsub g (List.mem_cons_of_mem _ hg),
          br_eq ψ hanti hdiag (hn f hf) hnbf]
        push_cast; ring
    exact this c fun f hf => hf
  rw [h1, sum_wt, hbal (a, v)]
  simp

end Bridge

/-- signed indicator of the directed edge `e` -/
def ωe (e : Nat × Nat) : Nat × Nat → ℤ := fun x => (if x = e then 1 else 0) - (if x = (e.2, e.1) then 1 else 0)

theorem wt_eq_esum (e : Nat × Nat) (f : Face) : wt e f = esum (ωe e) (dirEdges f) := by
  unfold wt
  induction dirEdges f with
  | nil => simp [esum]
  | cons x t ih =>
    rw [esum_cons, ← ih, List.count_cons, List.count_cons]
    simp only [ωe, beq_iff_eq]
    push_cast
    ring

theorem ωe_anti (e : Nat × Nat) (x y : Nat) : ωe e (y, x) = - ωe e (x, y) := by
  obtain ⟨p, q⟩ := e
  simp only [ωe, Prod.mk.injEq]
  have h1 : (y = p ∧ x = q) ↔ (x = q ∧ y = p) := And.comm
  have h2 : (y = q ∧ x = p) ↔ (x = p ∧ y = q) := And.comm
  simp only [h1, h2]
  ring

theorem ωe_diag (e : Nat × Nat) (x : Nat) : ωe e (x, x) = 0 := by
  have := ωe_anti e x x
  omega

theorem ωe_zero_left (e : Nat × Nat) {v : Nat} (h1 : e.1 ≠ v) (h2 : e.2 ≠ v) (y : Nat) : ωe e (v, y) = 0 := by
  obtain ⟨p, q⟩ := e
  simp only [ωe, Prod.mk.injEq]
  have a1 : ¬ (v = p ∧ y = q) := fun h => h1 h.1.symm
  have a2 : ¬ (v = q ∧ y = p) := fun h => h2 h.1.symm
  simp [a1, a2]

theorem ωe_zero_right (e : Nat × Nat) {v : Nat} (h1 : e.1 ≠ v) (h2 : e.2 ≠ v) (x : Nat) : ωe e (x, v) = 0 := by
  rw [ωe_anti, ωe_zero_left e h1 h2]; simp

theorem wt_rmF (e : Nat × Nat) {v : Nat} (h1 : e.1 ≠ v) (h2 : e.2 ≠ v) {f : Face} (hn : f.Nodup) :
    wt e (rmF v f) = wt e f + br (fun x y => ωe e (x, y)) v f := by
  by_cases hv : v ∈ f
  · rw [wt_eq_esum, wt_eq_esum, face_remove (ωe e) hn hv]
    congr 1
    unfold br
    rw [if_pos hv]
    cases restOf v f with
    | nil => simp [corr, ωe_zero_left e h1 h2]
    | cons h m => simp [corr, ωe_zero_left e h1 h2, ωe_zero_right e h1 h2]
  · rw [rmF_of_not_mem hv]; simp [br, hv]

theorem not_mem_edges_rmV {v : Nat} {c : Cell} {e : Nat × Nat} (he : e ∈ edgesOf (rmV v c)) : e.1 ≠ v ∧ e.2 ≠ v := by
  unfold edgesOf rmV at he
  obtain ⟨f, hf, hef⟩ := List.mem_flatMap.mp he
  obtain ⟨g, _, rfl⟩ := List.mem_map.mp hf
  have := mem_of_mem_dirEdges hef
  exact ⟨fun h => not_mem_rmF v g (h ▸ this.1), fun h => not_mem_rmF v g (h ▸ this.2)⟩

theorem rmV_nodup {v : Nat} {c : Cell} (hn : ∀ f ∈ c, f.Nodup) : ∀ f ∈ rmV v c, f.Nodup :=
  List.forall_mem_map.mpr fun g hg => (hn g hg).filter _

/-- removing a node whose neighbours lie in `{a, b}` keeps a cell of simple faces closed -/
theorem rmV_bal {v a b : Nat} {c : Cell} (hn : ∀ f ∈ c, f.Nodup) (hbal : Bal (edgesOf c))
    (hnb : NbrIn (edgesOf c) v a b) : Bal (edgesOf (rmV v c)) := by
  intro e
  by_cases hv : e.1 = v ∨ e.2 = v
  · have z : ∀ e' : Nat × Nat, (e'.1 = v ∨ e'.2 = v) → (edgesOf (rmV v c)).count e' = 0 := fun e' h' =>
      List.count_eq_zero.mpr fun hm => h'.elim (not_mem_edges_rmV hm).1 (not_mem_edges_rmV hm).2
    rw [z e hv, z (e.2, e.1) hv.symm]
  · have h1 : e.1 ≠ v := fun h => hv (Or.inl h)
    have h2 : e.2 ≠ v := fun h => hv (Or.inr h)
    have hsum : ((rmV v c).map (wt e)).sum = (c.map (wt e)).sum + (c.map (br (fun x y => ωe e (x, y)) v)).sum := by
      rw [rmV, List.map_map, List.map_congr_left (f := wt e ∘ rmF v) fun f hf => wt_rmF e h1 h2 (hn f hf),
        List.sum_map_add]
    rw [bridge_sum (fun x y => ωe e (x, y)) (fun x y => ωe_anti e x y) (fun x => ωe_diag e x) hn hbal hnb,
      sum_wt, sum_wt] at hsum
    have := hbal e
    omega

theorem mem_edges_rmF {v : Nat} {f : Face} (hn : f.Nodup) {e : Nat × Nat} (he : e ∈ dirEdges (rmF v f)) :
    e ∈ dirEdges f ∨ ((e.1, v) ∈ dirEdges f ∧ (v, e.2) ∈ dirEdges f) := by
  by_cases hv : v ∈ f
  · obtain ⟨_, _, hrot⟩ := restOf_spec hn hv
    have hr := rot_restOf hv
    have he' : e ∈ dirEdges (restOf v f) := (isRotated_dirEdges hrot).mem_iff.mp he
    have back : ∀ e', e' ∈ dirEdges (v :: restOf v f) → e' ∈ dirEdges f :=
      fun e' h => (isRotated_dirEdges hr).mem_iff.mpr h
    cases hrest : restOf v f with
    | nil => rw [hrest] at he'; simp [dirEdges] at he'
    | cons h m =>
      rw [hrest] at he' back
      rw [dirEdges_rest] at he'
      rcases List.mem_append.mp he' with hp | hp
      · exact Or.inl (back _ (by rw [dirEdges_v_rest]; simp [hp]))
      · have : e = (lastOf h m, h) := by simpa using hp
        subst this
        exact Or.inr ⟨back _ (by rw [dirEdges_v_rest]; simp), back _ (by rw [dirEdges_v_rest]; simp)⟩
  · rw [rmF_of_not_mem hv] at he; exact Or.inl he

def Adj (es : List (Nat × Nat)) (x y : Nat) : Prop := (x, y) ∈ es ∨ (y, x) ∈ es

theorem nbrIn_iff {es : List (Nat × Nat)} {v a b : Nat} :
    NbrIn es v a b ↔ ∀ y, Adj es v y → y = a ∨ y = b ∨ y = v := by
  constructor
  · rintro h y (hy | hy)
    · exact (h _ hy).1 rfl
    · exact (h _ hy).2 rfl
  · intro h e he
    exact ⟨fun h1 => h e.2 (Or.inl (h1 ▸ he)), fun h2 => h e.1 (Or.inr (h2 ▸ he))⟩

theorem adj_rmV {v : Nat} {c : Cell} (hn : ∀ f ∈ c, f.Nodup) {x y : Nat} (h : Adj (edgesOf (rmV v c)) x y) :
    y ≠ v ∧ (Adj (edgesOf c) x y ∨ (Adj (edgesOf c) x v ∧ Adj (edgesOf c) v y)) := by
  have up : ∀ {e : Nat × Nat}, e ∈ edgesOf (rmV v c) →
      e ∈ edgesOf c ∨ ((e.1, v) ∈ edgesOf c ∧ (v, e.2) ∈ edgesOf c) := by
    intro e he
    unfold edgesOf rmV at he
    obtain ⟨f, hf, hef⟩ := List.mem_flatMap.mp he
    obtain ⟨g, hg, rfl⟩ := List.mem_map.mp hf
    have ofFace : ∀ e', e' ∈ dirEdges g → e' ∈ edgesOf c := fun e' h => List.mem_flatMap.mpr ⟨g, hg, h⟩
    rcases mem_edges_rmF (hn g hg) hef with h | ⟨h1, h2⟩
    · exact Or.inl (ofFace _ h)
    · exact Or.inr ⟨ofFace _ h1, ofFace _ h2⟩
  rcases h with h | h
  · refine ⟨(not_mem_edges_rmV h).2, ?_⟩
    rcases up h with h | ⟨h1, h2⟩
    · exact Or.inl (Or.inl h)
    · exact Or.inr ⟨Or.inl h1, Or.inl h2⟩
  · refine ⟨(not_mem_edges_rmV h).1, ?_⟩
    rcases up h with h | ⟨h1, h2⟩
    · exact Or.inl (Or.inr h)
    · exact Or.inr ⟨Or.inr h2, Or.inr h1⟩

/-- the neighbour bound survives the removal of another node `v`: where `v` was a neighbour of `w`, the other
neighbour `r` of `v` takes its place -/
theorem nbrIn_rmV {v w a b a' b' : Nat} {c : Cell} (hn : ∀ f ∈ c, f.Nodup)
    (hw : NbrIn (edgesOf c) w a b) (hv : NbrIn (edgesOf c) v a' b') :
    ∃ a'' b'', NbrIn (edgesOf (rmV v c)) w a'' b'' := by
  rw [nbrIn_iff] at hw hv
  by_cases hwv : w = v
  · subst hwv
    refine ⟨0, 0, fun e he => ?_⟩
    have := not_mem_edges_rmV he
    exact ⟨fun h => absurd h this.1, fun h => absurd h this.2⟩
  obtain ⟨r, hr⟩ : ∃ r, ∀ y, Adj (edgesOf c) v w → Adj (edgesOf c) v y → y ≠ v → y = r ∨ y = w := by
    by_cases hwa : w = a'
    · refine ⟨b', fun y _ hy hyv => ?_⟩
      rcases hv y hy with h | h | h
      · exact Or.inr (h.trans hwa.symm)
      · exact Or.inl h
      · exact absurd h hyv
    · refine ⟨a', fun y hvw hy hyv => ?_⟩
      rcases hv y hy with h | h | h
      · exact Or.inl h
      · rcases hv w hvw with h' | h' | h'
        · exact absurd h' hwa
        · exact Or.inr (h.trans h'.symm)
        · exact absurd h' hwv
      · exact absurd h hyv
  refine ⟨if a = v then r else a, if b = v then r else b, nbrIn_iff.mpr fun y hy => ?_⟩
  obtain ⟨hyv, hold | ⟨hwv', hvy⟩⟩ := adj_rmV hn hy
  · rcases hw y hold with h | h | h
    · exact Or.inl (by rw [if_neg (h ▸ hyv)]; exact h)
    · exact Or.inr (Or.inl (by rw [if_neg (h ▸ hyv)]; exact h))
    · exact Or.inr (Or.inr h)
  · have hvw : Adj (edgesOf c) v w := hwv'.symm
    rcases hr y hvw hvy hyv with h | h
    · rcases hw v hwv' with h' | h' | h'
      · exact Or.inl (by rw [if_pos h'.symm]; exact h)
      · exact Or.inr (Or.inl (by rw [if_pos h'.symm]; exact h))
      · exact absurd h'.symm hwv
    · exact Or.inr (Or.inr h)

def rmL (S : List Nat) (c : Cell) : Cell := S.foldl (fun c v => rmV v c) c

theorem rmL_eq (S : List Nat) (c : Cell) : rmL S c = c.map fun f => f.filter fun x => !S.contains x := by
  induction S generalizing c with
  | nil => simp [rmL]
  | cons v S ih =>
    have : rmL (v :: S) c = rmL S (rmV v c) := rfl
    rw [this, ih, rmV, List.map_map]
    apply List.map_congr_left
    intro f _
    simp only [Function.comp, rmF, List.filter_filter]
    apply List.filter_congr
    intro x _
    simp only [List.contains_cons]
    cases (x == v) <;> cases (S.contains x) <;> rfl

/-- removing the nodes of `S` one by one keeps the faces simple, the cell closed, and every property `P` of cells
that the removal of a single node with at most two neighbours keeps (`P` is `True` in `rv2Cell_cellOK`, the flux and
planarity in `rv2Cell_flux`) -/
theorem rmL_ok (S : List Nat) (P : Cell → Prop)
    (hP : ∀ (c : Cell) (v a b : Nat), (∀ f ∈ c, f.Nodup) → Bal (edgesOf c) → NbrIn (edgesOf c) v a b →
      P c → P (rmV v c)) :
    ∀ c : Cell, (∀ f ∈ c, f.Nodup) → Bal (edgesOf c) → (∀ w ∈ S, ∃ a b, NbrIn (edgesOf c) w a b) → P c →
      (∀ f ∈ rmL S c, f.Nodup) ∧ Bal (edgesOf (rmL S c)) ∧ P (rmL S c) := by
  induction S with
  | nil => intro c hn hb _ hp; exact ⟨hn, hb, hp⟩
  | cons v S ih =>
    intro c hn hb hnb hp
    obtain ⟨a', b', hv⟩ := hnb v List.mem_cons_self
    have : rmL (v :: S) c = rmL S (rmV v c) := rfl
    rw [this]
    refine ih _ (rmV_nodup hn) (rmV_bal hn hb hv) (fun w hw => ?_) (hP c v a' b' hn hb hv hp)
    obtain ⟨a, b, hwn⟩ := hnb w (List.mem_cons_of_mem _ hw)
    exact nbrIn_rmV hn hwn hv

theorem rv2Cell_eq (rm : Nat → Bool) (c : Cell) :
    rv2Cell rm c = (rmL (c.flatten.filter rm) c).filter fun f => decide (3 ≤ f.length) := by
  unfold rv2Cell
  rw [rmL_eq]
  congr 1
  apply List.map_congr_left
  intro f hf
  apply List.filter_congr
  intro x hx
  have hxc : x ∈ c.flatten := List.mem_flatten.mpr ⟨f, hf, hx⟩
  cases hr : rm x
  · have : (c.flatten.filter rm).contains x = false := by
      rw [Bool.eq_false_iff]
      intro h
      have := (List.mem_filter.mp (List.contains_iff_mem.mp h)).2
      rw [hr] at this; cases this
    rw [this]
  · have : (c.flatten.filter rm).contains x = true :=
      List.contains_iff_mem.mpr (List.mem_filter.mpr ⟨hxc, hr⟩)
    rw [this]

/-- `rv2Cell` keeps a cell of the invariant in the invariant when every removed node has at most two neighbours -/
theorem rv2Cell_cellOK {rm : Nat → Bool} {c : Cell} (hc : CellOK c)
    (hrm : ∀ w, rm w = true → ∃ a b, NbrIn (edgesOf c) w a b) : CellOK (rv2Cell rm c) := by
  rw [rv2Cell_eq]
  obtain ⟨hn, hb, -⟩ := rmL_ok (c.flatten.filter rm) (fun _ => True) (fun _ _ _ _ _ _ _ _ => trivial) c
    (fun f hf => (hc.2 f hf).1) hc.1 (fun w hw => hrm w (List.mem_filter.mp hw).2) trivial
  refine ⟨(filter_len_split _).bal hb, fun f hf => ?_⟩
  obtain ⟨hf1, hf2⟩ := List.mem_filter.mp hf
  exact ⟨hn f hf1, by simpa using hf2⟩

theorem prevPairs_perm (f : Face) : (prevPairs f).Perm (dirEdges f) := by
  rcases List.eq_nil_or_concat f with rfl | ⟨init, z, rfl⟩
  · simp [prevPairs, dirEdges]
  · rw [List.concat_eq_append]
    have h1 : prevPairs (init ++ [z]) = dirEdges (z :: init) := by
      unfold prevPairs
      simp only [List.getLast?_append, List.getLast?_singleton, Option.some_or, List.dropLast_concat]
      rw [dirEdges]
    rw [h1]
    apply isRotated_dirEdges
    exact ⟨1, by simp [List.rotate_cons_succ]⟩

/-- the fold of `add_nbd` over the edges, for the row of `v` -/
def nbdStep (v : Nat) (nb : List Nat) (e : Nat × Nat) : List Nat :=
  let nb1 := if e.1 = v then addNbd nb e.2 else nb
  if e.2 = v then addNbd nb1 e.1 else nb1

theorem addNbd_spec (nb : List Nat) (x : Nat) :
    nb.length ≤ (addNbd nb x).length ∧ (∀ y ∈ nb, y ∈ addNbd nb x) ∧
      ((addNbd nb x).length ≤ 2 → x ∈ addNbd nb x) := by
  unfold addNbd
  split_ifs with h1 h2
  · exact ⟨le_rfl, fun _ h => h, fun _ => List.contains_iff_mem.mp h1⟩
  · exact ⟨by rw [List.length_append]; exact Nat.le_add_right _ _, fun y hy => List.mem_append_left _ hy,
      fun _ => List.mem_append_right _ List.mem_cons_self⟩
  · exact ⟨le_rfl, fun _ h => h, fun h => absurd (Nat.lt_succ_of_le h) h2⟩

theorem nbdStep_spec (v : Nat) (nb : List Nat) (e : Nat × Nat) :
    nb.length ≤ (nbdStep v nb e).length ∧ (∀ y ∈ nb, y ∈ nbdStep v nb e) ∧
      ((nbdStep v nb e).length ≤ 2 → (e.1 = v → e.2 ∈ nbdStep v nb e) ∧ (e.2 = v → e.1 ∈ nbdStep v nb e)) := by
  unfold nbdStep; dsimp only
  by_cases h1 : e.1 = v <;> by_cases h2 : e.2 = v
  · rw [if_pos h1, if_pos h2]
    obtain ⟨l1, s1, m1⟩ := addNbd_spec nb e.2
    obtain ⟨l2, s2, m2⟩ := addNbd_spec (addNbd nb e.2) e.1
    exact ⟨l1.trans l2, fun y hy => s2 y (s1 y hy), fun h => ⟨fun _ => s2 _ (m1 (l2.trans h)), fun _ => m2 h⟩⟩
  · rw [if_pos h1, if_neg h2]
    obtain ⟨l1, s1, m1⟩ := addNbd_spec nb e.2
    exact ⟨l1, s1, fun h => ⟨fun _ => m1 h, fun h' => absurd h' h2⟩⟩
  · rw [if_neg h1, if_pos h2]
    obtain ⟨l1, s1, m1⟩ := addNbd_spec nb e.1
    exact ⟨l1, s1, fun h => ⟨fun h' => absurd h' h1, fun _ => m1 h⟩⟩
  · rw [if_neg h1, if_neg h2]
    exact ⟨le_rfl, fun _ h => h, fun _ => ⟨fun h' => absurd h' h1, fun h' => absurd h' h2⟩⟩

theorem nbd_fold (v : Nat) (es : List (Nat × Nat)) : ∀ nb0 : List Nat,
    nb0.length ≤ (es.foldl (nbdStep v) nb0).length ∧
    (∀ y ∈ nb0, y ∈ es.foldl (nbdStep v) nb0) ∧
    ((es.foldl (nbdStep v) nb0).length ≤ 2 →
      ∀ e ∈ es, (e.1 = v → e.2 ∈ es.foldl (nbdStep v) nb0) ∧ (e.2 = v → e.1 ∈ es.foldl (nbdStep v) nb0)) := by
  induction es with
  | nil => intro nb0; simp
  | cons e t ih =>
    intro nb0
    obtain ⟨l1, s1, m1⟩ := ih (nbdStep v nb0 e)
    obtain ⟨l0, s0, m0⟩ := nbdStep_spec v nb0 e
    rw [List.foldl_cons]
    refine ⟨l0.trans l1, fun y hy => s1 y (s0 y hy), fun hlen e' he' => ?_⟩
    rcases List.mem_cons.mp he' with rfl | he'
    · have := m0 (l1.trans hlen)
      exact ⟨fun h => s1 _ (this.1 h), fun h => s1 _ (this.2 h)⟩
    · exact m1 hlen e' he'

theorem nbdOf_eq (cells : List Cell) (v : Nat) :
    nbdOf cells v = (cells.flatMap fun c => c.flatMap prevPairs).foldl (nbdStep v) [] := rfl

theorem mem_pair_of_length_le_two (r : List Nat) (h : r.length ≤ 2) : ∃ a b, ∀ x ∈ r, x = a ∨ x = b := by
  match r, h with
  | [], _ => exact ⟨0, 0, fun x hx => nomatch hx⟩
  | [a], _ => exact ⟨a, a, fun x hx => Or.inl (List.mem_singleton.mp hx)⟩
  | [a, b], _ => exact ⟨a, b, fun x hx => (List.mem_cons.mp hx).imp_right List.mem_singleton.mp⟩

theorem canRm_nbrIn {cells : List Cell} {v : Nat} (h : canRm cells v = true) :
    ∃ a b, ∀ c ∈ cells, NbrIn (edgesOf c) v a b := by
  have hlen : (nbdOf cells v).length ≤ 2 := of_decide_eq_true h
  rw [nbdOf_eq] at hlen
  obtain ⟨_, _, hm⟩ := nbd_fold v (cells.flatMap fun c => c.flatMap prevPairs) []
  obtain ⟨a, b, hab⟩ := mem_pair_of_length_le_two _ hlen
  refine ⟨a, b, fun c hc e he => ?_⟩
  have hmem : e ∈ cells.flatMap fun c => c.flatMap prevPairs := by
    unfold edgesOf at he
    obtain ⟨f, hf, hef⟩ := List.mem_flatMap.mp he
    exact List.mem_flatMap.mpr ⟨c, hc, List.mem_flatMap.mpr ⟨f, hf, (prevPairs_perm f).mem_iff.mpr hef⟩⟩
  have := hm hlen e hmem
  exact ⟨fun h1 => (hab _ (this.1 h1)).imp_right Or.inl, fun h2 => (hab _ (this.2 h2)).imp_right Or.inl⟩

theorem canRm_nbrIn_cell {cells : List Cell} {c : Cell} (hc : c ∈ cells) {w : Nat} (hw : canRm cells w = true) :
    ∃ a b, NbrIn (edgesOf c) w a b := by
  obtain ⟨a, b, hab⟩ := canRm_nbrIn hw
  exact ⟨a, b, hab c hc⟩

/-- a closed cell of simple faces passes `check_polyhedron` -/
theorem checkPolyhedron_of_bal {c : Cell} (hn : ∀ f ∈ c, f.Nodup) (hb : Bal (edgesOf c)) :
    checkPolyhedron c = true := by
  simp only [checkPolyhedron, Bool.and_eq_true, List.all_eq_true, nodupB_iff, List.contains_iff_mem]
  exact ⟨hn, fun e he => mem_rev_of_bal hb he⟩

/-- `remove_vertices_2` on a state of the invariant: no `assert` fires; before the final `shrink` every cell is the
`rv2Cell` of the input cell and is in the invariant -/
theorem removeVertices2_spec {cells : List Cell} (h : Inv cells) :
    removeVertices2 cells = some (shrink (cells.map (rv2Cell (canRm cells)))) ∧
      Inv (cells.map (rv2Cell (canRm cells))) := by
  have hrv : Inv (cells.map (rv2Cell (canRm cells))) :=
    List.forall_mem_map.mpr fun c hc => rv2Cell_cellOK (h c hc) fun _ => canRm_nbrIn_cell hc
  have h1 : (cells.any fun c => c.any fun f => decide (f.length < 3)) = false := by
    rw [Bool.eq_false_iff]
    intro hany
    simp only [List.any_eq_true, decide_eq_true_eq] at hany
    obtain ⟨c, hc, f, hf, hlt⟩ := hany
    exact absurd ((h c hc).2 f hf).2 (Nat.not_le.mpr hlt)
  have h2 : ((cells.map (rv2Cell (canRm cells))).all checkPolyhedron) = true := by
    rw [List.all_eq_true]
    exact fun c' hc' => checkPolyhedron_of_bal (fun f hf => ((hrv c' hc').2 f hf).1) (hrv c' hc').1
  refine ⟨?_, hrv⟩
  unfold removeVertices2
  rw [h1]
  simp only [Bool.false_eq_true, if_false, h2, if_true]

theorem removeVertices2_inv {cells : List Cell} (h : Inv cells) :
    ∃ cells', removeVertices2 cells = some cells' ∧ Inv cells' :=
  ⟨_, (removeVertices2_spec h).1, shrink_inv (removeVertices2_spec h).2⟩

end Femio.C20
