import Femio.Model.CompressSteps
import Femio.Lemmas.C20Lemmas

/-! C20 — `shrink`, `merge` and `removeOneEdge` of the transition system of `Model/CompressSteps.lean` keep every cell
    closed (`Bal`) and every face a simple cycle of at least three nodes (`Inv`). -/
namespace Femio.C20
open Faces

/-- a face of the invariant: a simple cycle through at least three nodes -/
def FaceOK (f : Face) : Prop := f.Nodup ∧ 3 ≤ f.length

/-- a cell of the invariant: every directed edge as often as its reverse, every face a simple cycle of ≥ 3 nodes -/
def CellOK (c : Cell) : Prop := Bal (edgesOf c) ∧ ∀ f ∈ c, FaceOK f

/-- what the state invariant `Good` (`Lemmas/C20Pipeline.lean`) says of the cells; `Good` adds the node table -/
def Inv (cells : List Cell) : Prop := ∀ c ∈ cells, CellOK c

theorem cellOK_nil : CellOK [] := ⟨fun e => by simp [edgesOf], fun f hf => by simp at hf⟩

theorem bal_iff_perm (es : List (Nat × Nat)) : Bal es ↔ es.Perm (es.map Prod.swap) := by
  rw [List.perm_iff_count]
  constructor
  · intro h e; rw [count_map_swap]; exact h e
  · intro h e; have := h e; rw [count_map_swap] at this; exact this

theorem bal_of_perm {es es' : List (Nat × Nat)} (hp : es.Perm es') (h : Bal es) : Bal es' := by
  intro e; rw [← hp.count_eq, ← hp.count_eq]; exact h e

theorem bal_append {e1 e2 : List (Nat × Nat)} (h1 : Bal e1) (h2 : Bal e2) : Bal (e1 ++ e2) := by
  intro e; rw [List.count_append, List.count_append, h1 e, h2 e]

theorem bal_of_append_left {e1 e2 : List (Nat × Nat)} (h : Bal (e1 ++ e2)) (h1 : Bal e1) : Bal e2 := by
  intro e
  have := h e
  rw [List.count_append, List.count_append, h1 e] at this
  exact Nat.add_left_cancel this

theorem bal_of_append_right {e1 e2 : List (Nat × Nat)} (h : Bal (e1 ++ e2)) (h2 : Bal e2) : Bal e1 := by
  intro e
  have := h e
  rw [List.count_append, List.count_append, h2 e] at this
  exact Nat.add_right_cancel this

theorem mem_rev_of_bal {es : List (Nat × Nat)} (h : Bal es) {e : Nat × Nat} (he : e ∈ es) : (e.2, e.1) ∈ es := by
  have := h e
  have hpos : 0 < es.count e := List.count_pos_iff.mpr he
  exact List.count_pos_iff.mp (by omega)

/-- any renaming of the nodes keeps a cell closed -/
theorem bal_map (σ : Nat → Nat) {es : List (Nat × Nat)} (h : Bal es) :
    Bal (es.map fun e => (σ e.1, σ e.2)) := by
  rw [bal_iff_perm] at h ⊢
  have := h.map (fun e : Nat × Nat => (σ e.1, σ e.2))
  refine this.trans ?_
  rw [List.map_map, List.map_map]
  exact List.Perm.of_eq (List.map_congr_left fun e _ => rfl)

theorem edgesOf_append (a b : List Face) : edgesOf (a ++ b) = edgesOf a ++ edgesOf b := by
  simp [edgesOf]

theorem edgesOf_cons (f : Face) (t : List Face) : edgesOf (f :: t) = dirEdges f ++ edgesOf t := by
  simp [edgesOf]

theorem edgesOf_singleton (f : Face) : edgesOf [f] = dirEdges f := by
  simp [edgesOf]

theorem edgesOf_perm {a b : List Face} (h : a.Perm b) : (edgesOf a).Perm (edgesOf b) := by
  unfold edgesOf; exact h.flatMap_right _

theorem dirEdges_map (σ : Nat → Nat) (f : Face) : dirEdges (f.map σ) = (dirEdges f).map fun e => (σ e.1, σ e.2) := by
  cases f with
  | nil => simp [dirEdges]
  | cons a t =>
    simp only [List.map_cons, dirEdges]
    rw [show σ a :: List.map σ t = List.map σ (a :: t) from rfl,
      show List.map σ t ++ [σ a] = List.map σ (t ++ [a]) by simp, List.zip_map]
    simp

theorem edgesOf_map (σ : Nat → Nat) (c : Cell) :
    edgesOf (c.map fun f => f.map σ) = (edgesOf c).map fun e => (σ e.1, σ e.2) := by
  induction c with
  | nil => simp [edgesOf]
  | cons f t ih => simp only [List.map_cons, edgesOf_cons, ih, dirEdges_map, List.map_append]

theorem bal_short (f : Face) (h : f.length ≤ 2) : Bal (dirEdges f) := by
  match f, h with
  | [], _ => intro e; simp [dirEdges]
  | [a], _ =>
    intro e
    obtain ⟨x, y⟩ := e
    simp only [dirEdges, List.nil_append, List.zip_cons_cons, List.zip_nil_right, List.count_cons, List.count_nil,
      beq_iff_eq, Prod.mk.injEq]
    by_cases h : a = x ∧ a = y
    · rw [if_pos h, if_pos ⟨h.2, h.1⟩]
    · rw [if_neg h, if_neg fun h' => h ⟨h'.2, h'.1⟩]
  | [a, b], _ => exact fun e => pair_bal a b e

theorem isRotated_dirEdges {f g : Face} (h : f ~r g) : (dirEdges f).Perm (dirEdges g) := by
  obtain ⟨k, rfl⟩ := h
  exact (dirEdges_rotate_perm f k).symm

/-- `es'` is `es` with a balanced list of edges taken out: how the edges of a cell change when faces with fewer than
three nodes are dropped -/
def BalRest (es' es : List (Nat × Nat)) : Prop := ∃ D, Bal D ∧ (es' ++ D).Perm es

theorem BalRest.refl (es : List (Nat × Nat)) : BalRest es es := ⟨[], fun _ => rfl, by rw [List.append_nil]⟩

theorem BalRest.of_bal {es : List (Nat × Nat)} (h : Bal es) : BalRest [] es := ⟨es, h, List.Perm.refl _⟩

theorem BalRest.append {a' a b' b : List (Nat × Nat)} (h1 : BalRest a' a) (h2 : BalRest b' b) :
    BalRest (a' ++ b') (a ++ b) := by
  obtain ⟨D1, hD1, hp1⟩ := h1
  obtain ⟨D2, hD2, hp2⟩ := h2
  refine ⟨D1 ++ D2, bal_append hD1 hD2, List.Perm.trans ?_ (hp1.append hp2)⟩
  rw [List.append_assoc, List.append_assoc]
  exact (List.perm_append_comm_assoc _ _ _).append_left _

theorem BalRest.perm {a' a b : List (Nat × Nat)} (h : BalRest a' a) (hp : a.Perm b) : BalRest a' b := by
  obtain ⟨D, hD, hp'⟩ := h
  exact ⟨D, hD, hp'.trans hp⟩

theorem BalRest.bal {es' es : List (Nat × Nat)} (h : BalRest es' es) (hb : Bal es) : Bal es' := by
  obtain ⟨D, hD, hp⟩ := h
  exact bal_of_append_right (bal_of_perm hp.symm hb) hD

theorem filter_len_split (L : List Face) : BalRest (edgesOf (L.filter fun g => decide (3 ≤ g.length))) (edgesOf L) := by
  induction L with
  | nil => exact BalRest.refl _
  | cons g t ih =>
    rw [edgesOf_cons]
    by_cases hg : 3 ≤ g.length
    · rw [List.filter_cons, if_pos (by simpa using hg), edgesOf_cons]
      exact (BalRest.refl _).append ih
    · rw [List.filter_cons, if_neg (by simpa using hg)]
      exact (BalRest.of_bal (bal_short g (by omega))).append ih

theorem shrinkCell_eq {c : Cell} (h : ∀ f ∈ c, FaceOK f) : shrinkCell c = c := by
  unfold shrinkCell
  rw [List.filter_eq_self]
  intro f hf
  simpa using (h f hf).2

theorem mem_shrink {cells : List Cell} {c' : Cell} (h : c' ∈ shrink cells) : ∃ c ∈ cells, c' = shrinkCell c := by
  obtain ⟨c, hc, rfl⟩ := List.mem_map.mp (List.mem_filter.mp h).1
  exact ⟨c, hc, rfl⟩

theorem shrink_inv {cells : List Cell} (h : Inv cells) : Inv (shrink cells) := by
  intro c hc
  obtain ⟨c0, hc0, rfl⟩ := mem_shrink hc
  rw [shrinkCell_eq (h c0 hc0).2]
  exact h c0 hc0

/-- on a state of the invariant `shrink` only drops cells (those with fewer than three faces) -/
theorem shrink_eq_filter {cells : List Cell} (h : Inv cells) :
    shrink cells = cells.filter fun c => decide (2 < c.length) := by
  unfold shrink
  congr 1
  conv_rhs => rw [← List.map_id cells]
  exact List.map_congr_left fun c hc => shrinkCell_eq (h c hc).2

theorem mem_mergeLoop (fs : List Face) (T : Tbl) (g : Face) (h : g ∈ mergeLoop fs T) : g ∈ fs := by
  induction fs generalizing T with
  | nil => simp [mergeLoop] at h
  | cons f t ih =>
    simp only [mergeLoop] at h
    split at h
    · rcases List.mem_append.mp h with h | h
      · rw [(List.mem_replicate.mp h).2]; exact List.mem_cons_self
      · exact List.mem_cons_of_mem _ (ih _ h)
    · exact List.mem_cons_of_mem _ (ih _ h)

theorem mem_mergeCells (cells : List Cell) (g : Face) (h : g ∈ mergeCells cells) : g ∈ cells.flatten :=
  mem_mergeLoop _ _ g h

theorem mergeOK_wt (e : Nat × Nat) (fs : List Face) (hnd : ∀ f ∈ fs, f.Nodup) : MergeOK (wt e) fs :=
  mergeOK_int (wt_canon_class e) (fun f _ => wt_reverse e f) (fun f hf _ _ => canon_reverse_congr (hnd f hf))
    (fun _ _ g hg => canon_reverse_symm (hnd g hg))

theorem mergeCells_cellOK (cells : List Cell) (h : ∀ c ∈ cells, CellOK c) : CellOK (mergeCells cells) := by
  have hfaces : ∀ f ∈ cells.flatten, FaceOK f := List.forall_mem_flatten.mpr fun c hc => (h c hc).2
  exact ⟨mergeCells_bal cells (fun c hc => (h c hc).1) fun e => mergeOK_wt e _ fun f hf => (hfaces f hf).1,
    fun f hf => hfaces f (mem_mergeCells cells f hf)⟩

theorem getD_nil_or_mem (cells : List Cell) (i : Nat) : cells.getD i [] = [] ∨ cells.getD i [] ∈ cells := by
  rw [List.getD_eq_getElem?_getD]
  cases hi : cells[i]? with
  | none => exact Or.inl rfl
  | some c => exact Or.inr (List.mem_of_getElem? hi)

theorem getD_cellOK {cells : List Cell} (h : Inv cells) (i : Nat) : CellOK (cells.getD i []) := by
  rcases getD_nil_or_mem cells i with h' | h'
  · rw [h']; exact cellOK_nil
  · exact h _ h'

theorem merge_step_inv {cells : List Cell} (h : Inv cells) (groups : List (List Nat)) :
    Inv (groups.map fun g => mergeCells (g.map fun i => cells.getD i [])) :=
  List.forall_mem_map.mpr fun _ _ => mergeCells_cellOK _ (List.forall_mem_map.mpr fun i _ => getD_cellOK h i)

theorem mem_pathEdges {x y : Nat} {l : List Nat} :
    (x, y) ∈ pathEdges l ↔ ∃ l1 l2, l = l1 ++ x :: y :: l2 := by
  induction l with
  | nil => simp [pathEdges]
  | cons a t ih =>
    cases t with
    | nil =>
      simp only [pathEdges, List.not_mem_nil, false_iff]
      rintro ⟨l1, l2, h⟩
      have := congrArg List.length h
      simp at this
      omega
    | cons b t =>
      rw [pathEdges, List.mem_cons, ih]
      constructor
      · rintro (h | ⟨l1, l2, h⟩)
        · obtain ⟨rfl, rfl⟩ := Prod.mk.inj h
          exact ⟨[], t, rfl⟩
        · exact ⟨a :: l1, l2, by rw [h]; rfl⟩
      · rintro ⟨l1, l2, h⟩
        cases l1 with
        | nil =>
          simp only [List.nil_append, List.cons.injEq] at h
          obtain ⟨rfl, rfl, _⟩ := h
          exact Or.inl rfl
        | cons c l1 =>
          simp only [List.cons_append, List.cons.injEq] at h
          exact Or.inr ⟨l1, l2, h.2⟩

/-- a face with the directed edge `x → y` is a rotation of `x :: y :: t` -/
theorem rot_of_mem_dirEdges {x y : Nat} {f : Face} (h2 : 2 ≤ f.length) (h : (x, y) ∈ dirEdges f) :
    ∃ t, f ~r x :: y :: t := by
  cases f with
  | nil => simp at h2
  | cons a t =>
    rw [dirEdges_eq_pathEdges, mem_pathEdges] at h
    obtain ⟨l1, l2, h⟩ := h
    rcases List.eq_nil_or_concat l2 with rfl | ⟨l2', z, rfl⟩
    · -- the closing edge: `a :: t = l1 ++ [x]`, `y = a`
      have h' : (a :: t) ++ [a] = (l1 ++ [x]) ++ [y] := by simpa using h
      obtain ⟨h1, h3⟩ := List.append_inj' h' rfl
      have hy : a = y := by simpa using h3
      cases l1 with
      | nil => simp at h1; simp [h1.2] at h2
      | cons c l1 =>
        simp only [List.cons_append, List.cons.injEq] at h1
        refine ⟨l1, ?_⟩
        rw [h1.2, ← hy]
        exact ⟨(a :: l1).length, by
          rw [show a :: (l1 ++ [x]) = (a :: l1) ++ [x] from rfl, List.rotate_append_length_eq]; rfl⟩
    · have h' : (a :: t) ++ [a] = (l1 ++ x :: y :: l2') ++ [z] := by simpa using h
      obtain ⟨h1, _⟩ := List.append_inj' h' rfl
      refine ⟨l2' ++ l1, ?_⟩
      rw [h1]
      exact ⟨l1.length, by rw [List.rotate_append_length_eq]; simp⟩

theorem hasE_iff (a b : Nat) (f : Face) : hasE a b f = true ↔ (a, b) ∈ dirEdges f := by
  simp [hasE]

/-- a simple cycle of at least three nodes does not run through an edge in both directions -/
theorem not_both_dirs {f : Face} (hf : FaceOK f) {A B : Nat} (h1 : (A, B) ∈ dirEdges f) (h2 : (B, A) ∈ dirEdges f) :
    False := by
  obtain ⟨t, hr⟩ := rot_of_mem_dirEdges (by have := hf.2; omega) h1
  have hnd : (A :: B :: t).Nodup := hr.nodup_iff.mp hf.1
  have hlen : (A :: B :: t).length = f.length := hr.perm.length_eq.symm
  have ht : t ≠ [] := by
    rintro rfl
    have := hf.2
    simp at hlen; omega
  have h2' : (B, A) ∈ dirEdges (A :: B :: t) := (isRotated_dirEdges hr).mem_iff.mp h2
  rw [dirEdges_eq_pathEdges, mem_pathEdges] at h2'
  obtain ⟨l1, l2, h⟩ := h2'
  simp only [List.nodup_cons, List.mem_cons, not_or] at hnd
  obtain ⟨⟨hAB, hAt⟩, hBt, _⟩ := hnd
  cases l1 with
  | nil =>
    simp only [List.cons_append, List.nil_append, List.cons.injEq] at h
    exact hAB h.1
  | cons c l1 =>
    simp only [List.cons_append, List.cons.injEq] at h
    obtain ⟨_, h⟩ := h
    cases l1 with
    | nil =>
      simp only [List.nil_append, List.cons.injEq, true_and] at h
      cases t with
      | nil => exact ht rfl
      | cons d t =>
        simp only [List.cons_append, List.cons.injEq] at h
        exact hAt (by rw [h.1]; exact List.mem_cons_self)
    | cons d l1 =>
      simp only [List.cons_append, List.cons.injEq] at h
      have hm : B ∈ t ++ [A] := by rw [h.2]; simp
      rcases List.mem_append.mp hm with hm | hm
      · exact hBt hm
      · have hBA : B = A := by simpa using hm
        exact hAB hBA.symm

theorem rotAt_eq_rotate (i : Nat) (f : Face) (hi : i ≤ f.length) : rotAt i f = f.rotate i := by
  unfold rotAt; rw [List.rotate_eq_drop_append_take hi]

theorem rotMin_isRotated (f : Face) : f ~r rotMin f := by
  by_cases hf : f = []
  · subst hf; exact ⟨0, by simp [rotMin, rotAt]⟩
  · exact ⟨argMin f, (rotAt_eq_rotate _ f (Nat.le_of_lt (argMin_spec f hf).1)).symm⟩

theorem rotateTo_spec {a b : Nat} {f g : Face} (h : rotateTo a b f = some g) :
    (∃ t, g = a :: b :: t) ∧ f ~r g := by
  unfold rotateTo at h
  obtain ⟨i, hi, hg⟩ := List.exists_of_findSome?_eq_some h
  have hi' : i ≤ f.length := Nat.le_of_lt (List.mem_range.mp hi)
  dsimp only at hg
  split at hg
  · rename_i x y t heq
    split at hg
    · rename_i hxy
      obtain ⟨rfl, rfl⟩ := hxy
      have : f.drop i ++ f.take i = g := by simpa using hg
      refine ⟨⟨t, by rw [← this, heq]⟩, ⟨i, ?_⟩⟩
      rw [List.rotate_eq_drop_append_take hi', this]
    · cases hg
  · cases hg

theorem filter3_perm (c : Cell) (p1 p2 : Face → Bool) (hex : ∀ f ∈ c, ¬ (p1 f = true ∧ p2 f = true)) :
    c.Perm ((c.filter fun f => !p1 f && !p2 f) ++ (c.filter p1 ++ c.filter p2)) := by
  induction c with
  | nil => simp
  | cons f t ih =>
    have ih' := ih fun g hg => hex g (List.mem_cons_of_mem _ hg)
    have hf := hex f List.mem_cons_self
    cases h1 : p1 f <;> cases h2 : p2 f
    · simp only [List.filter_cons, h1, h2, Bool.not_false, Bool.and_self, if_true, Bool.false_eq_true, if_false,
        List.cons_append]
      exact ih'.cons f
    · simp only [List.filter_cons, h1, h2, Bool.not_false, Bool.not_true, Bool.and_false, Bool.false_eq_true, if_false,
        if_true]
      refine (ih'.cons f).trans ?_
      refine List.perm_middle.symm.trans ?_
      refine List.Perm.append_left _ ?_
      exact List.perm_middle.symm
    · simp only [List.filter_cons, h1, h2, Bool.not_false, Bool.not_true, Bool.false_and, Bool.false_eq_true, if_false,
        if_true, List.cons_append]
      refine (ih'.cons f).trans ?_
      exact List.perm_middle.symm
    · exact absurd ⟨h1, h2⟩ hf

theorem mem_mergeAlong {A B v : Nat} {p q : List Nat} (h : v ∈ mergeAlong A B p q) :
    v ∈ A :: B :: p ∨ v ∈ B :: A :: q := by
  simp only [mergeAlong, List.cons_append, List.mem_cons, List.mem_append] at h ⊢
  rcases h with h | h | h | h
  exacts [Or.inl (Or.inr (Or.inl h)), Or.inl (Or.inr (Or.inr h)), Or.inl (Or.inl h), Or.inr (Or.inr (Or.inr h))]

/-- a successful `removeOneEdge` on a cell of simple faces: either no face has the edge and nothing changes, or the
two faces through it, read from the edge, are replaced by their union cycle -/
theorem removeOneEdge_spec {A B : Nat} {c c' : Cell} (hc : ∀ f ∈ c, FaceOK f) (h : removeOneEdge A B c = some c') :
    c' = c ∨ ∃ f1 f2 p q, (f1 ∈ c ∧ hasE A B f1 = true) ∧ (f2 ∈ c ∧ hasE B A f2 = true) ∧
      f1 ~r A :: B :: p ∧ f2 ~r B :: A :: q ∧ (mergeAlong A B p q).Nodup ∧
      c.Perm ((c.filter fun f => !hasE A B f && !hasE B A f) ++ [f1, f2]) ∧
      c' = (c.filter fun f => !hasE A B f && !hasE B A f) ++ [rotMin (mergeAlong A B p q)] := by
  unfold removeOneEdge at h
  split at h
  · exact Or.inl (Option.some.inj h).symm
  · rename_i f1 f2 hf1 hf2
    split at h
    · rename_i x y p x' y' q hr1 hr2
      split at h
      · rename_i hnd
        obtain ⟨⟨t1, ht1⟩, hrot1⟩ := rotateTo_spec hr1
        obtain ⟨⟨t2, ht2⟩, hrot2⟩ := rotateTo_spec hr2
        obtain ⟨rfl, h1⟩ := List.cons.inj ht1.symm
        obtain ⟨rfl, -⟩ := List.cons.inj h1
        obtain ⟨rfl, h2⟩ := List.cons.inj ht2.symm
        obtain ⟨rfl, -⟩ := List.cons.inj h2
        have hm1 : f1 ∈ c.filter (hasE A B) := by rw [hf1]; exact List.mem_singleton_self f1
        have hm2 : f2 ∈ c.filter (hasE B A) := by rw [hf2]; exact List.mem_singleton_self f2
        have hperm := filter3_perm c (hasE A B) (hasE B A) fun f hf ⟨h1, h2⟩ =>
          not_both_dirs (hc f hf) ((hasE_iff _ _ _).mp h1) ((hasE_iff _ _ _).mp h2)
        rw [hf1, hf2] at hperm
        exact Or.inr ⟨f1, f2, p, q, List.mem_filter.mp hm1, List.mem_filter.mp hm2, hrot1, hrot2,
          (nodupB_iff _).mp hnd, hperm, (Option.some.inj h).symm⟩
      · cases h
    · cases h
  · cases h

theorem removeOneEdge_cellOK {A B : Nat} {c c' : Cell} (hc : CellOK c) (h : removeOneEdge A B c = some c') :
    CellOK c' := by
  rcases removeOneEdge_spec hc.2 h with rfl | ⟨f1, f2, p, q, hm1, -, hrot1, hrot2, hg, hperm, rfl⟩
  · exact hc
  have hrotg := rotMin_isRotated (mergeAlong A B p q)
  refine ⟨?_, fun f hf => ?_⟩
  · have hb2 : Bal (edgesOf ((c.filter fun f => !hasE A B f && !hasE B A f) ++ [A :: B :: p, B :: A :: q])) := by
      refine bal_of_perm ?_ (bal_of_perm (edgesOf_perm hperm) hc.1)
      simp only [edgesOf_append, edgesOf_cons]
      exact ((isRotated_dirEdges hrot1).append ((isRotated_dirEdges hrot2).append (List.Perm.refl _))).append_left _
    refine bal_of_perm ?_ (edge_merge_bal A B p q _ hb2)
    simp only [edgesOf_append, edgesOf_cons]
    exact ((isRotated_dirEdges hrotg).append (List.Perm.refl _)).append_left _
  · rcases List.mem_append.mp hf with hf | hf
    · exact hc.2 f (List.mem_filter.mp hf).1
    · rw [List.mem_singleton.mp hf]
      refine ⟨hrotg.nodup_iff.mp hg, ?_⟩
      rw [← hrotg.perm.length_eq]
      have h3 := (hc.2 f1 hm1.1).2
      have := hrot1.perm.length_eq
      simp only [mergeAlong, List.length_cons, List.length_append] at this ⊢
      omega

theorem removeOneEdge_nodes {A B : Nat} {c c' : Cell} (hc : ∀ f ∈ c, FaceOK f) (h : removeOneEdge A B c = some c') :
    ∀ f' ∈ c', ∀ v ∈ f', v ∈ c.flatten := by
  rcases removeOneEdge_spec hc h with rfl | ⟨f1, f2, p, q, hm1, hm2, hrot1, hrot2, -, -, rfl⟩
  · exact fun f' hf' v hv => List.mem_flatten.mpr ⟨f', hf', hv⟩
  intro f' hf' v hv
  rcases List.mem_append.mp hf' with hf' | hf'
  · exact List.mem_flatten.mpr ⟨f', (List.mem_filter.mp hf').1, hv⟩
  · rw [List.mem_singleton.mp hf'] at hv
    rcases mem_mergeAlong ((rotMin_isRotated _).perm.mem_iff.mpr hv) with h | h
    · exact List.mem_flatten.mpr ⟨f1, hm1.1, hrot1.perm.mem_iff.mpr h⟩
    · exact List.mem_flatten.mpr ⟨f2, hm2.1, hrot2.perm.mem_iff.mpr h⟩

theorem cells_eq_range_map (cells : List Cell) : cells = (List.range cells.length).map fun i => cells.getD i [] := by
  apply List.ext_getElem
  · simp
  · intro i h1 h2
    simp only [List.getElem_map, List.getElem_range]
    rw [List.getD_eq_getElem?_getD, List.getElem?_eq_getElem h1, Option.getD_some]

theorem removeEdgeStep_spec (A B : Nat) (ps : List Nat) (cells : List Cell) :
    ∃ g : Nat → Cell, removeEdgeStep A B ps cells = (List.range cells.length).map g ∧
      ∀ i, g i = cells.getD i [] ∨ (i ∈ ps ∧ removeOneEdge A B (cells.getD i []) = some (g i)) := by
  unfold removeEdgeStep
  split
  · refine ⟨_, rfl, fun i => ?_⟩
    split
    · rename_i hin
      cases removeOneEdge A B (cells.getD i []) with
      | none => exact Or.inl rfl
      | some c' => exact Or.inr ⟨List.contains_iff_mem.mp hin, rfl⟩
    · exact Or.inl rfl
  · exact ⟨fun i => cells.getD i [], cells_eq_range_map cells, fun i => Or.inl rfl⟩

theorem removeEdgeStep_inv {cells : List Cell} (h : Inv cells) (A B : Nat) (ps : List Nat) :
    Inv (removeEdgeStep A B ps cells) := by
  obtain ⟨g, he, hg⟩ := removeEdgeStep_spec A B ps cells
  rw [he]
  refine List.forall_mem_map.mpr fun i _ => ?_
  rcases hg i with h' | ⟨_, h'⟩
  · rw [h']; exact getD_cellOK h i
  · exact removeOneEdge_cellOK (getD_cellOK h i) h'

end Femio.C20
