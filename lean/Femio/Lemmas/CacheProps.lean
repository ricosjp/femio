import Femio.Model.Cache
import Femio.Lemmas.ListLemmas

open Cache

/-- every cached value was computed from the current version of its object -/
def Fresh (w : World) : Prop := ∀ m k s, (k, s) ∈ w.lru m → s = w.version k.obj

theorem lookup_mem {k : Key} {l : List (Key × Nat)} {s : Nat} (h : lookup k l = some s) : (k, s) ∈ l :=
  mem_of_lookup_eq_some (eq_lookup lookup (fun _ => rfl) (fun _ _ _ _ => rfl) k l ▸ h)

theorem fresh_set (w : World) (m₀ : Nat) (l' : List (Key × Nat)) (h : Fresh w) (hl : ∀ e ∈ l', e.2 = w.version e.1.obj) :
    Fresh { w with lru := fun m => if m = m₀ then l' else w.lru m } := by
  intro m k s hmem
  simp only at hmem
  split at hmem
  · exact hl _ hmem
  · exact h m k s hmem

/-- queries keep the caches fresh; a modification keeps them fresh only if it invalidates -/
theorem fresh_step_fixed (w : World) (op : Op) (h : Fresh w) : Fresh (step ⟨true⟩ w op).1 := by
  cases op with
  | modify o => intro m k s hmem; simp [step] at hmem
  | query k =>
    simp only [step]
    split
    · rename_i s hs
      exact fresh_set w k.meth _ h (List.forall_mem_cons.mpr
        ⟨h k.meth k s (lookup_mem hs), fun e he => h k.meth e.1 e.2 (List.mem_filter.mp he).1⟩)
    · refine fresh_set w k.meth _ h fun e he => ?_
      rcases List.mem_cons.mp (List.mem_of_mem_take he) with h1 | h1
      · rw [h1]
      · exact h k.meth e.1 e.2 h1

/-- what a query returns when the caches are fresh: the value for the current mesh -/
theorem query_current (cfg : Cfg) (w : World) (k : Key) (h : Fresh w) :
    (step cfg w (.query k)).2 = .hit (w.version k.obj) ∨ (step cfg w (.query k)).2 = .miss (w.version k.obj) := by
  simp only [step]
  split
  · rename_i s hs; left; simp only; rw [h k.meth k s (lookup_mem hs)]
  · right; rfl

/-- **C19_history_independent** for the repaired configuration: every history, every object -/
theorem history_fresh_fixed (w : World) (ops : List Op) (h : Fresh w) : Fresh (run ⟨true⟩ w ops).1 := by
  induction ops generalizing w with
  | nil => exact h
  | cons op ops ih => simp only [run]; exact ih _ (fresh_step_fixed w op h)

/-! counterexample without invalidation (`Cfg.invalidate = false`): query, modify, query → stale hit -/
def w0 : World := ⟨fun _ => 0, fun _ => [], fun _ => 1⟩
theorem stale_counterexample :
    (run ⟨false⟩ w0 [.query ⟨1, 0, 0⟩, .modify 1, .query ⟨1, 0, 0⟩]).2 = [.miss 0, .modified, .hit 0] := by decide +kernel
/-- …and an interposed query of another object on the 1-slot cache makes the answer fresh again -/
theorem eviction_refreshes :
    (run ⟨false⟩ w0 [.query ⟨1, 0, 0⟩, .modify 1, .query ⟨2, 0, 0⟩, .query ⟨1, 0, 0⟩]).2
      = [.miss 0, .modified, .miss 0, .miss 1] := by decide +kernel

#print axioms history_fresh_fixed
