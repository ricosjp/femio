import Femio.Model.FistrCnt
import Femio.Lemmas.FistrMshProps
import Femio.Model.FistrCntCanon
import Femio.Lemmas.CntProps

/-! Lemmas for C03 (whole file): the header scan of a written FrontISTR control file.  A data row the writer prints is a
`GoodRow` (starts with a digit, characters of `%d` / `%.pE` / `,` only): that is all the comment filter, the header test,
the key search and `_extend_assignments` need to know of it.  The written lines are `cntText`, the blocks their scan
must return `cntBlocks`; `readSection_rows` is the generic section reader on written rows. -/
namespace Femio.Fistr.CntFile
open Numeral Cnt

/-- a field printed by `%d` or `%.pE` -/
def SciField (f : List Char) : Prop := ∀ c ∈ f, isSciCh c = true

theorem sciField_showNat (n : Nat) : SciField (showNat n) := sciCh_showNat n

theorem sciField_renderSci (p : Nat) (s : Sci) : SciField (renderSci p s) := sciCh_renderSci p s

theorem sciFields_b (l : BLine Sci) :
    ∀ f ∈ [showNat l.id, showNat l.first, showNat l.last, renderSci 5 l.val], SciField f := by
  simp [sciField_showNat, sciField_renderSci]
theorem sciFields_d (l : DLine Sci) : ∀ f ∈ [showNat l.id, showNat l.dof, renderSci 6 l.val], SciField f := by
  simp [sciField_showNat, sciField_renderSci]
theorem sciFields_s (r : Nat × Sci) : ∀ f ∈ [showNat r.1, renderSci 12 r.2], SciField f := by
  simp [sciField_showNat, sciField_renderSci]

/-- a data row of a constraint section: starts with a digit, consists of `0-9 , . E + -` -/
def GoodRow (l : Line) : Prop := (∃ c t, l = c :: t ∧ isDigit c = true) ∧ ∀ c ∈ l, isDataCh c = true

theorem goodRow_join (n : Nat) (fs : List (List Char)) (h : ∀ f ∈ showNat n :: fs, SciField f) :
    GoodRow (joinSep ',' (showNat n :: fs)) := by
  obtain ⟨c, t, hct, hd⟩ := showNat_cons n
  refine ⟨?_, dataCh_joinSep _ h⟩
  cases fs with
  | nil => exact ⟨c, t, hct, hd⟩
  | cons g u => exact ⟨c, t ++ ',' :: joinSep ',' (g :: u), by rw [joinSep, hct]; rfl, hd⟩

theorem goodRow_bLine (l : BLine Sci) : GoodRow (bLineText l) := goodRow_join _ _ (sciFields_b l)
theorem goodRow_dLine (l : DLine Sci) : GoodRow (dLineText l) := goodRow_join _ _ (sciFields_d l)
theorem goodRow_sLine (r : Nat × Sci) : GoodRow (sLineText r) := goodRow_join _ _ (sciFields_s r)

theorem GoodRow.ne_nil {l : Line} (h : GoodRow l) : l ≠ [] := by
  obtain ⟨⟨c, t, rfl, -⟩, -⟩ := h
  exact List.cons_ne_nil c t

theorem GoodRow.isHeader {l : Line} (h : GoodRow l) : isHeader l = false := (dataLine_ok l h.ne_nil h.2).1

theorem GoodRow.ignoreLine {l : Line} (h : GoodRow l) : ignoreLine l = false := (dataLine_ok l h.ne_nil h.2).2

theorem GoodRow.hasSub {l : Line} (h : GoodRow l) (k : List Char) : hasSub ('!' :: k) l = false :=
  hasSub_no_first '!' k l (not_mem_of_forall h.2 (by decide))

theorem GoodRow.startsAlpha {l : Line} (h : GoodRow l) : startsWithP isAlpha l = false := by
  obtain ⟨⟨c, t, rfl, hd⟩, _⟩ := h
  exact startsWithP_alpha_digit t hd

/-- lines / rows of an optional section (`none` = not written) -/
def optL {α β} (o : Option α) (f : α → List β) : List β := match o with | none => [] | some a => f a

theorem mem_optL {α β} (o : Option α) (f : α → List β) (x : β) : x ∈ optL o f ↔ ∃ a, o = some a ∧ x ∈ f a := by
  cases o with
  | none => exact ⟨fun h => (nomatch h), fun ⟨_, h, _⟩ => (nomatch h)⟩
  | some a => exact ⟨fun h => ⟨a, rfl, h⟩, fun ⟨_, h, hx⟩ => Option.some.inj h ▸ hx⟩

theorem nonemptyOr_optL {α β γ} (o : Option α) (f : α → List β) (h : β → γ) :
    nonemptyOr ((optL o f).map h) = o.bind fun t => nonemptyOr ((f t).map h) := by
  cases o <;> rfl

theorem nonemptyOr_of_ne {α} (l : List α) (h : l ≠ []) : nonemptyOr l = some l := by
  cases l with
  | nil => exact absurd rfl h
  | cons a t => rfl

theorem nonemptyOr_optL_of_ne {α β γ} (o : Option α) (f : α → List β) (h : β → γ) (hne : ∀ t, o = some t → f t ≠ []) :
    nonemptyOr ((optL o f).map h) = o.map fun t => (f t).map h := by
  cases o with
  | none => rfl
  | some t => exact nonemptyOr_of_ne _ (by simpa [optL] using hne t rfl)

/-- a section as `write_cnt` emits it: the header and, when the kind is given, the data rows -/
abbrev Sec := Line × Option (List Line)

def mkSec {α ρ} (hdr : Line) (o : Option α) (rows : α → List ρ) (txt : ρ → Line) : Sec :=
  (hdr, o.map fun a => (rows a).map txt)

/-- the lines written for a section: an empty table gives the header followed by one empty line -/
def sectionLines (s : Sec) : List Line := optL s.2 (blockLines s.1)

def secBlocks (ss : List Sec) : List (Line × List Line) := ss.filterMap fun s => s.2.map fun rows => (s.1, rows)

def GoodSec (s : Sec) : Prop :=
  isHeader s.1 = true ∧ ignoreLine s.1 = false ∧ ∀ rows, s.2 = some rows → ∀ l ∈ rows, GoodRow l

theorem goodSec_mk {α ρ} {hdr : Line} {o : Option α} {rows : α → List ρ} {txt : ρ → Line} (hh : isHeader hdr = true)
    (hi : ignoreLine hdr = false) (hg : ∀ r, GoodRow (txt r)) : GoodSec (mkSec hdr o rows txt) := by
  refine ⟨hh, hi, fun ls hls l hl => ?_⟩
  obtain ⟨a, -, rfl⟩ := Option.map_eq_some_iff.mp hls
  obtain ⟨r, -, rfl⟩ := List.mem_map.mp hl
  exact hg r

theorem secRows_mk {α ρ} (hdr : Line) (o : Option α) (rows : α → List ρ) (txt : ρ → Line) :
    optL (mkSec hdr o rows txt).2 id = (optL o rows).map txt := by
  cases o <;> rfl

/-- headers start with `!` and survive the comment filter; data lines do not start with `!`, survive the
    filter and do not contain `!SOLUTION` -/
def GoodBlocks (bs : List (Line × List Line)) : Prop :=
  ∀ b ∈ bs, isHeader b.1 = true ∧ ignoreLine b.1 = false ∧
    ∀ l ∈ b.2, isHeader l = false ∧ ignoreLine l = false ∧ hasSub c!"!SOLUTION" l = false

theorem GoodBlocks.append {a b : List (Line × List Line)} (ha : GoodBlocks a) (hb : GoodBlocks b) : GoodBlocks (a ++ b) := by
  intro x hx
  rcases List.mem_append.mp hx with h | h
  · exact ha x h
  · exact hb x h

theorem GoodBlocks.wf {bs : List (Line × List Line)} (h : GoodBlocks bs) : WFBlocks bs :=
  fun b hb => ⟨(h b hb).1, fun l hl => ((h b hb).2.2 l hl).1⟩

theorem GoodBlocks.clean {bs : List (Line × List Line)} (h : GoodBlocks bs) : ∀ l ∈ renderBlocks bs, ignoreLine l = false := by
  intro l hl
  simp only [renderBlocks, List.mem_flatMap, List.mem_cons] at hl
  obtain ⟨b, hb, rfl | hl⟩ := hl
  · exact (h b hb).2.1
  · exact ((h b hb).2.2 l hl).2.1

theorem goodBlocks_secBlocks {ss : List Sec} (h : ∀ s ∈ ss, GoodSec s) : GoodBlocks (secBlocks ss) := by
  intro b hb
  obtain ⟨s, hs, hb⟩ := List.mem_filterMap.mp hb
  obtain ⟨rows, hrows, rfl⟩ := Option.map_eq_some_iff.mp hb
  obtain ⟨hh, hi, hg⟩ := h s hs
  exact ⟨hh, hi, fun l hl => ⟨(hg rows hrows l hl).isHeader, (hg rows hrows l hl).ignoreLine, (hg rows hrows l hl).hasSub _⟩⟩

/-- an empty table is written as the header followed by one empty line, which the filter removes -/
theorem filter_blockLines (hdr : Line) (rows : List Line) (hh : ignoreLine hdr = false) (hr : ∀ l ∈ rows, ignoreLine l = false) :
    (blockLines hdr rows).filter (fun l => !ignoreLine l) = hdr :: rows := by
  cases rows with
  | nil => simp [blockLines, hh, show ignoreLine ([] : Line) = true from rfl]
  | cons r t => exact filter_clean (hdr :: r :: t) (List.forall_mem_cons.mpr ⟨hh, hr⟩)

theorem filter_secLines {ss : List Sec} (h : ∀ s ∈ ss, GoodSec s) :
    (ss.flatMap sectionLines).filter (fun l => !ignoreLine l) = renderBlocks (secBlocks ss) := by
  induction ss with
  | nil => rfl
  | cons s t ih =>
    obtain ⟨hh, hi, hg⟩ := h s List.mem_cons_self
    have ht := ih fun x hx => h x (List.mem_cons_of_mem _ hx)
    obtain ⟨hdr, rows⟩ := s
    rw [List.flatMap_cons, List.filter_append, ht]
    cases rows with
    | none => rfl
    | some rows =>
      have := filter_blockLines hdr rows hi fun l hl => (hg rows rfl l hl).ignoreLine
      simp [sectionLines, optL, secBlocks, renderBlocks, this]

/-- header scan of filtered lines: the lines matching `p` are the matching headers when no data line matches -/
theorem filter_renderBlocks (p : Line → Bool) (bs : List (Line × List Line)) (h : ∀ b ∈ bs, ∀ l ∈ b.2, p l = false) :
    (renderBlocks bs).filter p = (bs.filter fun b => p b.1).map (·.1) := by
  induction bs with
  | nil => rfl
  | cons b t ih =>
    have hb : b.2.filter p = [] := by
      rw [List.filter_eq_nil_iff]; intro l hl; simp [h b (by simp) l hl]
    have ht := ih (fun x hx => h x (List.mem_cons_of_mem _ hx))
    have hr : renderBlocks (b :: t) = b.1 :: (b.2 ++ renderBlocks t) := by simp [renderBlocks]
    rw [hr, List.filter_cons, List.filter_append, hb, List.nil_append, ht, List.filter_cons]
    cases p b.1 <;> simp

theorem blocksOf_append (k : List Char) (a b : List (Line × List Line)) : blocksOf k (a ++ b) = blocksOf k a ++ blocksOf k b := by
  simp [blocksOf]

theorem blocksOf_secBlocks (k : List Char) (ss : List Sec) :
    blocksOf k (secBlocks ss) = secBlocks (ss.filter fun s => hasSub k s.1) := by
  induction ss with
  | nil => rfl
  | cons s t ih =>
    obtain ⟨hdr, rows⟩ := s
    cases rows <;> cases hk : hasSub k hdr <;> simp_all [blocksOf, secBlocks]

theorem filter_mkSec_pos {α ρ} (k hdr : Line) (o : Option α) (rows : α → List ρ) (txt : ρ → Line) (rest : List Sec)
    (h : hasSub k hdr = true) :
    (mkSec hdr o rows txt :: rest).filter (fun s => hasSub k s.1) = mkSec hdr o rows txt :: rest.filter fun s => hasSub k s.1 :=
  List.filter_cons_of_pos h

theorem filter_mkSec_neg {α ρ} (k hdr : Line) (o : Option α) (rows : α → List ρ) (txt : ρ → Line) (rest : List Sec)
    (h : hasSub k hdr = false) :
    (mkSec hdr o rows txt :: rest).filter (fun s => hasSub k s.1) = rest.filter fun s => hasSub k s.1 :=
  List.filter_cons_of_neg (by simp [mkSec, h])

theorem flatMap_secBlocks (ss : List Sec) : (secBlocks ss).flatMap (·.2) = ss.flatMap fun s => optL s.2 id := by
  induction ss with
  | nil => rfl
  | cons s t ih =>
    obtain ⟨hdr, rows⟩ := s
    cases rows <;> simp_all [secBlocks, optL]

/-- the constraint sections in the order `write_cnt` emits them -/
def sections (c : CntIn) : List Sec :=
  [mkSec c!"!BOUNDARY" c.boundary boundaryRows bLineText, mkSec c!"!SPRING" c.spring springRows dLineText,
   mkSec c!"!CLOAD" c.cload cloadRows dLineText, mkSec c!"!FIXTEMP" c.fixtemp id sLineText,
   mkSec c!"!CFLUX" c.cflux id sLineText, mkSec c!"!CFLUX, TYPE=PURE" c.pureCflux id sLineText]

theorem goodSecs (c : CntIn) : ∀ s ∈ sections c, GoodSec s := by
  simp only [sections, List.forall_mem_cons]
  exact ⟨goodSec_mk (by decide) (by decide) goodRow_bLine, goodSec_mk (by decide) (by decide) goodRow_dLine,
    goodSec_mk (by decide) (by decide) goodRow_dLine, goodSec_mk (by decide) (by decide) goodRow_sLine,
    goodSec_mk (by decide) (by decide) goodRow_sLine, goodSec_mk (by decide) (by decide) goodRow_sLine,
    fun _ h => nomatch h⟩

/-- the lines `write_cnt` emits when it does not raise -/
def cntText (c : CntIn) : List Line := cntHead c ++ (sections c).flatMap sectionLines ++ cntTail

theorem optBlock_mkSec {α ρ} (hdr : Line) (o : Option α) (rows : α → List ρ) (txt : ρ → Line) (f : α → Option (List Line))
    (hf : ∀ t, o = some t → f t = some (blockLines hdr ((rows t).map txt))) :
    optBlock o f = some (sectionLines (mkSec hdr o rows txt)) := by
  cases o with
  | none => rfl
  | some t => exact hf t rfl

/-- `!BOUNDARY` / `!CLOAD`: `np.concatenate` of at least one row -/
theorem map_nonemptyOr_blockLines {ρ} (hdr : Line) (rows : List ρ) (txt : ρ → Line) (h : rows ≠ []) :
    (nonemptyOr rows).map (fun rs => hdr :: rs.map txt) = some (blockLines hdr (rows.map txt)) := by
  cases rows with
  | nil => exact absurd rfl h
  | cons a l => rfl

theorem writeCnt_eq (c : CntIn) (hb : ∀ t, c.boundary = some t → boundaryRows t ≠ [])
    (hl : ∀ t, c.cload = some t → cloadRows t ≠ []) : writeCnt c = some (cntText c) := by
  have hB := optBlock_mkSec c!"!BOUNDARY" c.boundary boundaryRows bLineText boundaryLines fun t h =>
    map_nonemptyOr_blockLines _ _ _ (hb t h)
  have hS := optBlock_mkSec c!"!SPRING" c.spring springRows dLineText (fun t => some (springLines t)) fun _ _ => rfl
  have hL := optBlock_mkSec c!"!CLOAD" c.cload cloadRows dLineText cloadLines fun t h =>
    map_nonemptyOr_blockLines _ _ _ (hl t h)
  have hF := optBlock_mkSec c!"!FIXTEMP" c.fixtemp id sLineText (fun t => some (scalarLines c!"!FIXTEMP" t)) fun _ _ => rfl
  have hC := optBlock_mkSec c!"!CFLUX" c.cflux id sLineText (fun t => some (scalarLines c!"!CFLUX" t)) fun _ _ => rfl
  have hP := optBlock_mkSec c!"!CFLUX, TYPE=PURE" c.pureCflux id sLineText
    (fun t => some (scalarLines c!"!CFLUX, TYPE=PURE" t)) fun _ _ => rfl
  simp only [writeCnt, hB, hS, hL, hF, hC, hP, Option.bind_eq_bind, Option.bind_some, Option.pure_def, cntText, sections,
    List.flatMap_cons, List.flatMap_nil, List.append_nil, List.append_assoc]

/-- the boilerplate after the `!SOLUTION` line, as blocks -/
def headRest (heat solid : Bool) : List (Line × List Line) :=
  (if heat then [(c!"!HEAT", [])] else [])
  ++ [(c!"!WRITE,RESULT, FREQUENCY=1", []), (c!"!WRITE,VISUAL, FREQUENCY=1", [])]
  ++ (if solid then
        [(c!"!OUTPUT_RES", [c!"ESTRAIN,ON", c!"ESTRESS,ON", c!"EMISES,ON", c!"ISTRAIN,ON", c!"ITEMP,ON"]),
         (c!"!OUTPUT_VIS", [c!"ESTRAIN,ON", c!"ESTRESS,ON", c!"EMISES,ON", c!"TEMPERATURE,ON"])]
      else [(c!"!OUTPUT_RES", [c!"DISP,ON"])])

def tailBlocks : List (Line × List Line) :=
  [(c!"!SOLVER,METHOD=MUMPS,PRECOND=1,ITERLOG=YES,TIMELOG=YES", [c!"100000000, 1", c!"1.0e-08, 1.0, 0.0"]),
   (c!"!VISUAL, method=PSR", []), (c!"!surface_num = 1", []), (c!"!surface 1", []),
   (c!"!output_type = COMPLETE_REORDER_AVS", []), (c!"!END", [])]

def headBlocks (c : CntIn) : List (Line × List Line) :=
  [(c!"!VERSION", [c!"5"])] ++ [(solutionLine c.solution, [])] ++ headRest (decide (c.solution = c!"HEAT")) c.onlySolid

/-- what the header scan of the written file must return -/
def cntBlocks (c : CntIn) : List (Line × List Line) := headBlocks c ++ secBlocks (sections c) ++ tailBlocks

theorem renderBlocks_headBlocks (c : CntIn) : renderBlocks (headBlocks c) = cntHead c := by
  by_cases hh : c.solution = c!"HEAT" <;> cases hs : c.onlySolid <;>
    simp only [headBlocks, cntHead, hh, hs, decide_true, decide_false, if_true, if_false, Bool.false_eq_true] <;> rfl

theorem renderBlocks_tailBlocks : renderBlocks tailBlocks = cntTail := by decide +kernel

/-- a solution-type token: non-empty, `\w` characters -/
def IsWordTok (s : Name) : Prop := s ≠ [] ∧ ∀ ch ∈ s, isWord ch = true

instance (s : Name) : Decidable (IsWordTok s) := by unfold IsWordTok; infer_instance

theorem ignoreLine_solutionLine (s : Name) (hs : ∀ ch ∈ s, isWord ch = true) : ignoreLine (solutionLine s) = false :=
  ignoreLine_cons (c := '!') (t := c!"SOLUTION, TYPE=" ++ s) (by decide)
    fun m => (List.mem_cons.mp m).elim (by decide) fun m =>
      (List.mem_append.mp m).elim (by decide) (not_mem_of_forall hs (by decide))

/-- the keys of the constraint sections -/
def dataKeys : List (List Char) := [c!"!BOUNDARY", c!"!SPRING", c!"!CLOAD", c!"!FIXTEMP", c!"!CFLUX"]

theorem hasSub_solutionLine_neg (s : Name) (hs : ∀ ch ∈ s, isWord ch = true) :
    ∀ k ∈ dataKeys, hasSub k (solutionLine s) = false := by
  have h2 : '!' ∉ c!"SOLUTION, TYPE=" ++ s := fun m =>
    (List.mem_append.mp m).elim (by decide) (not_mem_of_forall hs (by decide))
  have hsl : solutionLine s = '!' :: (c!"SOLUTION, TYPE=" ++ s) := rfl
  intro k hk
  simp only [dataKeys, List.mem_cons, List.not_mem_nil, or_false] at hk
  -- after the leading `!`, no key continues with `SOLUTION`
  rcases hk with rfl | rfl | rfl | rfl | rfl <;>
    (rw [hsl, hasSub, hasSub_no_first _ _ _ h2, Bool.or_false]; rfl)

def Boiler (bs : List (Line × List Line)) : Prop :=
  GoodBlocks bs ∧ ∀ k ∈ c!"!SOLUTION" :: dataKeys, blocksOf k bs = []

theorem boiler_version : Boiler [(c!"!VERSION", [c!"5"])] := by unfold Boiler GoodBlocks; decide +kernel
theorem boiler_headRest : ∀ heat solid : Bool, Boiler (headRest heat solid) := by unfold Boiler GoodBlocks; decide +kernel
theorem boiler_tail : Boiler tailBlocks := by unfold Boiler GoodBlocks; decide +kernel

theorem blocksOf_cntBlocks_key (c : CntIn) (k : List Char) (hk : k ∈ c!"!SOLUTION" :: dataKeys) :
    blocksOf k (cntBlocks c) =
      blocksOf k [(solutionLine c.solution, [])] ++ secBlocks ((sections c).filter fun s => hasSub k s.1) := by
  rw [cntBlocks, headBlocks, blocksOf_append, blocksOf_append, blocksOf_append, blocksOf_append, boiler_version.2 k hk,
    (boiler_headRest _ _).2 k hk, boiler_tail.2 k hk, blocksOf_secBlocks, List.nil_append, List.append_nil, List.append_nil]

theorem blocksOf_cnt_solution (c : CntIn) : blocksOf c!"!SOLUTION" (cntBlocks c) = [(solutionLine c.solution, [])] := by
  rw [blocksOf_cntBlocks_key c _ List.mem_cons_self]
  simp (disch := decide +kernel) only [sections, filter_mkSec_neg, List.filter_nil]
  rfl

section Written
variable (c : CntIn) (hs : ∀ ch ∈ c.solution, isWord ch = true)
include hs

theorem goodBlocks_head : GoodBlocks (headBlocks c) := by
  refine (boiler_version.1.append fun b hb => ?_).append (boiler_headRest _ _).1
  cases List.mem_singleton.mp hb
  exact ⟨rfl, ignoreLine_solutionLine _ hs, fun l hl => nomatch hl⟩

theorem goodBlocks_cntBlocks : GoodBlocks (cntBlocks c) :=
  ((goodBlocks_head c hs).append (goodBlocks_secBlocks (goodSecs c))).append boiler_tail.1

/-- after the comment / blank filter the written file is exactly the rendering of `cntBlocks` -/
theorem filter_cntText :
    (cntText c).filter (fun l => !ignoreLine l) = renderBlocks (cntBlocks c) := by
  have hhead : (cntHead c).filter (fun l => !ignoreLine l) = cntHead c :=
    filter_clean _ (by rw [← renderBlocks_headBlocks]; exact (goodBlocks_head c hs).clean)
  have htail : cntTail.filter (fun l => !ignoreLine l) = cntTail :=
    filter_clean _ (by rw [← renderBlocks_tailBlocks]; exact boiler_tail.1.clean)
  rw [cntText, cntBlocks, List.filter_append, List.filter_append, renderBlocks_append, renderBlocks_append,
    filter_secLines (goodSecs c), hhead, htail, renderBlocks_headBlocks, renderBlocks_tailBlocks]

/-- **header scan of the written file** -/
theorem toBlocks_cntText : toBlocks (cntText c) = cntBlocks c := by
  unfold toBlocks
  rw [filter_cntText c hs, toBlocksAux_render _ (goodBlocks_cntBlocks c hs).wf]

theorem blocksOf_cntBlocks (k : List Char) (hk : k ∈ dataKeys) :
    blocksOf k (cntBlocks c) = secBlocks ((sections c).filter fun s => hasSub k s.1) := by
  rw [blocksOf_cntBlocks_key c k (List.mem_cons_of_mem _ hk), blocksOf, List.filter_cons_of_neg, List.filter_nil, List.nil_append]
  rw [hasSub_solutionLine_neg _ hs k hk]
  exact Bool.false_ne_true

theorem extractData_cntBlocks (k : List Char) (hk : k ∈ dataKeys) :
    extractData k (cntBlocks c) = ((sections c).filter fun s => hasSub k s.1).flatMap fun s => optL s.2 id := by
  rw [extractData, blocksOf_cntBlocks c hs k hk, flatMap_secBlocks]

theorem extractData_cnt_boundary :
    extractData c!"!BOUNDARY" (cntBlocks c) = (optL c.boundary boundaryRows).map bLineText := by
  rw [extractData_cntBlocks c hs _ (by decide +kernel)]
  simp (disch := decide +kernel) only [sections, filter_mkSec_pos, filter_mkSec_neg, List.filter_nil, List.flatMap_cons,
    List.flatMap_nil, List.append_nil, secRows_mk]

theorem extractData_cnt_spring :
    extractData c!"!SPRING" (cntBlocks c) = (optL c.spring springRows).map dLineText := by
  rw [extractData_cntBlocks c hs _ (by decide +kernel)]
  simp (disch := decide +kernel) only [sections, filter_mkSec_pos, filter_mkSec_neg, List.filter_nil, List.flatMap_cons,
    List.flatMap_nil, List.append_nil, secRows_mk]

theorem extractData_cnt_cload :
    extractData c!"!CLOAD" (cntBlocks c) = (optL c.cload cloadRows).map dLineText := by
  rw [extractData_cntBlocks c hs _ (by decide +kernel)]
  simp (disch := decide +kernel) only [sections, filter_mkSec_pos, filter_mkSec_neg, List.filter_nil, List.flatMap_cons,
    List.flatMap_nil, List.append_nil, secRows_mk]

theorem extractData_cnt_fixtemp :
    extractData c!"!FIXTEMP" (cntBlocks c) = (optL c.fixtemp id).map sLineText := by
  rw [extractData_cntBlocks c hs _ (by decide +kernel)]
  simp (disch := decide +kernel) only [sections, filter_mkSec_pos, filter_mkSec_neg, List.filter_nil, List.flatMap_cons,
    List.flatMap_nil, List.append_nil, secRows_mk]

/-- `!CFLUX` is a substring of both the `!CFLUX` and the `!CFLUX, TYPE=PURE` header: the reader sees the rows of both
    sections as one table -/
theorem extractData_cnt_cflux :
    extractData c!"!CFLUX" (cntBlocks c) = (optL c.cflux id ++ optL c.pureCflux id).map sLineText := by
  rw [extractData_cntBlocks c hs _ (by decide +kernel)]
  simp (disch := decide +kernel) only [sections, filter_mkSec_pos, filter_mkSec_neg, List.filter_nil, List.flatMap_cons,
    List.flatMap_nil, List.append_nil, secRows_mk, List.map_append]

/-- the `TYPE=` captures of the `!CFLUX…` headers: `PURE` iff the pure section is written -/
theorem cflux_types :
    (blocksOf c!"!CFLUX" (cntBlocks c)).filterMap (fun b => capture c!"TYPE=" b.1) =
      optL c.pureCflux (fun _ => [c!"PURE"]) := by
  have h1 : capture c!"TYPE=" c!"!CFLUX" = none := by decide +kernel
  have h2 : capture c!"TYPE=" c!"!CFLUX, TYPE=PURE" = some c!"PURE" := by decide +kernel
  rw [blocksOf_cntBlocks c hs _ (by decide +kernel)]
  simp (disch := decide +kernel) only [sections, filter_mkSec_pos, filter_mkSec_neg, List.filter_nil]
  cases c.cflux <;> cases c.pureCflux <;>
    simp only [secBlocks, mkSec, optL, List.filterMap_cons, List.filterMap_nil, Option.map_none, Option.map_some, h1, h2]

/-- `_read_cnt_solution_type` on the written file looks at the `!SOLUTION` line only -/
theorem readSolution_cntText :
    readSolution (cntText c) = capture c!"TYPE=" (solutionLine c.solution) := by
  have hno : ∀ b ∈ cntBlocks c, ∀ l ∈ b.2, hasSub c!"!SOLUTION" l = false :=
    fun b hb l hl => ((goodBlocks_cntBlocks c hs b hb).2.2 l hl).2.2
  have hf : (renderBlocks (cntBlocks c)).filter (hasSub c!"!SOLUTION") = [solutionLine c.solution] := by
    rw [filter_renderBlocks _ _ hno]
    show (blocksOf c!"!SOLUTION" (cntBlocks c)).map (·.1) = _
    rw [blocksOf_cnt_solution]; rfl
  unfold readSolution
  rw [filter_cntText c hs, hf]

end Written

/-- a section whose data lines are the written rows `rows.map txt`: `_extend_assignments` is the identity, every row
    parses (`hp`) and converts (`hc`); a section without data lines is absent -/
theorem readSection_rows {ρ α β} (ng : List (Name × List Nat)) {key : List Char} {parse : Line → Option α}
    {conv : α → Option β} {bs : List (Line × List Line)} {rows : List ρ} {txt : ρ → Line} {g : ρ → α} {h : ρ → β}
    (hd : extractData key bs = rows.map txt) (hgood : ∀ r, GoodRow (txt r)) (hp : ∀ r, parse (txt r) = some (g r))
    (hc : ∀ r ∈ rows, conv (g r) = some (h r)) :
    readSection ng key parse conv bs = some (nonemptyOr (rows.map h)) := by
  unfold readSection
  rw [hd]
  cases rows with
  | nil => simp [nonemptyOr]
  | cons r t =>
    have h1 := extendAssignments_of_numeric ng ((r :: t).map txt) fun l hl => by
      obtain ⟨x, _, rfl⟩ := List.mem_map.mp hl; exact (hgood x).startsAlpha
    have h2 := mapM_map_eq_some_map txt parse g (r :: t) fun x _ => hp x
    have h3 := mapM_map_eq_some_map g conv h (r :: t) hc
    have hne : ((r :: t).map txt).isEmpty = false := rfl
    have hne' : ((r :: t).map h).isEmpty = false := rfl
    simp only [hne, Bool.false_eq_true, if_false, h1, Option.bind_eq_bind, Option.bind_some, h2, h3, Option.pure_def,
      nonemptyOr, hne']

/-- the last step of `_read_cnt` when the `TYPE=` captures of the `!CFLUX…` headers are `PURE` for the pure section
    (given: `pf` is `some`) and nothing else: all `!CFLUX…` rows `cf` go to `pure_cflux` if that section was written
    and to `cflux` if not -/
theorem readCnt_eq {γ} (ng : List (Name × List Nat)) {text : List Line} {sol : Name} {bs : List (Line × List Line)}
    {b s l : Option (List (Row Dec))} {ft cf : Option (List (Nat × Dec))} (pf : Option γ)
    (h1 : readSolution text = some sol) (h2 : toBlocks text = bs)
    (hb : readSection ng c!"!BOUNDARY" parseBLine readBLineG bs = some b)
    (hs : readSection ng c!"!SPRING" parseDLine readDLineG bs = some s)
    (hl : readSection ng c!"!CLOAD" parseDLine readDLineG bs = some l)
    (hft : readSection ng c!"!FIXTEMP" parseSLine some bs = some ft)
    (hcf : readSection ng c!"!CFLUX" parseSLine some bs = some cf)
    (hty : ((blocksOf c!"!CFLUX" bs).filterMap fun b => capture c!"TYPE=" b.1) = optL pf fun _ => [c!"PURE"]) :
    readCnt ng text = some (if pf.isNone then ⟨sol, b, s, l, ft, cf, none⟩ else ⟨sol, b, s, l, ft, none, cf⟩) := by
  subst h2
  rw [readCnt, h1]
  dsimp only
  rw [hb, hs, hl, hft, hcf, hty]
  cases pf <;> cases cf <;> rfl

end Femio.Fistr.CntFile

namespace Femio.C03
open Femio.Fistr Cnt Numeral

theorem isPrefix_append (k s : List Char) : isPrefix k (k ++ s) = true := by
  induction k with
  | nil => rfl
  | cons a k ih => simp [isPrefix, ih]

theorem capture_skip (key : List Char) (c : Char) (t : List Char) (h : isPrefix key (c :: t) = false) :
    capture key (c :: t) = capture key t := by
  rw [capture, if_neg fun hh => by rw [h] at hh; exact Bool.noConfusion hh.1]

theorem capture_hit (key s : List Char) (hne : s ≠ []) (hs : ∀ c ∈ s, isWord c = true) : capture key (key ++ s) = some s := by
  have hd : (key ++ s).drop key.length = s := List.drop_left
  have htw : s.takeWhile isWord = s := (span_all isWord s hs).1
  cases h : key ++ s with
  | nil => exact absurd (List.append_eq_nil_iff.mp h).2 hne
  | cons c t => rw [capture, ← h, isPrefix_append, hd, htw, if_pos ⟨rfl, hne⟩]

open Femio.Fistr.CntFile

theorem readBLineG_written (o : Option (List (Row Sci))) :
    ∀ l ∈ optL o boundaryRows, readBLineG (decB l) = some (readBLine (decB l)) := by
  intro l hl
  obtain ⟨t, -, hl⟩ := (mem_optL _ _ _).mp hl
  obtain ⟨c, hc, rfl⟩ := List.mem_map.mp hl
  exact if_neg (Nat.ne_of_gt ((mem_gen_iff_presc _ _ _).mp hc).1.one_le)

theorem readDLineG_of (l : DLine Dec) (h1 : 1 ≤ l.dof) (h3 : l.dof ≤ 3) : readDLineG l = some (readDLine l) :=
  if_neg (by omega)

theorem readDLineG_cload_written (o : Option (List (Row Sci))) (hw : ∀ t, o = some t → ∀ r ∈ t, r.2.length = 3) :
    ∀ l ∈ optL o cloadRows, readDLineG (decD l) = some (readDLine (decD l)) := by
  intro l hl
  obtain ⟨t, ho, hl⟩ := (mem_optL _ _ _).mp hl
  obtain ⟨c, hc, rfl⟩ := List.mem_map.mp hl
  have hp := ((mem_gen_iff_presc _ _ _).mp hc).1
  exact readDLineG_of _ hp.one_le (hp.dof_le (hw t ho))

theorem readDLineG_spring_written (o : Option (List (Row Sci))) (hw : ∀ t, o = some t → ∀ r ∈ t, r.2.length = 3) :
    ∀ l ∈ optL o springRows, readDLineG (decD l) = some (readDLine (decD l)) := by
  intro l hl
  obtain ⟨t, ho, hl⟩ := (mem_optL _ _ _).mp hl
  have hp := (mem_springRows t l).mp hl
  exact readDLineG_of _ hp.one_le (hp.dof_le (hw t ho))

/-- a scalar section (`fixtemp`, `cflux`, `pure_cflux`) read back: not given ↦ absent, no rows ↦ absent, otherwise
    the same (node id, value) list in the same order with the exact decimal values of `%.12E` -/
def scalarKept (o : Option (List (Nat × Sci))) (o' : Option (List (Nat × Dec))) : Prop :=
  (o = none → o' = none) ∧
  ∀ t, o = some t → (t = [] → o' = none) ∧ (t ≠ [] → o' = some (t.map fun r => (r.1, r.2.toDec 12)))

theorem scalarKept_expected (o : Option (List (Nat × Sci))) : scalarKept o (o.bind fun t => nonemptyOr (t.map decS)) := by
  cases o with
  | none => exact ⟨fun _ => rfl, fun _ h => (nomatch h)⟩
  | some t =>
    refine ⟨fun h => (nomatch h), fun t' h => ?_⟩
    cases h
    exact ⟨fun h => by subst h; rfl, fun h => nonemptyOr_of_ne _ (mt List.map_eq_nil_iff.mp h)⟩

end Femio.C03
