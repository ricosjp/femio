import Femio.Model.FistrCntHist
import Femio.Model.FistrCntGroups
import Femio.Lemmas.FistrMshProps

/-! Lemmas for C03 beyond the single written file: an object written as constructed shows the writer the input it was
constructed from, whichever representation is read; the lines of an `!NGROUP` block parse back to their chunks. -/
namespace Femio.C03
open Femio.Fistr Cnt Numeral

theorem zip_map_fst_snd {α β : Type} (l : List (α × β)) : (l.map (·.1)).zip (l.map (·.2)) = l :=
  (List.zip_of_prod rfl rfl).symm

theorem rows_fresh {ρ : Type} (rows : List (Nat × ρ)) : (AttrSt.fresh rows).rows = rows := zip_map_fst_snd rows
theorem frameRows_fresh {ρ : Type} (rows : List (Nat × ρ)) : (AttrSt.fresh rows).frameRows = rows := zip_map_fst_snd rows

theorem optmap_fresh {ρ : Type} (g : AttrSt ρ → List (Nat × ρ)) (hg : ∀ rows, g (AttrSt.fresh rows) = rows)
    (o : Option (List (Nat × ρ))) : (o.map AttrSt.fresh).map g = o := by
  cases o with
  | none => rfl
  | some t => simp only [Option.map_some, hg]

/-- the view of an object that is written as constructed is the input it was constructed from - whichever of the two
    representations the writer reads -/
theorem view_fresh (cfg : HistCfg) (c : CntIn) : (ObjSt.fresh c).view cfg = c := by
  obtain ⟨fa⟩ := cfg
  cases fa <;>
    simp only [ObjSt.view, ObjSt.fresh, optmap_fresh _ rows_fresh, optmap_fresh _ frameRows_fresh, if_true, if_false,
      Bool.false_eq_true]

theorem sameLengths_of_forall (k : Nat) (chunks : List (List Nat)) (h : ∀ c ∈ chunks, c.length = k) :
    sameLengths chunks = true := by
  cases chunks with
  | nil => rfl
  | cons r t =>
    simp only [sameLengths, List.all_eq_true, beq_iff_eq]
    intro x hx
    rw [h x (List.mem_cons_of_mem _ hx), h r (by simp)]

theorem ngBlock_mapM (chunks : List (List Nat)) (hne : ∀ c ∈ chunks, c ≠ []) :
    (chunks.map renderNatRow).mapM parseRowI = some chunks :=
  mapM_map_eq_some_self renderNatRow parseRowI chunks fun c hc => parseRowI_natRow c (hne c hc)

end Femio.C03
