import Femio.Model.Cnt
import Mathlib.Logic.Basic
import Femio.Model.FistrCnt

open Cnt
variable {V : Type}

theorem mem_gen (width : Nat) (t : List (Row V)) (i d : Nat) (x : V) :
    (i, d, x) ∈ genConstraints width t ↔ ∃ r ∈ t, r.1 = i ∧ 1 ≤ d ∧ d ≤ width ∧ r.2[d - 1]? = some (some x) := by
  simp only [genConstraints, List.mem_flatMap, List.mem_range, List.mem_filterMap]
  constructor
  · rintro ⟨k, hk, r, hr, h⟩
    rcases hc : r.2[k]? with _ | _ | y <;> rw [hc] at h <;> cases h
    exact ⟨r, hr, rfl, Nat.le_add_left 1 k, hk, hc⟩
  · rintro ⟨r, hr, rfl, h1, h2, hc⟩
    refine ⟨d - 1, by omega, r, hr, ?_⟩
    rw [hc, Nat.sub_add_cancel h1]

theorem mem_gen_iff_presc (w : Nat) (t : List (Row V)) (p : Nat × Nat × V) :
    p ∈ genConstraints w t ↔ Presc t p ∧ p.2.1 ≤ w := by
  rw [mem_gen]
  exact ⟨fun ⟨r, hr, h0, h1, h2, hc⟩ => ⟨⟨r, hr, h0, h1, hc⟩, h2⟩,
    fun ⟨⟨r, hr, h0, h1, hc⟩, h2⟩ => ⟨r, hr, h0, h1, h2, hc⟩⟩

theorem Cnt.Presc.one_le {t : List (Row V)} {p : Nat × Nat × V} (h : Presc t p) : 1 ≤ p.2.1 := h.elim fun _ h => h.2.2.1

theorem Cnt.Presc.dof_le {t : List (Row V)} {p : Nat × Nat × V} {w : Nat} (h : Presc t p) (hw : ∀ r ∈ t, r.2.length = w) :
    p.2.1 ≤ w := by
  obtain ⟨r, hr, -, h1, hc⟩ := h
  have := (List.getElem?_eq_some_iff.mp hc).1
  rw [hw r hr] at this
  omega

theorem getElem?_map_range {β} (f : Nat → β) (n k : Nat) :
    ((List.range n).map f)[k]? = if k < n then some (f k) else none := by
  by_cases h : k < n
  · rw [List.getElem?_map, List.getElem?_range h, if_pos h]; rfl
  · rw [List.getElem?_eq_none (by simpa using h), if_neg h]

theorem presc_readBLine (l : BLine V) (p : Nat × Nat × V) :
    Presc [readBLine l] p ↔ (p.1 = l.id ∧ l.first ≤ p.2.1 ∧ p.2.1 ≤ l.last ∧ 1 ≤ p.2.1 ∧ p.2.1 ≤ 3 ∧ p.2.2 = l.val) := by
  obtain ⟨i, d, x⟩ := p
  simp only [Presc, List.mem_singleton, exists_eq_left, readBLine, getElem?_map_range, Option.ite_none_right_eq_some,
    Option.some.injEq]
  rcases d with _ | k
  · exact ⟨fun h => absurd h.2.1 (by decide), fun h => absurd h.2.2.2.1 (by decide)⟩
  · simp only [Nat.add_sub_cancel, Nat.sub_le_iff_le_add, Nat.add_one_le_iff]
    exact ⟨fun ⟨h0, _, h2, ⟨h3, h4⟩, h5⟩ => ⟨h0.symm, h3, h4, Nat.succ_pos k, h2, h5.symm⟩,
      fun ⟨h0, h1, h2, _, h4, h5⟩ => ⟨h0.symm, Nat.succ_pos k, h4, ⟨h1, h2⟩, h5.symm⟩⟩

theorem presc_map {α : Type} (f : α → Row V) (ls : List α) (p : Nat × Nat × V) :
    Presc (ls.map f) p ↔ ∃ l ∈ ls, Presc [f l] p := by
  simp only [Presc, List.mem_map, List.mem_singleton]
  constructor
  · rintro ⟨r, ⟨l, hl, rfl⟩, h⟩; exact ⟨l, hl, _, rfl, h⟩
  · rintro ⟨l, hl, r, rfl, h⟩; exact ⟨_, ⟨l, hl, rfl⟩, h⟩

theorem presc_read_triples (cs : List (Nat × Nat × V)) (p : Nat × Nat × V) :
    Presc (cs.map fun c => readBLine ⟨c.1, c.2.1, c.2.1, c.2.2⟩) p ↔ p ∈ cs ∧ 1 ≤ p.2.1 ∧ p.2.1 ≤ 3 := by
  simp only [presc_map, presc_readBLine]
  constructor
  · rintro ⟨c, hc, h0, h1, h2, h3, h4, h5⟩
    obtain rfl : p = c := Prod.ext h0 (Prod.ext (Nat.le_antisymm h2 h1) h5)
    exact ⟨hc, h3, h4⟩
  · rintro ⟨hc, h3, h4⟩
    exact ⟨p, hc, rfl, Nat.le_refl _, Nat.le_refl _, h3, h4, rfl⟩

theorem readDLine_eq (l : DLine V) (h : 1 ≤ l.dof) : readDLine l = readBLine ⟨l.id, l.dof, l.dof, l.val⟩ :=
  congrArg (Prod.mk l.id) (List.map_congr_left fun k _ =>
    if_congr (show k = l.dof - 1 ↔ l.dof - 1 ≤ k ∧ k < l.dof by omega) rfl rfl)

theorem presc_read_gen (w : Nat) (t : List (Row V)) (p : Nat × Nat × V) :
    Presc ((genConstraints w t).map fun c => readBLine ⟨c.1, c.2.1, c.2.1, c.2.2⟩) p ↔
      Presc t p ∧ p.2.1 ≤ w ∧ p.2.1 ≤ 3 := by
  rw [presc_read_triples, mem_gen_iff_presc]
  exact ⟨fun ⟨⟨h, hw⟩, _, h3⟩ => ⟨h, hw, h3⟩, fun ⟨h, hw, h3⟩ => ⟨⟨h, hw⟩, h.one_le, h3⟩⟩

/-- table level (`Cnt.writeBoundary`: one single-dof line per constraint): writing a boundary table and reading it back
    denotes exactly the same set of (node, dof, value) prescriptions, for every NaN pattern and node subset (3 dofs);
    for the rows `write_cnt` prints see `C03_boundary_roundtrip` -/
theorem boundary_roundtrip (t : List (Row V)) (hw : ∀ r ∈ t, r.2.length = 3) (p : Nat × Nat × V) :
    Presc (readBoundary (writeBoundary t)) p ↔ Presc t p := by
  rw [readBoundary, writeBoundary, List.map_map]
  exact (presc_read_gen 3 t p).trans ⟨fun h => h.1, fun h => ⟨h, h.dof_le hw, h.dof_le hw⟩⟩

/-- a condition on a node-group name denotes exactly the prescriptions of the same condition listed for each member
    (the reordering done by the reader is immaterial) -/
theorem group_expansion (groups : Nat → List Nat) (ls : List (GLine V)) (p : Nat × Nat × V) :
    Presc (readBoundary (extend groups ls)) p ↔ Presc (readBoundary (explicit groups ls)) p := by
  have hmem : ∀ b : BLine V, b ∈ extend groups ls ↔ b ∈ explicit groups ls := fun b => by
    simp only [extend, explicit, List.mem_append, List.mem_flatMap, List.mem_filterMap, ← exists_or, ← and_or_left]
    refine exists_congr fun l => and_congr_right fun _ => ?_
    cases l.target <;> simp [eq_comm]
  simp only [readBoundary, presc_map, hmem]

theorem presc_mapTable {W} (f : V → W) (t : List (Row V)) (p : Nat × Nat × W) :
    Presc (t.map fun r => (r.1, r.2.map (Option.map f))) p ↔ ∃ x, Presc t (p.1, p.2.1, x) ∧ f x = p.2.2 := by
  obtain ⟨i, d, y⟩ := p
  constructor
  · rintro ⟨_, hr', h0, h1, hc⟩
    obtain ⟨r, hr, rfl⟩ := List.mem_map.mp hr'
    rw [List.getElem?_map] at hc
    rcases hr2 : r.2[d - 1]? with _ | _ | x <;> rw [hr2] at hc <;> cases hc
    exact ⟨x, ⟨r, hr, h0, h1, hr2⟩, rfl⟩
  · rintro ⟨x, ⟨r, hr, h0, h1, hc⟩, rfl⟩
    exact ⟨_, List.mem_map_of_mem hr, h0, h1, by rw [List.getElem?_map, hc]; rfl⟩

theorem map_cells {W} (f : V → W) (P : Nat → Prop) [DecidablePred P] (x : V) (ks : List Nat) :
    (ks.map fun k => if P k then some x else none).map (Option.map f) =
      ks.map fun k => if P k then some (f x) else none := by
  rw [List.map_map]
  congr 1
  funext k
  simp only [Function.comp]
  split <;> rfl

theorem readBLine_map {W} (f : V → W) (l : BLine V) :
    readBLine ⟨l.id, l.first, l.last, f l.val⟩ = ((readBLine l).1, (readBLine l).2.map (Option.map f)) :=
  congrArg (Prod.mk l.id) (map_cells f _ l.val _).symm

theorem readDLine_map {W} (f : V → W) (l : DLine V) :
    readDLine ⟨l.id, l.dof, f l.val⟩ = ((readDLine l).1, (readDLine l).2.map (Option.map f)) :=
  congrArg (Prod.mk l.id) (map_cells f _ l.val _).symm

theorem presc_map_rows {α W} (f : V → W) (rd : α → Row V) (rd' : α → Row W)
    (hrd : ∀ a, rd' a = ((rd a).1, (rd a).2.map (Option.map f))) (rows : List α) (t : List (Row V))
    (h : ∀ q, Presc (rows.map rd) q ↔ Presc t q) (p : Nat × Nat × W) :
    Presc (rows.map rd') p ↔ Presc (t.map fun r => (r.1, r.2.map (Option.map f))) p := by
  have e : rows.map rd' = (rows.map rd).map fun r => (r.1, r.2.map (Option.map f)) := by
    rw [List.map_map]
    exact List.map_congr_left fun a _ => hrd a
  simp only [e, presc_mapTable, h]

#print axioms boundary_roundtrip
#print axioms group_expansion

namespace Femio.C03
open Femio.Fistr Cnt Numeral

theorem tableWidth_eq (t : List (Row V)) (w : Nat) (hw : ∀ r ∈ t, r.2.length = w) (hne : t ≠ []) : tableWidth t = w := by
  cases t with
  | nil => exact absurd rfl hne
  | cons r _ => exact hw r (by simp)

theorem mem_springRows (t : List (Row V)) (l : DLine V) : l ∈ springRows t ↔ Presc t (l.id, l.dof, l.val) := by
  simp only [springRows, List.mem_flatMap, List.mem_filterMap, List.mem_range, Presc]
  constructor
  · rintro ⟨r, hr, k, hk, h⟩
    rcases hc : r.2[k]? with _ | _ | y <;> rw [hc] at h <;> cases h
    exact ⟨r, hr, rfl, Nat.le_add_left 1 k, hc⟩
  · rintro ⟨r, hr, h0, h1, hc⟩
    refine ⟨r, hr, l.dof - 1, (List.getElem?_eq_some_iff.mp hc).1, ?_⟩
    rw [hc, Nat.sub_add_cancel h1, h0]

theorem presc_boundaryRows (t : List (Row V)) (w : Nat) (hw : ∀ r ∈ t, r.2.length = w) (p : Nat × Nat × V) :
    Presc ((boundaryRows t).map readBLine) p ↔ Presc t p ∧ p.2.1 ≤ 3 := by
  rw [boundaryRows, List.map_map]
  refine (presc_read_gen _ t p).trans (and_congr_right fun h => and_iff_right ?_)
  rw [tableWidth_eq t w hw (h.elim fun r hr => List.ne_nil_of_mem hr.1)]
  exact h.dof_le hw

theorem cloadRows_read (t : List (Row V)) : (cloadRows t).map readDLine = (boundaryRows t).map readBLine := by
  rw [cloadRows, boundaryRows, List.map_map, List.map_map]
  exact List.map_congr_left fun c hc => readDLine_eq _ ((mem_gen_iff_presc _ _ _).mp hc).1.one_le

/-- the prescriptions of an optional section: an absent section prescribes nothing -/
def prescOpt {W : Type} (o : Option (List (Row W))) (p : Nat × Nat × W) : Prop := ∃ t, o = some t ∧ Presc t p

theorem prescOpt_nonemptyOr {W : Type} (l : List (Row W)) (p : Nat × Nat × W) : prescOpt (nonemptyOr l) p ↔ Presc l p := by
  cases l with
  | nil => exact ⟨fun ⟨_, h, _⟩ => (nomatch h), fun ⟨_, h, _⟩ => (nomatch h)⟩
  | cons a t => exact ⟨fun ⟨_, h, hp⟩ => Option.some.inj h ▸ hp, fun hp => ⟨_, rfl, hp⟩⟩

end Femio.C03
