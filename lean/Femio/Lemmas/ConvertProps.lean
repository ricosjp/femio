import Femio.Model.Convert
import Femio.Lemmas.CoreProps
import Femio.Lemmas.LinAlg

/-! Helper lemmas for C14 (`Femio/Props/C14.lean`): bridges from the list-based executable model of
    `Femio/Model/Convert.lean` to `Finset` sums, and the algebra of the two weightings. -/
namespace Femio.C14
open Core

theorem mapM_eq_some_map {α β : Type} (f : α → Option β) (g : α → β) (l : List α) (h : ∀ i ∈ l, f i = some (g i)) :
    l.mapM f = some (l.map g) := by
  induction l with
  | nil => rfl
  | cons a t ih => simp [List.mapM_cons, h a, ih fun i hi => h i (List.mem_cons_of_mem _ hi)]

/-- gathering the values of an element's own nodes, when the nodal column is a function of the id -/
theorem gatherVals_of_fun {R : Type} (nodeIds conn : List Nat) (g : Nat → R) (hconn : ∀ i ∈ conn, i ∈ nodeIds) :
    gatherVals nodeIds (nodeIds.map g) conn = some (conn.map g) := by
  refine mapM_eq_some_map _ g conn fun a ha => ?_
  obtain ⟨k, hk⟩ := idPos_of_mem (hconn a ha)
  obtain ⟨hlt, hget⟩ := idPos_some hk
  rw [hk, Option.bind_some, List.getElem?_map, List.getElem?_eq_getElem hlt, hget]
  rfl

/-- an id that is not a node id makes the gather fail -/
theorem gatherVals_none {R : Type} (nodeIds : List Nat) (vals : List R) (conn : List Nat)
    (h : ∃ i ∈ conn, i ∉ nodeIds) : gatherVals nodeIds vals conn = none := by
  unfold gatherVals
  induction conn with
  | nil => simp at h
  | cons a t ih =>
    by_cases ha : a ∈ nodeIds
    · have ht : ∃ i ∈ t, i ∉ nodeIds := by
        obtain ⟨i, hi, hni⟩ := h
        rcases List.mem_cons.mp hi with rfl | hi'
        · exact absurd ha hni
        · exact ⟨i, hi', hni⟩
      simp [List.mapM_cons, ih ht]
    · have : idPos nodeIds a = none := by
        cases hp : idPos nodeIds a with
        | none => rfl
        | some k => obtain ⟨hk, hget⟩ := idPos_some hp; exact absurd (hget ▸ List.getElem_mem hk) ha
      simp [List.mapM_cons, this]

section Field
variable {K : Type} [Field K]

theorem sumTo_eq_sum (n : Nat) (f : Nat → K) : sumTo n f = ∑ j ∈ Finset.range n, f j := by
  unfold sumTo
  induction n with
  | zero => simp
  | succ k ih => rw [List.range_succ, List.map_append, List.sum_append, ih, Finset.sum_range_succ]; simp

/-- the row sum of `metricInc` is the total size of the touching elements -/
theorem sumTo_metricInc (e : Nat) (inc : Nat → Nat → Bool) (m : Nat → K) (i : Nat) :
    sumTo e (metricInc inc m i) = ∑ j ∈ (Finset.range e).filter (fun j => inc i j = true), m j := by
  rw [sumTo_eq_sum, Finset.sum_filter]; rfl

/-- the column sum of the 0/1 incidence is the number of nodes of the element -/
theorem sumTo_ind (n : Nat) (inc : Nat → Nat → Bool) (j : Nat) :
    sumTo n (fun k => (ind (inc k j) : K)) = (((Finset.range n).filter (fun k => inc k j = true)).card : K) := by
  rw [sumTo_eq_sum, Finset.natCast_card_filter]; rfl

theorem meanWeight_eq_div (e : Nat) (inc : Nat → Nat → Bool) (m : Nat → K) (i j : Nat) :
    meanWeight e inc m i j = metricInc inc m i j / sumTo e (metricInc inc m i) := by
  unfold meanWeight; rw [mul_one_div]

theorem effWeight_eq_div (n : Nat) (inc : Nat → Nat → Bool) (i j : Nat) :
    (effWeight n inc i j : K) = ind (inc i j) / sumTo n (fun k => (ind (inc k j) : K)) := by
  unfold effWeight; rw [mul_one_div]

/-- weights `a j / Σ a` sum to one: the shape of a row of the 'mean' matrix and of a column of the 'effective' matrix -/
theorem sumTo_mul_one_div (n : Nat) (a : Nat → K) (h : sumTo n a ≠ 0) :
    sumTo n (fun j => a j * (1 / sumTo n a)) = 1 := by
  rw [sumTo_eq_sum, ← Finset.sum_mul, ← sumTo_eq_sum, mul_one_div, div_self h]

theorem sumTo_meanWeight (e : Nat) (inc : Nat → Nat → Bool) (m : Nat → K) (i : Nat)
    (h : sumTo e (metricInc inc m i) ≠ 0) : sumTo e (meanWeight e inc m i) = 1 :=
  sumTo_mul_one_div e (metricInc inc m i) h

theorem sumTo_effWeight (n : Nat) (inc : Nat → Nat → Bool) (j : Nat)
    (h : sumTo n (fun k => (ind (inc k j) : K)) ≠ 0) : sumTo n (fun i => (effWeight n inc i j : K)) = 1 :=
  sumTo_mul_one_div n (fun k => ind (inc k j)) h

/-- a non-zero row sum is all that 'mean' needs to reproduce a constant -/
theorem e2nMean_const (e : Nat) (inc : Nat → Nat → Bool) (m : Nat → K) (i : Nat) (c : K)
    (h : sumTo e (metricInc inc m i) ≠ 0) : e2nMean e inc m (fun _ => c) i = c := by
  unfold e2nMean
  rw [sumTo_eq_sum, ← Finset.sum_mul, ← sumTo_eq_sum, sumTo_meanWeight e inc m i h, one_mul]

/-- a non-empty column has a non-zero node count (characteristic 0) -/
theorem sumTo_ind_ne_zero [CharZero K] (n : Nat) (inc : Nat → Nat → Bool) (j : Nat)
    (h : ∃ i < n, inc i j = true) : sumTo n (fun k => (ind (inc k j) : K)) ≠ 0 := by
  rw [sumTo_ind]
  obtain ⟨i, hi, hij⟩ := h
  exact Nat.cast_ne_zero.2 (Finset.card_ne_zero.2 ⟨i, Finset.mem_filter.2 ⟨Finset.mem_range.2 hi, hij⟩⟩)

/-- grand total of the 'effective' conversion, from `effective_total` of `Lemmas/LinAlg.lean` -/
theorem sumTo_e2nEffective (n e : Nat) (inc : Nat → Nat → Bool) (x : Nat → K)
    (h : ∀ j < e, sumTo n (fun k => (ind (inc k j) : K)) ≠ 0) :
    sumTo n (fun i => e2nEffective n e inc x i) = sumTo e x := by
  simp only [e2nEffective, effWeight_eq_div, sumTo_eq_sum] at h ⊢
  exact effective_total _ _ (fun k j => (ind (inc k j) : K)) x fun j hj => h j (Finset.mem_range.1 hj)

end Field

section Ordered
variable {K : Type} [Field K] [LinearOrder K] [IsStrictOrderedRing K]

/-- positive sizes on the touching elements and at least one touching element: positive row sum -/
theorem sumTo_metricInc_pos (e : Nat) (inc : Nat → Nat → Bool) (m : Nat → K) (i : Nat)
    (hm : ∀ j < e, inc i j = true → 0 < m j) (ht : ∃ j < e, inc i j = true) :
    0 < sumTo e (metricInc inc m i) := by
  rw [sumTo_metricInc]
  obtain ⟨j, hj, hij⟩ := ht
  apply Finset.sum_pos
  · intro k hk
    rw [Finset.mem_filter, Finset.mem_range] at hk
    exact hm k hk.1 hk.2
  · exact ⟨j, Finset.mem_filter.2 ⟨Finset.mem_range.2 hj, hij⟩⟩

theorem meanWeight_nonneg (e : Nat) (inc : Nat → Nat → Bool) (m : Nat → K) (i : Nat)
    (hm : ∀ j < e, inc i j = true → 0 < m j) (ht : ∃ j < e, inc i j = true) (j : Nat) (hj : j < e) :
    0 ≤ meanWeight e inc m i j := by
  rw [meanWeight_eq_div]
  apply div_nonneg _ (sumTo_metricInc_pos e inc m i hm ht).le
  unfold metricInc
  split
  · rename_i h; exact (hm j hj h).le
  · exact le_refl _

end Ordered

end Femio.C14
