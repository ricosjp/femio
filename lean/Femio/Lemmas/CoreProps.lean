import Femio.Model.Core
import Femio.Lemmas.InsertionSort
import Femio.Lemmas.ListLemmas
import Mathlib.Tactic.Linarith

open Core

theorem idPos_eq (ids : List Id) (i : Id) : idPos ids i = ids.idxOf? i :=
  eq_idxOf? idPos (fun _ => rfl) (fun _ _ _ => rfl) ids i

theorem idPos_some {ids : List Id} {i : Id} {k : Nat} (h : idPos ids i = some k) :
    ∃ hk : k < ids.length, ids[k] = i :=
  let ⟨hk, e, _⟩ := List.idxOf?_eq_some_iff.mp (idPos_eq ids i ▸ h)
  ⟨hk, e⟩

theorem idPos_of_mem {ids : List Id} {i : Id} (h : i ∈ ids) : ∃ k, idPos ids i = some k :=
  idPos_eq ids i ▸ Option.isSome_iff_exists.mp (List.isSome_idxOf?.mpr h)

/-- with distinct ids the position map inverts indexing -/
theorem idPos_get {ids : List Id} (hn : ids.Nodup) (k : Nat) (hk : k < ids.length) :
    idPos ids ids[k] = some k :=
  (idPos_eq ids _).trans (idxOf?_getElem hn k hk)

theorem elemPos_get {flat : List Elem} (hn : (flat.map Elem.id).Nodup) (k : Nat) (hk : k < flat.length) :
    elemPos flat flat[k].id = some k := by
  have := idPos_get hn k (by simpa using hk)
  rwa [List.getElem_map] at this

/-- the sort of `_update_self` is insertion sort by id -/
theorem sortElems_eq (l : List Elem) : sortElems l = l.insertionSort fun a b => a.id ≤ b.id :=
  foldr_eq_insertionSort _ insertElem (fun _ => rfl) (fun _ _ _ => rfl) l

theorem sortElems_perm (l : List Elem) : (sortElems l).Perm l :=
  sortElems_eq l ▸ List.perm_insertionSort _ l

theorem sortElems_sorted (l : List Elem) : (sortElems l).Pairwise (fun a b => a.id ≤ b.id) := by
  rw [sortElems_eq]
  exact pairwise_insertionSort_of_test (R := fun a b => a.id ≤ b.id) (fun _ _ _ => Nat.le_trans) (fun _ _ h => h)
    (fun _ _ h => Nat.le_of_not_le h) l

theorem flatten_perm (blocks : List (List Elem)) : (flatten blocks).Perm blocks.flatten := by
  unfold flatten
  split
  · simp
  · exact sortElems_perm _

/-- C13, uniform and mixed branch at once: with distinct node ids and distinct element
    ids, `(i, j)` is an entry iff the node stored at position `i` belongs to the `j`-th element of the
    flattened (id-sorted when mixed) element list. -/
theorem incidence_spec (nodeIds : List Id) (blocks : List (List Elem))
    (hn : nodeIds.Nodup) (he : (blocks.flatten.map Elem.id).Nodup) (i j : Nat) :
    (i, j) ∈ incidence nodeIds blocks ↔
      ∃ (hi : i < nodeIds.length) (hj : j < (flatten blocks).length), nodeIds[i] ∈ ((flatten blocks)[j]).conn := by
  have hperm := flatten_perm blocks
  have hnd : ((flatten blocks).map Elem.id).Nodup := (hperm.map Elem.id).nodup_iff.mpr he
  unfold incidence
  simp only [List.mem_flatMap]
  constructor
  · rintro ⟨e, hemem, hmem⟩
    cases hpos : elemPos (flatten blocks) e.id with
    | none => simp [hpos] at hmem
    | some j' =>
      simp only [hpos, List.mem_filterMap, Option.map_eq_some_iff] at hmem
      obtain ⟨n, hnconn, i', hi', hpair⟩ := hmem
      cases hpair
      obtain ⟨hi, rfl⟩ := idPos_some hi'
      obtain ⟨hj, hid⟩ := idPos_some hpos
      rw [List.length_map] at hj
      -- the `j`-th flattened element has the id of `e`, hence is `e`
      have heq : (flatten blocks)[j] = e :=
        List.inj_on_of_nodup_map hnd (List.getElem_mem hj) (hperm.symm.subset hemem) (by simpa using hid)
      exact ⟨hi, hj, heq ▸ hnconn⟩
  · rintro ⟨hi, hj, hmem⟩
    refine ⟨(flatten blocks)[j], hperm.subset (List.getElem_mem hj), ?_⟩
    simp only [elemPos_get hnd j hj, List.mem_filterMap, Option.map_eq_some_iff]
    exact ⟨nodeIds[i], hmem, i, idPos_get hn i hi, rfl⟩

#print axioms incidence_spec
