import Femio.Lemmas.TensorLemmas
import Femio.Lemmas.LinAlg

/-! Orthonormal eigen-systems of a 3×3 matrix as a predicate (`IsEigh`, what `np.linalg.eigh` promises) and what follows from it:
    `V diag(w) Vᵀ` rebuilds the matrix, also with the frame reversed and its third vector re-created as a cross product; the
    strain inversion through Mathlib's matrices; the coordinate axes as eigen-system of a diagonal matrix.  Component orders
    are permutations of `Fin 6` read as index lists (`ordList`). -/
namespace Femio.C17
open Femio.Tensor Femio.Gradient V3 Femio.Gen
variable {K : Type} [Field K]

def ordList (σ : Equiv.Perm (Fin 6)) : List Nat := List.ofFn fun k => ((σ k : Fin 6) : Nat)
theorem ordList_length (σ : Equiv.Perm (Fin 6)) : (ordList σ).length = 6 := List.length_ofFn
theorem gather_ordList (σ : Equiv.Perm (Fin 6)) (f : Fin 6 → K) :
    gather (ordList σ) (List.ofFn f) = List.ofFn fun k => f (σ k) := by
  rw [gather, ordList, List.map_ofFn]
  congr 1
  funext k
  show (List.ofFn f).getD (σ k) 0 = _
  rw [List.getD_eq_getElem?_getD, List.getElem?_ofFn, dif_pos (σ k).isLt]
  rfl

theorem gather_perm (σ : Equiv.Perm (Fin 6)) (a : List K) (ha : a.length = 6) :
    gather (ordList σ⁻¹) (gather (ordList σ) a) = a := by
  obtain ⟨f, rfl⟩ : ∃ f : Fin 6 → K, a = List.ofFn f :=
    ha ▸ (⟨fun i => a[i], List.ofFn_getElem.symm⟩ : ∃ f : Fin a.length → K, a = List.ofFn f)
  rw [gather_ordList, gather_ordList]
  simp only [Equiv.Perm.coe_inv, Equiv.apply_symm_apply]

/-- the post-condition of `np.linalg.eigh(A) = (w, V)`: the columns of `V` are orthonormal eigenvectors -/
structure IsEigh (A : M3 K) (w : V3 K) (V : M3 K) : Prop where
  eig : mmul A V = mmul V (diag3 w)
  orth : mmul (transpose V) V = one3

theorem IsEigh.rebuild {A : M3 K} {w : V3 K} {V : M3 K} (h : IsEigh A w V) :
    mmul (mmul V (diag3 w)) (transpose V) = A := by
  rw [← h.eig, mmul_assoc, orth_comm h.orth, mmul_one]

/-- the generated tables lay `[λ0, λ1, λ2, 0, 0, 0]` out as `diag3 vals`, by evaluation -/
theorem fromEigens_closed (vals d0 d1 d2 : V3 K) :
    fromEigens vals d0 d1 d2 = mmul (mmul (ofCols d0 d1 d2) (diag3 vals)) (transpose (ofCols d0 d1 d2)) := rfl

theorem madd_perm' (X Y Z : M3 K) : madd (madd X Y) Z = madd (madd Y X) Z := by
  rw [madd_comm X Y]

/-- `Σ_k value_k d_k d_kᵀ` with the values and directions taken in reverse order and the third direction overwritten by
    `d0 × d1` is still `V diag(u) Vᵀ` -/
theorem fromEigens_principal {V : M3 K} (h : mmul (transpose V) V = one3) (u : V3 K) :
    fromEigens ⟨u.z, u.y, u.x⟩ (col2 V) (col1 V) (cross (col2 V) (col1 V))
      = mmul (mmul V (diag3 u)) (transpose V) := by
  rw [fromEigens_closed, rebuild_cross (orth_rev h), rebuild_rev, ofCols_cols]

theorem toM3_flat (A : M3 K) : toM3 (flat A) = A := rfl
theorem ordList_one : ordList 1 = defaultOrder := by decide
/-- the other composition, on symmetric matrices: `arr2mat (mat2arr B) = B` -/
theorem mat_arr_default [CharZero K] (eng : Bool) (B : M3 K) (hB : transpose B = B) :
    toM3 (arr2mat defaultOrder eng (mat2arr defaultOrder eng (flat B))) = B := by
  have hl : (gather mat2arrIdx (flat B)).length = 6 := rfl
  unfold arr2mat mat2arr
  cases eng
  · simp only [Bool.false_eq_true, if_false]
    rw [gather_default _ hl, gather_default _ hl, gather_tables_sym B hB, toM3_flat]
  · simp only [if_true]
    rw [gather_default _ (scaleBy_length _ _ rfl hl), gather_default _ (scaleBy_length _ _ rfl hl), (scale_cancel _ hl).2,
      gather_tables_sym B hB, toM3_flat]

theorem IsEigh.matrix_form {A : M3 K} {w : V3 K} {V : M3 K} (h : IsEigh A w V) :
    toMatrix A * toMatrix V = toMatrix V * Matrix.diagonal ![w.x, w.y, w.z]
    ∧ toMatrix V * (toMatrix V).transpose = 1 ∧ (toMatrix V).transpose * toMatrix V = 1 := by
  have hev := congrArg toMatrix h.eig
  have horth := congrArg toMatrix (orth_comm h.orth)
  have horth' := congrArg toMatrix h.orth
  rw [toMatrix_mmul, toMatrix_mmul, toMatrix_diag3] at hev
  rw [toMatrix_mmul, toMatrix_transpose, toMatrix_one] at horth horth'
  exact ⟨hev, horth, horth'⟩

/-- core of `invert_strain`: the answer is the array of a matrix `B` with `(1 + A)(1 + B) = 1` -/
theorem invert_core [CharZero K] (eng : Bool) (a : List K) (w : V3 K) (V : M3 K)
    (h : IsEigh (toM3 (arr2mat defaultOrder eng a)) w V) (hne : 1 + w.x ≠ 0 ∧ 1 + w.y ≠ 0 ∧ 1 + w.z ≠ 0) :
    mmul (madd one3 (toM3 (arr2mat defaultOrder eng a)))
      (madd one3 (toM3 (arr2mat defaultOrder eng (invertStrainPost w V eng)))) = one3 := by
  let g : K → K := fun x => 1 / (1 + x) - 1
  have hr : invertStrainPost w V eng
      = mat2arr defaultOrder eng (flat (mmul (mmul V (diag3 ⟨g w.x, g w.y, g w.z⟩)) (transpose V))) :=
    congrArg (fun M => mat2arr defaultOrder eng (flat M)) (fromEigens_principal h.orth ⟨g w.x, g w.y, g w.z⟩)
  rw [hr, mat_arr_default eng _ (sym_VDVt V _)]
  apply toMatrix_inj
  obtain ⟨hev, horth, horth'⟩ := h.matrix_form
  have key := invert_strain_eq _ _ _ hev horth horth'
    (by intro i; fin_cases i <;> [exact hne.1; exact hne.2.1; exact hne.2.2])
  rw [toMatrix_mmul, toMatrix_madd, toMatrix_madd, toMatrix_one, toMatrix_mmul, toMatrix_mmul, toMatrix_transpose,
    toMatrix_diag3_map w g, add_comm 1 (toMatrix V * _ * _)]
  exact key

/-- if `1 + B` has a left inverse, no eigenvalue `λ` of `B` (w.r.t. an orthonormal eigen-system) has `1 + λ = 0` -/
theorem eig_ne (X B : M3 K) (w : V3 K) (V : M3 K) (h : IsEigh B w V) (hX : mmul X (madd one3 B) = one3) :
    1 + w.x ≠ 0 ∧ 1 + w.y ≠ 0 ∧ 1 + w.z ≠ 0 := by
  have hX' := congrArg toMatrix hX
  rw [toMatrix_mmul, toMatrix_madd, toMatrix_one] at hX'
  have hne := one_add_eig_ne_zero _ _ _ _ h.matrix_form.1 h.matrix_form.2.2 hX'
  exact ⟨hne 0, hne 1, hne 2⟩

theorem isEigh_axes (a : V3 K) {i j k : Nat} (hi : i < 3) (hj : j < 3) (hk : k < 3) (hij : i ≠ j) (hik : i ≠ k)
    (hjk : j ≠ k) : IsEigh (diag3 a) ⟨comp3 a i, comp3 a j, comp3 a k⟩ (ofCols (axis3 i) (axis3 j) (axis3 k)) where
  eig := by rw [mmul_ofCols, mmul_ofCols_diag3, diag3_mulVec_axis3, diag3_mulVec_axis3, diag3_mulVec_axis3]
  orth := by
    rw [gram]
    simp only [dot_axis3 hi, dot_axis3 hj, dot_axis3 hk, if_pos, if_neg hij, if_neg hik, if_neg hjk, if_neg hij.symm,
      if_neg hik.symm, if_neg hjk.symm]
    rfl

theorem diagShortcut_cols_spec (a : V3 K) {i j k : Nat} (hi : i < 3) (hj : j < 3) (hk : k < 3) (hij : i ≠ j) (hik : i ≠ k)
    (hjk : j ≠ k) :
    let p := diagShortcut true a i j k
    fromEigens p.vals p.d0 p.d1 p.d2 = diag3 a
    ∧ mmul (transpose (ofCols p.d0 p.d1 p.d2)) (ofCols p.d0 p.d1 p.d2) = one3
    ∧ det3 (ofCols p.d0 p.d1 p.d2) = 1 := by
  have hE := isEigh_axes a hi hj hk hij hik hjk
  have hii : dot (axis3 i) (axis3 i) = (1 : K) := by rw [dot_axis3 hi, if_pos rfl]
  have hjj : dot (axis3 j) (axis3 j) = (1 : K) := by rw [dot_axis3 hj, if_pos rfl]
  have hd : dot (axis3 i) (axis3 j) = (0 : K) := by rw [dot_axis3 hi, if_neg hij]
  rw [diagShortcut_cols]
  exact ⟨(rebuild_cross hE.orth _).trans hE.rebuild, frame_orth hii hjj hd⟩

end Femio.C17
