import Femio.Lemmas.FistrG3a

/-! G3 (format insensitivity to whitespace) as a WHOLE-FILE theorem for ARBITRARY text:
`G3 t t' → readMsh t = readMsh t'` (and for every repair configuration); the relation contains "blanks around the
commas of data rows" / "blanks after the commas of header lines". -/
namespace Femio.Fistr.G3
open Numeral
open List (Forall₂)

theorem forall₂_filter {α β} {R : α → β → Prop} {p : α → Bool} {q : β → Bool} (hpq : ∀ a b, R a b → p a = q b)
    {l : List α} {l' : List β} (h : Forall₂ R l l') : Forall₂ R (l.filter p) (l'.filter q) := by
  induction h with
  | nil => exact .nil
  | cons hab _ ih =>
    simp only [List.filter_cons, ← hpq _ _ hab]
    split
    · exact .cons hab ih
    · exact ih

theorem forall₂_isEmpty {α β} {R : α → β → Prop} {l : List α} {l' : List β} (h : Forall₂ R l l') :
    l.isEmpty = l'.isEmpty := by cases h <;> rfl

theorem forall₂_any {α β} {R : α → β → Prop} {p : α → Bool} {q : β → Bool} (hpq : ∀ a b, R a b → p a = q b)
    {l : List α} {l' : List β} (h : Forall₂ R l l') : l.any p = l'.any q := by
  induction h with
  | nil => rfl
  | cons hab _ ih => simp only [List.any_cons, hpq _ _ hab, ih]

theorem mapM_congr_same {α β} {R : α → α → Prop} {l l' : List α} (h : Forall₂ R l l')
    (f : α → Option β) (hf : ∀ a b, R a b → f a = f b) : l.mapM f = l'.mapM f := by
  induction h with
  | nil => rfl
  | cons hab _ ih => rw [List.mapM_cons, List.mapM_cons, hf _ _ hab, ih]

/-- both fail, or both succeed with related values -/
def ORel {α β} (S : α → β → Prop) : Option α → Option β → Prop
  | none, none => True
  | some a, some b => S a b
  | _, _ => False

theorem ORel.bind {α β γ δ} {S : α → β → Prop} {T : γ → δ → Prop} {a : Option α} {b : Option β}
    {f : α → Option γ} {g : β → Option δ} (h : ORel S a b) (hfg : ∀ x y, S x y → ORel T (f x) (g y)) :
    ORel T (a.bind f) (b.bind g) := by
  cases a <;> cases b
  · trivial
  · exact h.elim
  · exact h.elim
  · exact hfg _ _ h

theorem ORel.bind_eq {α β γ} {S : α → β → Prop} {a : Option α} {b : Option β} {f : α → Option γ} {g : β → Option γ}
    (h : ORel S a b) (hfg : ∀ x y, S x y → f x = g y) : a.bind f = b.bind g := by
  cases a <;> cases b
  · rfl
  · exact h.elim
  · exact h.elim
  · exact hfg _ _ h

theorem mapM_orel {α α' β β'} {R : α → α' → Prop} {S : β → β' → Prop} {f : α → Option β} {g : α' → Option β'}
    {l : List α} {l' : List α'} (h : Forall₂ R l l') (hfg : ∀ a b, R a b → ORel S (f a) (g b)) :
    ORel (Forall₂ S) (l.mapM f) (l'.mapM g) := by
  induction h with
  | nil => exact Forall₂.nil
  | @cons a b t t' hab _ ih =>
    rw [List.mapM_cons, List.mapM_cons]
    exact (hfg a b hab).bind fun _ _ hxy => ih.bind fun _ _ hs => Forall₂.cons hxy hs

def BlockRel (b b' : Line × List Line) : Prop := HdrRel b.1 b'.1 ∧ Forall₂ DataRel b.2 b'.2

theorem toBlocksAux_rel {t t' : List Line} (h : Forall₂ LineRel t t') :
    Forall₂ DataRel (toBlocksAux t).1 (toBlocksAux t').1 ∧ Forall₂ BlockRel (toBlocksAux t).2 (toBlocksAux t').2 := by
  induction h with
  | nil => exact ⟨.nil, .nil⟩
  | cons hab _ ih =>
    rcases hab with hh | hd
    · have h1 := hh.1
      have h2 := isHeader_right_of_hdr hh
      simp only [toBlocksAux, h1, h2, if_true]
      exact ⟨.nil, .cons ⟨hh, ih.1⟩ ih.2⟩
    · simp only [toBlocksAux, hd.1, hd.2.1, Bool.false_eq_true, if_false]
      exact ⟨.cons hd ih.1, ih.2⟩

theorem ignoreLine_rel {l l' : Line} (h : LineRel l l') : ignoreLine l = ignoreLine l' := by
  rcases h with h | h
  · exact ignoreLine_hdr h
  · exact ignoreLine_data h

theorem toBlocks_rel {t t' : List Line} (h : G3 t t') : Forall₂ BlockRel (toBlocks t) (toBlocks t') := by
  unfold toBlocks
  exact (toBlocksAux_rel (forall₂_filter (fun a b hab => by rw [ignoreLine_rel hab]) h)).2

theorem blocksOf_rel (key : List Char) (hk : keyOK key = true) {bs bs' : List (Line × List Line)}
    (h : Forall₂ BlockRel bs bs') : Forall₂ BlockRel (blocksOf key bs) (blocksOf key bs') :=
  forall₂_filter (fun _ _ hab => hasSub_hdr key hk hab.1) h

theorem blockData_rel {bs bs' : List (Line × List Line)} (h : Forall₂ BlockRel bs bs') :
    Forall₂ DataRel (bs.flatMap (·.2)) (bs'.flatMap (·.2)) :=
  List.rel_flatMap h (fun _ _ hab => hab.2)

/-- one group-name row of an `!INITIAL CONDITION` block, expanded -/
def expandRow (ng : List (Name × List Nat)) (l : Line) : Option (List Line) := do
  let (g, v) ← splitFirst ',' l
  let ids ← lookupS (trim g) ng
  pure (ids.map fun i => showNat i ++ ',' :: v)

theorem extendAssignments_eq (ng : List (Name × List Nat)) (rows : List Line) :
    extendAssignments ng rows =
      if (rows.filter (startsWithP isAlpha)).isEmpty then some rows else
        ((rows.filter (startsWithP isAlpha)).mapM (expandRow ng)).bind fun ex =>
          some (ex.flatten ++ rows.filter (startsWithP isDigit)) := rfl

theorem expandRow_of_none (ng : List (Name × List Nat)) {l : Line} (h : splitFirst ',' l = none) :
    expandRow ng l = none := by
  unfold expandRow; rw [h]; rfl

theorem expandRow_of_some (ng : List (Name × List Nat)) {l g v : List Char} (h : splitFirst ',' l = some (g, v)) :
    expandRow ng l = (lookupS (trim g) ng).map fun ids => ids.map fun i => showNat i ++ ',' :: v := by
  unfold expandRow; rw [h]
  show ((lookupS (trim g) ng).bind fun ids => some (ids.map fun i => showNat i ++ ',' :: v)) = _
  cases lookupS (trim g) ng <;> rfl

theorem dataRel_idRow (i : Nat) {v v' : List Char}
    (h : (splitOn ',' v).map trim = (splitOn ',' v').map trim) :
    DataRel (showNat i ++ ',' :: v) (showNat i ++ ',' :: v') := by
  obtain ⟨c, t, hct, hcd⟩ := showNat_cons i
  have hc : c ≠ '!' := by rintro rfl; revert hcd; decide
  refine ⟨?_, ?_, ?_⟩
  · rw [hct]; simp [isHeader, hc]
  · rw [hct]; simp [isHeader, hc]
  · rw [splitOn_append ',' _ _ (comma_not_mem_showNat i), splitOn_append ',' _ _ (comma_not_mem_showNat i),
      List.map_cons, List.map_cons, h]

theorem expandRow_data (ng : List (Name × List Nat)) {l l' : Line} (hr : DataRel l l') :
    ORel (Forall₂ DataRel) (expandRow ng l) (expandRow ng l') := by
  obtain ⟨_, _, h⟩ := hr
  rcases split_cases ',' l with ⟨_, a2, a3⟩ | ⟨g, v, _, _, a3, a4⟩ <;>
    rcases split_cases ',' l' with ⟨_, b2, b3⟩ | ⟨g', v', _, _, b3, b4⟩
  · rw [expandRow_of_none ng a3, expandRow_of_none ng b3]; exact True.intro
  · rw [a2, b3] at h
    have := congrArg List.length h
    obtain ⟨x, r, hx⟩ := List.exists_cons_of_ne_nil (splitOn_ne_nil ',' v')
    simp [hx] at this
  · rw [a3, b2] at h
    have := congrArg List.length h
    obtain ⟨x, r, hx⟩ := List.exists_cons_of_ne_nil (splitOn_ne_nil ',' v)
    simp [hx] at this
  · rw [a3, b3] at h
    simp only [List.map_cons, List.cons.injEq] at h
    rw [expandRow_of_some ng a4, expandRow_of_some ng b4, h.1]
    cases lookupS (trim g') ng with
    | none => exact True.intro
    | some ids =>
      show Forall₂ DataRel (ids.map _) (ids.map _)
      rw [List.forall₂_map_left_iff, List.forall₂_map_right_iff, List.forall₂_same]
      intro i _
      exact dataRel_idRow i h.2

theorem extendAssignments_data (ng : List (Name × List Nat)) {rows rows' : List Line}
    (h : Forall₂ DataRel rows rows') :
    ORel (Forall₂ DataRel) (extendAssignments ng rows) (extendAssignments ng rows') := by
  have hg : Forall₂ DataRel (rows.filter (startsWithP isAlpha)) (rows'.filter (startsWithP isAlpha)) :=
    forall₂_filter (fun _ _ hab => startsWithP_data isAlpha (by decide) hab) h
  have hd : Forall₂ DataRel (rows.filter (startsWithP isDigit)) (rows'.filter (startsWithP isDigit)) :=
    forall₂_filter (fun _ _ hab => startsWithP_data isDigit (by decide) hab) h
  rw [extendAssignments_eq, extendAssignments_eq, forall₂_isEmpty hg]
  split
  · exact h
  · exact (mapM_orel hg fun _ _ hab => expandRow_data ng hab).bind fun _ _ hxy =>
      List.rel_append (List.rel_flatten hxy) hd

variable {bs bs' : List (Line × List Line)}

theorem readNodes_g3 (h : Forall₂ BlockRel bs bs') : readNodes bs = readNodes bs' := by
  have hd := blockData_rel (blocksOf_rel c!"!NODE" (by decide) h)
  unfold readNodes extractData
  rw [forall₂_isEmpty hd]
  rw [mapM_congr_same hd _ (fun a b hab => by rw [parseRowF_data parseDec parseDec_tc hab])]

theorem readElements_g3 (h : Forall₂ BlockRel bs bs') : readElements bs = readElements bs' := by
  have hebs := blocksOf_rel c!"!ELEMENT" (by decide) h
  have e1 := mapM_congr_same hebs (fun b => capture c!"TYPE=" b.1) (fun a b hab => capture_hdr _ (by decide) hab.1)
  have e2 := mapM_congr_same (blockData_rel hebs) (parseRowF parseNatTok)
    (fun a b hab => parseRowF_data _ parseNatTok_tc hab)
  have e3 := mapM_congr_same hebs
    (fun b => if b.2.isEmpty then none else b.2.mapM fun l => (parseRowI l).bind headTail)
    (fun a b hab => by
      rw [forall₂_isEmpty hab.2, mapM_congr_same hab.2 _ (fun x y hxy => by rw [parseRowI_data hxy])])
  unfold readElements
  -- β-reduce the unfolded body, so that `rw` finds the functions of `e1`, `e2`, `e3` in it
  dsimp only
  rw [e1, e2, e3]

theorem readGroups_g3 (merge : Bool) (hdr key : List Char) (hk1 : keyOK hdr = true) (hk2 : keyOK key = true)
    (h : Forall₂ BlockRel bs bs') (all : List Nat) :
    readGroups merge hdr key all bs = readGroups merge hdr key all bs' := by
  have hg := blocksOf_rel hdr hk1 h
  have e1 := mapM_congr_same hg (fun b => capture key b.1) (fun a b hab => capture_hdr _ hk2 hab.1)
  have e2 := mapM_congr_same hg
    (fun b => if b.2.isEmpty then none else (b.2.mapM parseRowI).map List.flatten)
    (fun a b hab => by
      rw [forall₂_isEmpty hab.2, mapM_congr_same hab.2 _ (fun x y hxy => parseRowI_data hxy)])
  unfold readGroups
  dsimp only
  rw [e1, e2]

theorem readSections_g3 (h : Forall₂ BlockRel bs bs') : readSections bs = readSections bs' := by
  unfold readSections
  exact mapM_congr_same (blocksOf_rel c!"!SECTION" (by decide) h) _ (fun a b hab => by
    rw [capture_hdr c!"TYPE=" (by decide) hab.1, capture_hdr c!"EGRP=" (by decide) hab.1,
      capture_hdr c!"MATERIAL=" (by decide) hab.1])

theorem readInitial_g3 (h : Forall₂ BlockRel bs bs') (ng : List (Name × List Nat)) (nodeIds : List Nat) :
    readInitial ng nodeIds bs = readInitial ng nodeIds bs' := by
  have hi := blocksOf_rel c!"!INITIAL CONDITION" (by decide) h
  have e1 := mapM_congr_same hi (fun b => capture c!"TYPE=" b.1) (fun a b hab => capture_hdr _ (by decide) hab.1)
  have e2 := mapM_congr_same hi
    (fun b => do
      let rows ← extendAssignments ng b.2
      if rows.isEmpty then none else rows.mapM (parseRowF parseDec))
    (fun a b hab => (extendAssignments_data ng hab.2).bind_eq fun x y hxy => by
      rw [forall₂_isEmpty hxy, mapM_congr_same hxy _ fun _ _ hab => parseRowF_data parseDec parseDec_tc hab])
  unfold readInitial
  dsimp only
  rw [e1, e2]

theorem readMaterials_g3 (h : Forall₂ BlockRel bs bs') (nElem : Nat) :
    readMaterials nElem bs = readMaterials nElem bs' := by
  have hm := blocksOf_rel c!"!MATERIAL" (by decide) h
  have hi : Forall₂ BlockRel (bs.filter fun b => isItem1 b.1) (bs'.filter fun b => isItem1 b.1) :=
    forall₂_filter (fun _ _ hab => isItem1_hdr hab.1) h
  have e0 := forall₂_isEmpty (blockData_rel hi)
  have e1 := mapM_congr_same (blockData_rel hi) (fun l => (splitOn ',' l).mapM parseDec)
    (fun _ _ hab => splitDec_data hab)
  have e2 := mapM_congr_same hi
    (fun b => if b.2.isEmpty then none else (b.2.flatMap (splitOn ',')).mapM parseDec)
    (fun a b hab => by
      rw [forall₂_isEmpty hab.2, mapM_tc parseDec parseDec_tc _ _ (flatSplit_data hab.2)])
  unfold readMaterials
  dsimp only
  rw [e0, e1, e2]
  generalize blocksOf c!"!MATERIAL" bs = mbs at hm ⊢
  generalize blocksOf c!"!MATERIAL" bs' = mbs' at hm ⊢
  cases hm with
  | nil => rfl
  | cons hab ht =>
    dsimp only
    rw [captureP_hdr c!"ITEM=" isDigit (by decide) (by decide) hab.1,
      mapM_congr_same (Forall₂.cons hab ht) (fun b => capture c!"NAME=" b.1)
        (fun a b hab => capture_hdr _ (by decide) hab.1)]

/-- the reader on scanned blocks sees related block lists as equal -/
theorem readBlocks_g3 (merge : Bool) (h : Forall₂ BlockRel bs bs') : readBlocks merge bs = readBlocks merge bs' := by
  have e1 := readNodes_g3 h
  have e2 := readElements_g3 h
  have e3 : (blocksOf c!"!ELEMENT" bs).any (fun b => (capture c!"EGRP=" b.1).isSome) =
      (blocksOf c!"!ELEMENT" bs').any (fun b => (capture c!"EGRP=" b.1).isSome) :=
    forall₂_any (fun a b hab => by rw [capture_hdr c!"EGRP=" (by decide) hab.1])
      (blocksOf_rel c!"!ELEMENT" (by decide) h)
  have e4 := readGroups_g3 merge c!"!NGROUP" c!"NGRP=" (by decide) (by decide) h
  have e5 := readGroups_g3 merge c!"!EGROUP" c!"EGRP=" (by decide) (by decide) h
  have e6 := readMaterials_g3 h
  have e7 := readSections_g3 h
  have e8 := readInitial_g3 h
  unfold readBlocks
  simp only [e1, e2, e3, e4, e5, e6, e7, e8]

theorem bang_rel {l l' : Line} (h : LineRel l l') : keepBang l = keepBang l' := by
  rcases h with h | h
  · unfold keepBang; rw [isPrefix_hdr c!"!!" (by decide) h]
  · rw [keepBang_of_not_header l h.1, keepBang_of_not_header l' h.2.1]

/-- G3 for every repair configuration (`bang`: the `!!`-comment filter looks at the first field only) -/
theorem readMshCfg_g3 (cfg : ReadCfg) (t t' : List Line) (h : G3 t t') : readMshCfg cfg t = readMshCfg cfg t' := by
  unfold readMshCfg
  apply readBlocks_g3
  apply toBlocks_rel
  split
  · exact forall₂_filter (fun _ _ hab => bang_rel hab) h
  · exact h

/-- **G3, whole file, arbitrary text**: two texts that are line-by-line equal up to blanks around the commas of
    data rows and blanks after the commas of header lines are read identically (same value, or both rejected) -/
theorem readMsh_g3 (t t' : List Line) (h : G3 t t') : readMsh t = readMsh t' :=
  readMshCfg_g3 ⟨false, false⟩ t t' h

instance : DecidablePred AllWs := fun a => inferInstanceAs (Decidable (∀ c ∈ a, isWs c = true))

/-- `f'` is `f` with blanks added on both sides -/
def PadBoth (f f' : List Char) : Prop := ∃ a b, AllWs a ∧ AllWs b ∧ f' = a ++ f ++ b

/-- `f` and `f'` differ only in their leading blanks -/
def PadLeft (f f' : List Char) : Prop := ∃ a a' g, AllWs a ∧ AllWs a' ∧ f = a ++ g ∧ f' = a' ++ g

theorem forall₂_right_all {α β} {R : α → β → Prop} {P : β → Prop} {l : List α} {l' : List β} (h : Forall₂ R l l')
    (hP : ∀ a b, a ∈ l → R a b → P b) : ∀ b ∈ l', P b := by
  induction h with
  | nil => intro b hb; cases hb
  | @cons a b t t' hab _ ih =>
    intro x hx
    rcases List.mem_cons.mp hx with rfl | hx
    · exact hP a x (by simp) hab
    · exact ih (fun a b ha => hP a b (List.mem_cons_of_mem _ ha)) x hx

theorem forall₂_map_eq {α β γ} {R : α → β → Prop} {f : α → γ} {g : β → γ} {l : List α} {l' : List β}
    (h : Forall₂ R l l') (hfg : ∀ a b, R a b → f a = g b) : l.map f = l'.map g := by
  induction h with
  | nil => rfl
  | cons hab _ ih => rw [List.map_cons, List.map_cons, hfg _ _ hab, ih]

theorem comma_not_allWs {a : List Char} (ha : AllWs a) : ',' ∉ a :=
  fun m => by have := ha ',' m; revert this; decide

theorem isPrefix_bang_pad (f a b : List Char) (ha : AllWs a) (hb : AllWs b) (h : isPrefix ['!'] f = false) :
    isPrefix ['!'] (a ++ f ++ b) = false := by
  cases a with
  | cons w t => exact isPrefix_ws '!' [] w _ (by decide) (ha w (by simp))
  | nil =>
    cases f with
    | cons c u => simpa [isPrefix] using h
    | nil =>
      cases b with
      | nil => rfl
      | cons w t => exact isPrefix_ws '!' [] w _ (by decide) (hb w (by simp))

/-- data rows, stated on an arbitrary non-header line: `','.join(ws + p + ws' for p in line.split(','))` -/
theorem dataRel_pad_line (l : Line) (hh : isHeader l = false) (fs' : List (List Char))
    (hp : Forall₂ PadBoth (splitOn ',' l) fs') : DataRel l (joinSep ',' fs') := by
  have hc' : ∀ f' ∈ fs', ',' ∉ f' := forall₂_right_all hp (fun f f' hf hff' => by
    obtain ⟨a, b, ha, hb, rfl⟩ := hff'
    intro hm
    rcases List.mem_append.mp hm with hm | hm
    · rcases List.mem_append.mp hm with hm | hm
      · exact comma_not_allWs ha hm
      · exact splitOn_fields_noSep ',' l f hf hm
    · exact comma_not_allWs hb hm)
  obtain ⟨f0, r, hs⟩ := List.exists_cons_of_ne_nil (splitOn_ne_nil ',' l)
  have h0 : isPrefix ['!'] f0 = false := by
    rw [← isPrefix_join ['!'] (by decide) f0 r, ← hs, joinSep_splitOn, ← isHeader_eq_isPrefix]; exact hh
  rw [hs] at hp
  cases hp with
  | @cons _ f0' _ r' hp0 hpr =>
    refine ⟨hh, ?_, ?_⟩
    · obtain ⟨a, b, ha, hb, rfl⟩ := hp0
      rw [isHeader_eq_isPrefix, isPrefix_join _ (by decide)]
      exact isPrefix_bang_pad f0 a b ha hb h0
    · rw [hs, split_join ',' _ (by simp) hc']
      exact forall₂_map_eq (.cons hp0 hpr) (fun f f' hff' => by
        obtain ⟨a, b, ha, hb, rfl⟩ := hff'
        exact (trim_pad a f b ha hb).symm)

/-- header lines, stated on an arbitrary header line:
    `','.join([p if j == 0 else ws + p.lstrip(' ') for j, p in enumerate(line.split(','))])` -/
theorem hdrRel_pad_line (h : Line) (hh : isHeader h = true) (f0 : List Char) (fs fs' : List (List Char))
    (hs : splitOn ',' h = f0 :: fs) (hp : Forall₂ PadLeft fs fs') : HdrRel h (joinSep ',' (f0 :: fs')) := by
  have hall := splitOn_fields_noSep ',' h
  rw [hs] at hall
  have hc' : ∀ f' ∈ fs', ',' ∉ f' := forall₂_right_all hp (fun f f' hf hff' => by
    obtain ⟨a, a', g, ha, ha', rfl, rfl⟩ := hff'
    intro hm
    rcases List.mem_append.mp hm with hm | hm
    · exact comma_not_allWs ha' hm
    · exact hall _ (List.mem_cons_of_mem _ hf) (List.mem_append_right _ hm))
  refine ⟨hh, f0, fs, fs', hs, ?_, ?_⟩
  · exact split_join ',' _ (by simp) (fun f hf => by
      rcases List.mem_cons.mp hf with rfl | hf
      · exact hall _ List.mem_cons_self
      · exact hc' f hf)
  · exact forall₂_map_eq hp (fun f f' hff' => by
      obtain ⟨a, a', g, ha, ha', rfl, rfl⟩ := hff'
      rw [trimLeft_append_ws _ _ ha, trimLeft_append_ws _ _ ha'])

/-- the harness mutation of one line: a header keeps its first field and changes the leading blanks of the others,
    a data line gets blanks around each field -/
def PadLine (l l' : Line) : Prop :=
  (isHeader l = true ∧ ∃ f0 fs fs', splitOn ',' l = f0 :: fs ∧ Forall₂ PadLeft fs fs' ∧ l' = joinSep ',' (f0 :: fs')) ∨
  (isHeader l = false ∧ ∃ fs', Forall₂ PadBoth (splitOn ',' l) fs' ∧ l' = joinSep ',' fs')

theorem lineRel_of_padLine {l l' : Line} (h : PadLine l l') : LineRel l l' := by
  rcases h with ⟨hh, f0, fs, fs', hs, hp, rfl⟩ | ⟨hh, fs', hp, rfl⟩
  · exact Or.inl (hdrRel_pad_line l hh f0 fs fs' hs hp)
  · exact Or.inr (dataRel_pad_line l hh fs' hp)

theorem g3_of_padLines {t t' : List Line} (h : Forall₂ PadLine t t') : G3 t t' :=
  List.Forall₂.imp (fun _ _ hab => lineRel_of_padLine hab) h

/-- **G3 in the form the test harness applies it**: padding the fields of ARBITRARY lines does not change what the
    reader returns -/
theorem readMsh_padded (t t' : List Line) (h : Forall₂ PadLine t t') : readMsh t = readMsh t' :=
  readMsh_g3 t t' (g3_of_padLines h)

theorem readMshCfg_padded (cfg : ReadCfg) (t t' : List Line) (h : Forall₂ PadLine t t') :
    readMshCfg cfg t = readMshCfg cfg t' :=
  readMshCfg_g3 cfg t t' (g3_of_padLines h)

/-- every line is related to itself: `G3` is reflexive -/
theorem lineRel_refl (l : Line) : LineRel l l := by
  cases h : isHeader l with
  | true =>
    obtain ⟨f0, fs, hs⟩ := List.exists_cons_of_ne_nil (splitOn_ne_nil ',' l)
    exact Or.inl ⟨h, f0, fs, fs, hs, hs, rfl⟩
  | false => exact Or.inr ⟨h, h, rfl⟩

theorem g3_refl (t : List Line) : G3 t t := List.forall₂_same.mpr (fun l _ => lineRel_refl l)

theorem lineRel_symm {l l' : Line} (h : LineRel l l') : LineRel l' l := by
  rcases h with h | h
  · have h' := isHeader_right_of_hdr h
    obtain ⟨_, f0, fs, fs', h1, h2, h3⟩ := h
    exact Or.inl ⟨h', f0, fs', fs, h2, h1, h3.symm⟩
  · exact Or.inr ⟨h.2.1, h.1, h.2.2.symm⟩

theorem g3_symm {t t' : List Line} (h : G3 t t') : G3 t' t :=
  List.Forall₂.flip (List.Forall₂.imp (fun _ _ hab => lineRel_symm hab) h)

/-- nodes, one tet block, a node group, an element group, a temperature table addressed by group name and by id -/
def g3Text : List Line :=
  [c!"!HEADER", c!"!NODE", c!"1,0.0,0.0,0.0", c!"2,1.0,0.0,0.0", c!"3,0.0,1.0,0.0", c!"4,0.0,0.0,1.5E+00",
   c!"!ELEMENT, TYPE=341", c!"1,1,2,3,4",
   c!"!NGROUP, NGRP=N1", c!"1,2",
   c!"!EGROUP,  EGRP=A", c!"1",
   c!"!INITIAL CONDITION, TYPE=TEMPERATURE", c!"N1,10.0", c!"3,1.0", c!"4,2.0",
   c!"!END"]

/-- the same file after the harness mutation (blanks / tabs around data commas, after header commas) -/
def g3TextPadded : List Line :=
  [c!"!HEADER", c!"!NODE", c!" 1 , 0.0 , 0.0 , 0.0 ", c!"\t2\t,\t1.0\t,\t0.0\t,\t0.0\t", c!"3,  0.0,  1.0,  0.0",
   c!"  4  ,0.0  ,0.0  ,1.5E+00  ",
   c!"!ELEMENT,\tTYPE=341", c!" 1, 1 ,2 ,  3,4 ",
   c!"!NGROUP,NGRP=N1", c!" 1 , 2 ",
   c!"!EGROUP,EGRP=A", c!"\t1",
   c!"!INITIAL CONDITION,   TYPE=TEMPERATURE", c!" N1 , 10.0 ", c!"3 ,1.0 ", c!" 4, 2.0",
   c!"!END"]

/-- `HdrRel` without the existential (decidable form) -/
theorem hdrRel_iff (h h' : Line) : HdrRel h h' ↔
    (isHeader h = true ∧ (splitOn ',' h).head? = (splitOn ',' h').head? ∧
      (splitOn ',' h).tail.map trimLeft = (splitOn ',' h').tail.map trimLeft) := by
  constructor
  · rintro ⟨hh, f0, fs, fs', h1, h2, h3⟩
    rw [h1, h2]; exact ⟨hh, rfl, h3⟩
  · rintro ⟨hh, h1, h2⟩
    obtain ⟨f0, fs, e1⟩ := List.exists_cons_of_ne_nil (splitOn_ne_nil ',' h)
    obtain ⟨f0', fs', e2⟩ := List.exists_cons_of_ne_nil (splitOn_ne_nil ',' h')
    rw [e1, e2] at h1 h2
    simp only [List.head?_cons, Option.some.injEq] at h1
    subst h1
    exact ⟨hh, f0, fs, fs', e1, e2, h2⟩

instance (h h' : Line) : Decidable (HdrRel h h') := decidable_of_iff _ (hdrRel_iff h h').symm
instance (l l' : Line) : Decidable (DataRel l l') := by unfold DataRel; infer_instance
instance (l l' : Line) : Decidable (LineRel l l') := by unfold LineRel; infer_instance

theorem g3Text_rel : G3 g3Text g3TextPadded :=
  List.forall₂_iff_zip.mpr ⟨rfl, fun {a b} h =>
    (by decide +kernel : ∀ p ∈ g3Text.zip g3TextPadded, LineRel p.1 p.2) (a, b) h⟩

theorem g3Text_reads : (readMsh g3Text).isSome = true := by decide +kernel

example : (readMsh g3Text).isSome = true := g3Text_reads

example : readMsh g3TextPadded = readMsh g3Text := (readMsh_g3 _ _ g3Text_rel).symm

example : readMshCfg ⟨true, true⟩ g3TextPadded = readMshCfg ⟨true, true⟩ g3Text :=
  (readMshCfg_g3 _ _ _ g3Text_rel).symm

/-- a padded data row built with the constructor, on fields that contain inner blanks -/
example : DataRel c!"N 1,1.0" c!"  N 1\t, 1.0 " :=
  dataRel_pad_line c!"N 1,1.0" (by decide) [c!"  N 1\t", c!" 1.0 "]
    (.cons ⟨c!"  ", c!"\t", by decide, by decide, rfl⟩ (.cons ⟨c!" ", c!" ", by decide, by decide, rfl⟩ .nil))

/-- a header with the blanks after its commas changed, built with the constructor -/
example : HdrRel c!"!SECTION, TYPE=SOLID,  EGRP=A" c!"!SECTION,\tTYPE=SOLID,EGRP=A" :=
  hdrRel_pad_line c!"!SECTION, TYPE=SOLID,  EGRP=A" (by decide) c!"!SECTION" [c!" TYPE=SOLID", c!"  EGRP=A"]
    [c!"\tTYPE=SOLID", c!"EGRP=A"] (by decide)
    (.cons ⟨c!" ", c!"\t", c!"TYPE=SOLID", by decide, by decide, rfl, rfl⟩
      (.cons ⟨c!"  ", [], c!"EGRP=A", by decide, by decide, rfl, rfl⟩ .nil))

end Femio.Fistr.G3
