import Femio.Lemmas.FistrMshProps

/-! G3 (whitespace insensitivity of the `.msh` reader), lines: `splitOn`/`joinSep` on arbitrary lines, the line
relations, a generic leftmost-match scanner `scan` that `hasSub`, `capture`, `captureP`, `isItem1` are instances of;
every consumer of a header line is invariant under `HdrRel`, every consumer of a data line under `DataRel`. -/
namespace Femio.Fistr.G3
open Numeral

def AllWs (a : List Char) : Prop := ∀ c ∈ a, isWs c = true

theorem allWs_nil : AllWs [] := fun _ h => by cases h

theorem allWs_append {a b : List Char} (ha : AllWs a) (hb : AllWs b) : AllWs (a ++ b) := by
  intro c hc
  rcases List.mem_append.mp hc with h | h
  · exact ha c h
  · exact hb c h

theorem allWs_reverse {a : List Char} (ha : AllWs a) : AllWs a.reverse :=
  fun c hc => ha c (List.mem_reverse.mp hc)

theorem trimLeft_pad_gen (a f : List Char) (ha : AllWs a) : trimLeft (a ++ f) = trimLeft f :=
  trimLeft_append_ws a f ha

theorem mem_trimLeft_iff (x : Char) (hx : isWs x = false) (f : List Char) : x ∈ trimLeft f ↔ x ∈ f := by
  obtain ⟨a, ha, hf⟩ := trimLeft_split f
  constructor
  · intro h; rw [hf]; exact List.mem_append_right _ h
  · intro h
    rw [hf] at h
    rcases List.mem_append.mp h with h | h
    · rw [ha x h] at hx; cases hx
    · exact h

theorem mem_trim_iff (x : Char) (hx : isWs x = false) (f : List Char) : x ∈ trim f ↔ x ∈ f := by
  unfold trim
  rw [List.mem_reverse, mem_trimLeft_iff x hx, List.mem_reverse, mem_trimLeft_iff x hx]

/-- first-field decomposition of a line, together with `splitFirst` -/
theorem split_cases (sep : Char) (l : List Char) :
    (sep ∉ l ∧ splitOn sep l = [l] ∧ splitFirst sep l = none) ∨
    ∃ g v, l = g ++ sep :: v ∧ sep ∉ g ∧ splitOn sep l = g :: splitOn sep v ∧ splitFirst sep l = some (g, v) := by
  induction l with
  | nil => exact Or.inl ⟨by simp, rfl, rfl⟩
  | cons c t ih =>
    by_cases hc : c = sep
    · refine Or.inr ⟨[], t, by simp [hc], by simp, by simp [splitOn, hc], by simp [splitFirst, hc]⟩
    · rcases ih with ⟨h1, h2, h3⟩ | ⟨g, v, h1, h2, h3, h4⟩
      · refine Or.inl ⟨?_, by simp [splitOn, hc, h2], by simp [splitFirst, hc, h3]⟩
        intro hm
        rcases List.mem_cons.mp hm with h | h
        · exact hc h.symm
        · exact h1 h
      · refine Or.inr ⟨c :: g, v, by simp [h1], ?_, by simp [splitOn, hc, h3], by simp [splitFirst, hc, h4]⟩
        intro hm
        rcases List.mem_cons.mp hm with h | h
        · exact hc h.symm
        · exact h2 h

theorem splitOn_ne_nil (sep : Char) (l : List Char) : splitOn sep l ≠ [] := by
  rcases split_cases sep l with ⟨-, h, -⟩ | ⟨g, v, -, -, h, -⟩ <;> rw [h] <;> exact List.cons_ne_nil _ _

theorem joinSep_cons_ne (sep : Char) (f : List Char) (rest : List (List Char)) (h : rest ≠ []) :
    joinSep sep (f :: rest) = f ++ sep :: joinSep sep rest := by
  cases rest with
  | nil => exact absurd rfl h
  | cons g t => rfl

/-- `sep.join(l.split(sep)) = l` for every line -/
theorem joinSep_splitOn (sep : Char) (l : List Char) : joinSep sep (splitOn sep l) = l := by
  induction hn : l.length using Nat.strong_induction_on generalizing l with
  | _ n ih =>
    rcases split_cases sep l with ⟨-, h, -⟩ | ⟨g, v, h1, -, h3, -⟩
    · rw [h]; rfl
    · rw [h3, joinSep_cons_ne _ _ _ (splitOn_ne_nil sep v), ih v.length (by rw [← hn, h1]; simp; omega) v rfl, h1]

theorem splitOn_fields_noSep (sep : Char) (l : List Char) : ∀ f ∈ splitOn sep l, sep ∉ f := by
  induction hn : l.length using Nat.strong_induction_on generalizing l with
  | _ n ih =>
    rcases split_cases sep l with ⟨h1, h2, -⟩ | ⟨g, v, h1, h2, h3, -⟩
    · rw [h2]
      simpa using h1
    · rw [h3]
      intro f hf
      rcases List.mem_cons.mp hf with rfl | hf
      · exact h2
      · exact ih v.length (by rw [← hn, h1]; simp; omega) v rfl f hf

/-- data lines: neither is a header, and they have the same comma-separated fields up to surrounding blanks -/
def DataRel (l l' : Line) : Prop :=
  isHeader l = false ∧ isHeader l' = false ∧ (splitOn ',' l).map trim = (splitOn ',' l').map trim

/-- header lines: same first field (it starts with `!`), the other fields equal up to blanks after the comma -/
def HdrRel (h h' : Line) : Prop :=
  isHeader h = true ∧ ∃ f0 fs fs', splitOn ',' h = f0 :: fs ∧ splitOn ',' h' = f0 :: fs' ∧
    fs.map trimLeft = fs'.map trimLeft

def LineRel (l l' : Line) : Prop := HdrRel l l' ∨ DataRel l l'

set_option linter.dupNamespace false in
/-- the G3 relation on texts: line by line, blanks around the commas of data rows / after the commas of headers -/
def G3 (t t' : List Line) : Prop := List.Forall₂ LineRel t t'

/-- leftmost suffix on which the matcher `m` succeeds -/
def scan {β} (m : List Char → Option β) : List Char → Option β
  | [] => none
  | c :: t => match m (c :: t) with
    | some b => some b
    | none => scan m t

theorem scan_cons_of_some {β} {m : List Char → Option β} {c : Char} {t : List Char} {b : β}
    (h : m (c :: t) = some b) : scan m (c :: t) = some b := by simp [scan, h]

theorem scan_cons_of_none {β} {m : List Char → Option β} {c : Char} {t : List Char}
    (h : m (c :: t) = none) : scan m (c :: t) = scan m t := by simp [scan, h]

/-- a matcher that never looks past a comma and never starts on a blank -/
structure Local {β} (m : List Char → Option β) : Prop where
  comma : ∀ v r, m (v ++ ',' :: r) = m v
  nil : m [] = none
  ws : ∀ w t, isWs w = true → m (w :: t) = none

theorem scan_comma {β} {m : List Char → Option β} (hm : Local m) (u r : List Char) :
    scan m (u ++ ',' :: r) = match scan m u with | some b => some b | none => scan m r := by
  induction u with
  | nil =>
    have : m (',' :: r) = none := by have := hm.comma [] r; rw [hm.nil] at this; exact this
    simp [scan, this]
  | cons c u ih =>
    have h1 : m (c :: (u ++ ',' :: r)) = m (c :: u) := hm.comma (c :: u) r
    simp only [List.cons_append, scan, h1]
    cases m (c :: u) with
    | some b => rfl
    | none => exact ih

theorem scan_join {β} {m : List Char → Option β} (hm : Local m) (fs : List (List Char)) :
    scan m (joinSep ',' fs) = fs.findSome? (scan m) := by
  induction fs with
  | nil => rfl
  | cons f t ih =>
    cases t with
    | nil =>
      simp only [joinSep, List.findSome?]
      cases scan m f <;> rfl
    | cons g t =>
      rw [joinSep_cons_ne _ _ _ (by simp), scan_comma hm, ih]
      simp only [List.findSome?]
      cases scan m f with
      | some b => rfl
      | none => cases scan m g <;> rfl

theorem scan_trimLeft {β} {m : List Char → Option β} (hm : Local m) (f : List Char) :
    scan m f = scan m (trimLeft f) := by
  induction f with
  | nil => rfl
  | cons c t ih =>
    cases hc : isWs c with
    | true => rw [trimLeft_cons_ws _ _ hc, scan_cons_of_none (hm.ws c t hc), ih]
    | false => rw [trimLeft_cons_nonws _ _ hc]

theorem findSome_trimLeft {β} {m : List Char → Option β} (hm : Local m) (fs : List (List Char)) :
    fs.findSome? (scan m) = (fs.map trimLeft).findSome? (scan m) := by
  induction fs with
  | nil => rfl
  | cons f t ih => simp only [List.map_cons, List.findSome?, ← scan_trimLeft hm, ih]

/-- every local scanner is invariant under the header relation -/
theorem scan_hdr {β} {m : List Char → Option β} (hm : Local m) {h h' : Line} (hr : HdrRel h h') :
    scan m h = scan m h' := by
  obtain ⟨_, f0, fs, fs', h1, h2, h3⟩ := hr
  rw [← joinSep_splitOn ',' h, ← joinSep_splitOn ',' h', h1, h2, scan_join hm, scan_join hm]
  simp only [List.findSome?, findSome_trimLeft hm fs, findSome_trimLeft hm fs', h3]

/-- keys the scanner lemmas apply to: non-empty, first char not blank, no comma -/
def keyOK (key : List Char) : Bool :=
  match key with
  | [] => false
  | c :: _ => !isWs c && !key.contains ','

theorem keyOK_spec {key : List Char} (h : keyOK key = true) :
    (∃ c k, key = c :: k ∧ isWs c = false) ∧ ',' ∉ key := by
  cases key with
  | nil => simp [keyOK] at h
  | cons c k =>
    simp only [keyOK, Bool.and_eq_true, Bool.not_eq_true', List.contains_eq_mem, decide_eq_false_iff_not] at h
    exact ⟨⟨c, k, rfl, h.1⟩, h.2⟩

theorem isPrefix_comma (key : List Char) (hk : ',' ∉ key) (v r : List Char) :
    isPrefix key (v ++ ',' :: r) = isPrefix key v := by
  induction key generalizing v with
  | nil => cases v <;> rfl
  | cons a k ih =>
    have ha : a ≠ ',' := fun e => hk (e ▸ List.mem_cons_self)
    have hk' : ',' ∉ k := fun m => hk (List.mem_cons_of_mem _ m)
    cases v with
    | nil => simp [isPrefix, ha]
    | cons b v => simp only [List.cons_append, isPrefix]; rw [ih hk']

theorem isPrefix_length (key s : List Char) (h : isPrefix key s = true) : key.length ≤ s.length := by
  induction key generalizing s with
  | nil => simp
  | cons a k ih =>
    cases s with
    | nil => simp [isPrefix] at h
    | cons b s =>
      simp only [isPrefix, Bool.and_eq_true] at h
      have := ih s h.2
      simp only [List.length_cons]; omega

theorem isPrefix_ws (c : Char) (k : List Char) (w : Char) (t : List Char) (hc : isWs c = false) (hw : isWs w = true) :
    isPrefix (c :: k) (w :: t) = false := by
  have : c ≠ w := by rintro rfl; rw [hc] at hw; cases hw
  simp [isPrefix, this]

theorem isPrefix_join (key : List Char) (hk : ',' ∉ key) (f0 : List Char) (fs : List (List Char)) :
    isPrefix key (joinSep ',' (f0 :: fs)) = isPrefix key f0 := by
  cases fs with
  | nil => rfl
  | cons g t => rw [joinSep_cons_ne _ _ _ (by simp), isPrefix_comma key hk]

theorem takeWhile_stop {α} (p : α → Bool) (x : List α) (c : α) (r : List α) (hc : p c = false) :
    (x ++ c :: r).takeWhile p = x.takeWhile p := by
  induction x with
  | nil => simp [List.takeWhile, hc]
  | cons a t ih => simp only [List.cons_append, List.takeWhile_cons, ih]

/-! `hasSub key`, `captureP key p` and `isItem1` are `scan`s of `mPre key`, `mCap key p` and `mItem`;
`itemTail` / `tail1` are what `isItem1.go` asks of the text behind `!ITEM`: blanks, `=`, blanks, `1`. -/
def mPre (key : List Char) (s : List Char) : Option Unit := if isPrefix key s then some () else none

def mCap (key : List Char) (p : Char → Bool) (s : List Char) : Option (List Char) :=
  if isPrefix key s ∧ ((s.drop key.length).takeWhile p) ≠ [] then some ((s.drop key.length).takeWhile p) else none

def tail1 (u : List Char) : Bool := match trimLeft u with | '1' :: _ => true | _ => false
def itemTail (s : List Char) : Bool := match trimLeft s with | '=' :: u => tail1 u | _ => false
def mItem (s : List Char) : Option Unit :=
  if (isPrefix c!"!ITEM" s && itemTail (s.drop 5)) = true then some () else none

theorem mPre_local (key : List Char) (hk : keyOK key = true) : Local (mPre key) := by
  obtain ⟨⟨c, k, rfl, hc⟩, hcomma⟩ := keyOK_spec hk
  refine ⟨?_, ?_, ?_⟩
  · intro v r; unfold mPre; rw [isPrefix_comma _ hcomma]
  · rfl
  · intro w t hw; unfold mPre; rw [isPrefix_ws c k w t hc hw]; rfl

theorem mCap_local (key : List Char) (p : Char → Bool) (hk : keyOK key = true) (hp : p ',' = false) :
    Local (mCap key p) := by
  obtain ⟨⟨c, k, rfl, hc⟩, hcomma⟩ := keyOK_spec hk
  refine ⟨?_, ?_, ?_⟩
  · intro v r
    unfold mCap
    rw [isPrefix_comma _ hcomma]
    by_cases h : isPrefix (c :: k) v = true
    · have hl := isPrefix_length _ _ h
      rw [List.drop_append_of_le_length hl, takeWhile_stop p _ ',' r hp]
    · simp [h]
  · simp [mCap, isPrefix]
  · intro w t hw; unfold mCap; rw [isPrefix_ws c k w t hc hw]; simp

theorem tail1_comma (x r : List Char) : tail1 (x ++ ',' :: r) = tail1 x := by
  unfold tail1
  rcases trimLeft_head x with h0 | ⟨c, t, h1, _⟩
  · rw [h0, trimLeft_append_ws _ _ ((trimLeft_eq_nil_iff x).mp h0), trimLeft_cons_nonws _ _ (by decide)]
    rfl
  · rw [h1, trimLeft_append_of_cons x _ c t h1]
    split <;> rename_i heq
    · cases heq; rfl
    · split <;> rename_i heq'
      · cases heq'; exact absurd rfl (heq _)
      · rfl

theorem itemTail_comma (x r : List Char) : itemTail (x ++ ',' :: r) = itemTail x := by
  unfold itemTail
  rcases trimLeft_head x with h0 | ⟨c, t, h1, _⟩
  · rw [h0, trimLeft_append_ws _ _ ((trimLeft_eq_nil_iff x).mp h0), trimLeft_cons_nonws _ _ (by decide)]
    rfl
  · rw [h1, trimLeft_append_of_cons x _ c t h1]
    split <;> rename_i heq
    · cases heq; simp only [tail1_comma]
    · split <;> rename_i heq'
      · cases heq'; exact absurd rfl (heq _)
      · rfl

theorem mItem_local : Local mItem := by
  refine ⟨?_, ?_, ?_⟩
  · intro v r
    unfold mItem
    rw [isPrefix_comma _ (by decide)]
    by_cases h : isPrefix c!"!ITEM" v = true
    · have hl : 5 ≤ v.length := isPrefix_length _ _ h
      rw [List.drop_append_of_le_length hl, itemTail_comma]
    · simp [h]
  · rfl
  · intro w t hw
    unfold mItem
    rw [isPrefix_ws '!' _ w t (by decide) hw]; rfl

theorem hasSub_eq_scan (key : List Char) (hk : key ≠ []) (l : List Char) :
    hasSub key l = (scan (mPre key) l).isSome := by
  induction l with
  | nil => cases key with
    | nil => exact absurd rfl hk
    | cons a k => rfl
  | cons c t ih =>
    cases h : isPrefix key (c :: t) with
    | true =>
      have : mPre key (c :: t) = some () := by simp [mPre, h]
      rw [scan_cons_of_some this]; simp [hasSub, h]
    | false =>
      have : mPre key (c :: t) = none := by simp [mPre, h]
      rw [scan_cons_of_none this, ← ih]; simp [hasSub, h]

theorem captureP_eq_scan (key : List Char) (p : Char → Bool) (l : List Char) :
    captureP key p l = scan (mCap key p) l := by
  induction l with
  | nil => rfl
  | cons c t ih =>
    unfold captureP scan mCap
    split
    · rfl
    · exact ih

/-- `KEY=(\w+)` is the search with the word characters as the class -/
theorem capture_eq_captureP (key s : List Char) : capture key s = captureP key isWord s := by
  induction s with
  | nil => rfl
  | cons c t ih => simp only [capture, captureP, ih]

theorem isItem1_go_cons (c : Char) (t : List Char) :
    isItem1.go (c :: t) = ((isPrefix c!"!ITEM" (c :: t) && itemTail ((c :: t).drop 5)) || isItem1.go t) := by
  rw [isItem1.go]
  congr 2

theorem isItem1_eq_scan (l : List Char) : isItem1 l = (scan mItem l).isSome := by
  unfold isItem1
  induction l with
  | nil => rfl
  | cons c t ih =>
    rw [isItem1_go_cons]
    cases h : (isPrefix c!"!ITEM" (c :: t) && itemTail ((c :: t).drop 5)) with
    | true =>
      have : mItem (c :: t) = some () := by simp only [mItem, h]; rfl
      rw [scan_cons_of_some this]; rfl
    | false =>
      have : mItem (c :: t) = none := by simp only [mItem, h]; rfl
      rw [scan_cons_of_none this, ← ih]; rfl

theorem hasSub_hdr (key : List Char) (hk : keyOK key = true) {h h' : Line} (hr : HdrRel h h') :
    hasSub key h = hasSub key h' := by
  have hne : key ≠ [] := by rintro rfl; simp [keyOK] at hk
  rw [hasSub_eq_scan key hne, hasSub_eq_scan key hne, scan_hdr (mPre_local key hk) hr]

theorem captureP_hdr (key : List Char) (p : Char → Bool) (hk : keyOK key = true) (hp : p ',' = false)
    {h h' : Line} (hr : HdrRel h h') : captureP key p h = captureP key p h' := by
  rw [captureP_eq_scan, captureP_eq_scan, scan_hdr (mCap_local key p hk hp) hr]

theorem capture_hdr (key : List Char) (hk : keyOK key = true) {h h' : Line} (hr : HdrRel h h') :
    capture key h = capture key h' := by
  rw [capture_eq_captureP, capture_eq_captureP]
  exact captureP_hdr key isWord hk (by decide) hr

theorem isItem1_hdr {h h' : Line} (hr : HdrRel h h') : isItem1 h = isItem1 h' := by
  rw [isItem1_eq_scan, isItem1_eq_scan, scan_hdr mItem_local hr]

theorem isPrefix_hdr (key : List Char) (hk : ',' ∉ key) {h h' : Line} (hr : HdrRel h h') :
    isPrefix key h = isPrefix key h' := by
  obtain ⟨_, f0, fs, fs', h1, h2, _⟩ := hr
  rw [← joinSep_splitOn ',' h, ← joinSep_splitOn ',' h', h1, h2, isPrefix_join key hk, isPrefix_join key hk]

theorem isHeader_eq_isPrefix (l : Line) : isHeader l = isPrefix ['!'] l := by
  cases l with
  | nil => rfl
  | cons c t =>
    simp only [isHeader, isPrefix, Bool.and_true, List.head?_cons]
    by_cases h : c = '!'
    · subst h; rfl
    · have h' : ¬ ('!' = c) := fun e => h e.symm
      simp [h, h']

theorem isHeader_right_of_hdr {h h' : Line} (hr : HdrRel h h') : isHeader h' = true := by
  rw [isHeader_eq_isPrefix, ← isPrefix_hdr ['!'] (by decide) hr, ← isHeader_eq_isPrefix]; exact hr.1

theorem contains_eq_hasSub (c : Char) (l : List Char) : l.contains c = hasSub [c] l := by
  induction l with
  | nil => rfl
  | cons a t ih =>
    rw [List.contains_cons, ih]
    simp only [hasSub, isPrefix, Bool.and_true]

theorem all_isWs_of_header {l : Line} (h : isHeader l = true) : l.all isWs = false := by
  cases l with
  | nil => cases h
  | cons c t =>
    have : c = '!' := by simpa [isHeader] using h
    subst this
    simp [isWs]

theorem ignoreLine_hdr {h h' : Line} (hr : HdrRel h h') : ignoreLine h = ignoreLine h' := by
  unfold ignoreLine
  rw [all_isWs_of_header hr.1, all_isWs_of_header (isHeader_right_of_hdr hr), contains_eq_hasSub, contains_eq_hasSub,
    hasSub_hdr ['#'] (by decide) hr]

theorem mem_joinSep (sep x : Char) (hx : x ≠ sep) (fs : List (List Char)) :
    x ∈ joinSep sep fs ↔ ∃ f ∈ fs, x ∈ f := by
  induction fs with
  | nil => simp [joinSep]
  | cons f t ih =>
    cases t with
    | nil => simp [joinSep]
    | cons g t =>
      rw [joinSep_cons_ne _ _ _ (by simp), List.mem_append, List.mem_cons, ih]
      constructor
      · rintro (h | h | ⟨f', hf', hx'⟩)
        · exact ⟨f, by simp, h⟩
        · exact absurd h hx
        · exact ⟨f', List.mem_cons_of_mem _ hf', hx'⟩
      · rintro ⟨f', hf', hx'⟩
        rcases List.mem_cons.mp hf' with rfl | hf'
        · exact Or.inl hx'
        · exact Or.inr (Or.inr ⟨f', hf', hx'⟩)

/-- a visible character occurs in a line iff it occurs in one of its trimmed fields -/
theorem mem_line_iff (x : Char) (hx : x ≠ ',') (hw : isWs x = false) (l : Line) :
    x ∈ l ↔ ∃ g ∈ (splitOn ',' l).map trim, x ∈ g := by
  conv_lhs => rw [← joinSep_splitOn ',' l]
  rw [mem_joinSep ',' x hx]
  constructor
  · rintro ⟨f, hf, h⟩; exact ⟨trim f, List.mem_map_of_mem hf, (mem_trim_iff x hw f).mpr h⟩
  · rintro ⟨g, hg, h⟩
    obtain ⟨f, hf, rfl⟩ := List.mem_map.mp hg
    exact ⟨f, hf, (mem_trim_iff x hw f).mp h⟩

theorem allWs_line_iff (l : Line) : AllWs l ↔ (splitOn ',' l).map trim = [[]] := by
  constructor
  · intro h
    have hc : ',' ∉ l := fun m => by have := h ',' m; revert this; decide
    rw [splitOn_noSep ',' l hc, List.map_singleton, (trim_eq_nil_iff l).mpr h]
  · intro h
    obtain ⟨f, r, hfr⟩ := List.exists_cons_of_ne_nil (splitOn_ne_nil ',' l)
    rw [hfr] at h
    simp only [List.map_cons, List.cons.injEq, List.map_eq_nil_iff] at h
    obtain ⟨h1, rfl⟩ := h
    have : l = f := by rw [← joinSep_splitOn ',' l, hfr]; rfl
    rw [this]; exact (trim_eq_nil_iff f).mp h1

theorem ignoreLine_data {l l' : Line} (hr : DataRel l l') : ignoreLine l = ignoreLine l' := by
  obtain ⟨_, _, h⟩ := hr
  unfold ignoreLine
  have h1 : l.contains '#' = l'.contains '#' := by
    rw [Bool.eq_iff_iff, List.contains_iff_mem, List.contains_iff_mem,
      mem_line_iff '#' (by decide) (by decide) l, mem_line_iff '#' (by decide) (by decide) l', h]
  have h2 : l.all isWs = l'.all isWs := by
    rw [Bool.eq_iff_iff, List.all_eq_true, List.all_eq_true]
    exact (allWs_line_iff l).trans (h ▸ (allWs_line_iff l').symm)
  rw [h1, h2]

/-- field parsers that see only `trim` of the field -/
def TrimCongr {α} (f : List Char → α) : Prop := ∀ s s', trim s = trim s' → f s = f s'

theorem parseDec_tc : TrimCongr parseDec := by intro s s' h; unfold parseDec; rw [h]
theorem parseNatTok_tc : TrimCongr parseNatTok := by intro s s' h; unfold parseNatTok; rw [h]
theorem parseIdF_tc : TrimCongr parseIdF := by intro s s' h; unfold parseIdF; rw [parseDec_tc s s' h]

theorem mapM_tc {α} (f : List Char → Option α) (hf : TrimCongr f) :
    ∀ xs ys : List (List Char), xs.map trim = ys.map trim → xs.mapM f = ys.mapM f := by
  intro xs
  induction xs with
  | nil => intro ys h; cases ys with
    | nil => rfl
    | cons y t => simp at h
  | cons x t ih =>
    intro ys h
    cases ys with
    | nil => simp at h
    | cons y u =>
      simp only [List.map_cons, List.cons.injEq] at h
      rw [List.mapM_cons, List.mapM_cons, hf x y h.1, ih u h.2]

theorem parseRowF_data {α} (f : List Char → Option α) (hf : TrimCongr f) {l l' : Line} (hr : DataRel l l') :
    parseRowF f l = parseRowF f l' := by
  obtain ⟨_, _, h⟩ := hr
  obtain ⟨i, fs, h1⟩ := List.exists_cons_of_ne_nil (splitOn_ne_nil ',' l)
  obtain ⟨i', fs', h2⟩ := List.exists_cons_of_ne_nil (splitOn_ne_nil ',' l')
  rw [h1, h2] at h
  simp only [List.map_cons, List.cons.injEq] at h
  unfold parseRowF
  rw [h1, h2]
  simp only
  rw [parseIdF_tc i i' h.1, mapM_tc f hf fs fs' h.2]

theorem parseRowI_data {l l' : Line} (hr : DataRel l l') : parseRowI l = parseRowI l' :=
  mapM_tc parseNatTok parseNatTok_tc _ _ hr.2.2

theorem splitDec_data {l l' : Line} (hr : DataRel l l') :
    (splitOn ',' l).mapM parseDec = (splitOn ',' l').mapM parseDec :=
  mapM_tc parseDec parseDec_tc _ _ hr.2.2

theorem flatSplit_data {d d' : List Line} (hr : List.Forall₂ DataRel d d') :
    (d.flatMap (splitOn ',')).map trim = (d'.flatMap (splitOn ',')).map trim := by
  induction hr with
  | nil => rfl
  | cons h _ ih => simp only [List.flatMap_cons, List.map_append, ih, h.2.2]

def headP (p : Char → Bool) (g : List Char) : Bool := match g with | c :: _ => p c | [] => false

theorem startsWithP_eq (p : Char → Bool) (l : Line) : startsWithP p l = headP p (trimLeft l) := by
  unfold startsWithP headP
  split <;> rename_i heq <;> rw [heq]

theorem headP_trim (p : Char → Bool) (f : List Char) : headP p (trim f) = headP p (trimLeft f) := by
  rcases trimLeft_head f with h0 | ⟨c, t, h1, _⟩
  · rw [h0, trim_of_trimLeft_nil f h0]
  · rw [h1, trim_of_trimLeft_cons f c t h1]; rfl

theorem startsWithP_first (p : Char → Bool) (hp : p ',' = false) (l f0 : List Char) (rest : List (List Char))
    (h : splitOn ',' l = f0 :: rest) : startsWithP p l = headP p (trim f0) := by
  rw [startsWithP_eq]
  rcases split_cases ',' l with ⟨_, h2, _⟩ | ⟨g, v, h1, _, h3, _⟩
  · rw [h2] at h; cases h
    exact (headP_trim p l).symm
  · rw [h3] at h; cases h
    rcases trimLeft_head f0 with h0 | ⟨c, t, h4, _⟩
    · rw [h1, trimLeft_append_ws _ _ ((trimLeft_eq_nil_iff f0).mp h0), trimLeft_cons_nonws _ _ (by decide),
        trim_of_trimLeft_nil f0 h0]
      simp [headP, hp]
    · rw [h1, trimLeft_append_of_cons f0 _ c t h4, trim_of_trimLeft_cons f0 c t h4]; rfl

theorem startsWithP_data (p : Char → Bool) (hp : p ',' = false) {l l' : Line} (hr : DataRel l l') :
    startsWithP p l = startsWithP p l' := by
  obtain ⟨_, _, h⟩ := hr
  obtain ⟨i, fs, h1⟩ := List.exists_cons_of_ne_nil (splitOn_ne_nil ',' l)
  obtain ⟨i', fs', h2⟩ := List.exists_cons_of_ne_nil (splitOn_ne_nil ',' l')
  rw [startsWithP_first p hp l i fs h1, startsWithP_first p hp l' i' fs' h2]
  rw [h1, h2] at h
  simp only [List.map_cons, List.cons.injEq] at h
  rw [h.1]

end Femio.Fistr.G3
