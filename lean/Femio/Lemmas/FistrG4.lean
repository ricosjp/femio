import Femio.Lemmas.FistrMshProps
import Mathlib.Logic.Relation

/-! C01, format insensitivity G4 lifted to whole files: repeating the header line of a `!NODE` / `!ELEMENT` block
between two of its data rows does not change what `readMsh` (and `readMshCfg cfg`) returns. -/
namespace Femio.Fistr.G4

def keepLine (l : Line) : Bool := !ignoreLine l

theorem toBlocks_eq_keep (t : List Line) : toBlocks t = (toBlocksAux (t.filter keepLine)).2 := rfl

/-- the scan of `P ++ X` when `X` starts with a header: the blocks of `P` followed by the blocks of `X` -/
theorem toBlocksAux_append_header (P X : List Line) (hd : Line) (hhd : isHeader hd = true) :
    toBlocksAux (P ++ hd :: X) = ((toBlocksAux P).1, (toBlocksAux P).2 ++ (toBlocksAux (hd :: X)).2) := by
  induction P with
  | nil => simp [toBlocksAux, hhd]
  | cons l t ih => cases hl : isHeader l <;> simp [toBlocksAux, hl, ih]

/-- a header followed by header-free rows `d` and anything -/
theorem toBlocksAux_header_data (h : Line) (d R : List Line) (hh : isHeader h = true)
    (hd : ∀ l ∈ d, isHeader l = false) :
    toBlocksAux (h :: (d ++ R)) = ([], (h, d ++ (toBlocksAux R).1) :: (toBlocksAux R).2) := by
  simp [toBlocksAux, hh, toBlocksAux_data d R hd]

theorem filter_keep_headerfree (d : List Line) (hd : ∀ l ∈ d, isHeader l = false) :
    ∀ l ∈ d.filter keepLine, isHeader l = false :=
  fun l hl => hd l (List.mem_filter.mp hl).1

theorem filter_keep_ne_nil (d : List Line) (hne : ∃ l ∈ d, ignoreLine l = false) : d.filter keepLine ≠ [] := by
  obtain ⟨l, hl, hi⟩ := hne
  intro hnil
  have : l ∈ d.filter keepLine := List.mem_filter.mpr ⟨hl, by simp [keepLine, hi]⟩
  rw [hnil] at this
  cases this

/-- blocks of the text without the repeated header -/
theorem toBlocks_unsplit_text (pre d1 R : List Line) (h : Line) (hh : isHeader h = true) (hi : ignoreLine h = false)
    (h1 : ∀ l ∈ d1, isHeader l = false) :
    toBlocks (pre ++ h :: (d1 ++ R)) =
      (toBlocksAux (pre.filter keepLine)).2 ++
        (h, d1.filter keepLine ++ (toBlocksAux (R.filter keepLine)).1) :: (toBlocksAux (R.filter keepLine)).2 := by
  have hk : keepLine h = true := by simp [keepLine, hi]
  rw [toBlocks_eq_keep]
  simp only [List.filter_append, List.filter_cons, hk, if_true]
  rw [toBlocksAux_append_header _ _ _ hh,
    toBlocksAux_header_data h _ _ hh (filter_keep_headerfree d1 h1)]

/-- blocks of the text in which the header `h` is repeated after the rows `d1` -/
theorem toBlocks_split_text (pre d1 R : List Line) (h : Line) (hh : isHeader h = true) (hi : ignoreLine h = false)
    (h1 : ∀ l ∈ d1, isHeader l = false) :
    toBlocks (pre ++ h :: (d1 ++ h :: R)) =
      (toBlocksAux (pre.filter keepLine)).2 ++ (h, d1.filter keepLine) ::
        (h, (toBlocksAux (R.filter keepLine)).1) :: (toBlocksAux (R.filter keepLine)).2 := by
  have hk : keepLine h = true := by simp [keepLine, hi]
  rw [toBlocks_unsplit_text pre d1 (h :: R) h hh hi h1]
  simp [hk, toBlocksAux, hh]

def capType (b : Line × List Line) : Option (List Char) := capture c!"TYPE=" b.1

/-- rows of one `!ELEMENT` block in the mixed branch -/
def perBlock (b : Line × List Line) : Option (List (Nat × List Nat)) :=
  if b.2.isEmpty then none else b.2.mapM fun l => (parseRowI l).bind headTail

def uniformRaw (ebs : List (Line × List Line)) (c0 : List Char) : Option (List (Nat × List (Nat × List Nat))) := do
  let ty ← codeToType c0
  let rows ← (ebs.flatMap (·.2)).mapM (parseRowF parseNatTok)
  if rows.isEmpty then none else pure [(ty, rows)]

def byCodeOf (codes : List (List Char)) (per : List (List (Nat × List Nat))) : List (List Char × List (Nat × List Nat)) :=
  (codes.zip per).foldl (fun d p => dictAppend p.1 p.2 d) []

def mixedRaw (ebs : List (Line × List Line)) (codes : List (List Char)) :
    Option (List (Nat × List (Nat × List Nat))) := do
  let per ← ebs.mapM perBlock
  let typed ← (byCodeOf codes per).mapM fun p => (codeToType p.1).map fun ty => (ty, p.2)
  pure (sortByKey (typed.foldl (fun d p => natDictSet p.1 p.2 d) []))

def rawOf (ebs : List (Line × List Line)) (codes : List (List Char)) : Option (List (Nat × List (Nat × List Nat))) :=
  match codes with
  | [] => none
  | c0 :: _ => (if codes.all (· == c0) then uniformRaw ebs c0 else mixedRaw ebs codes).bind fun raw => raw.mapM reorderPrism

def elemsOf (ebs : List (Line × List Line)) : Option (List (Nat × List (Nat × List Nat))) :=
  (ebs.mapM capType).bind (rawOf ebs)

theorem readElements_eq (bs : List (Line × List Line)) : readElements bs = elemsOf (blocksOf c!"!ELEMENT" bs) := by
  unfold readElements elemsOf
  generalize blocksOf c!"!ELEMENT" bs = ebs
  change Option.bind (ebs.mapM capType) _ = _
  cases hc : ebs.mapM capType with
  | none => rfl
  | some codes =>
    cases codes with
    | nil => rfl
    | cons c0 cs =>
      simp only [Option.bind_some, rawOf]
      by_cases hall : (c0 :: cs).all (· == c0) = true
      · simp only [hall, if_true, uniformRaw]
        cases codeToType c0 with
        | none => rfl
        | some ty =>
          cases hr : (ebs.flatMap (·.2)).mapM (parseRowF parseNatTok) with
          | none => simp
          | some rows => cases rows <;> simp [List.mapM_cons, List.mapM_nil]
      · simp only [hall, mixedRaw]
        unfold perBlock byCodeOf
        cases List.mapM (fun b : Line × List Line =>
          if b.2.isEmpty then none else b.2.mapM fun l => (parseRowI l).bind headTail) ebs with
        | none => rfl
        | some per =>
          simp only [Option.bind_eq_bind, Option.bind_some, pure]
          cases List.mapM (fun p : List Char × List (Nat × List Nat) => Option.map (fun ty => (ty, p.2)) (codeToType p.1))
            (List.foldl (fun d p => dictAppend p.1 p.2 d) [] ((c0 :: cs).zip per)) <;> rfl

theorem mapM_split2 {α β} (f : α → Option β) (E₁ E₂ : List α) (x y : α) :
    (E₁ ++ x :: y :: E₂).mapM f =
      (E₁.mapM f).bind fun a => (f x).bind fun u => (f y).bind fun v => (E₂.mapM f).bind fun b =>
        some (a ++ u :: v :: b) := by
  rw [List.mapM_append, List.mapM_cons, List.mapM_cons]
  cases E₁.mapM f <;> cases f x <;> cases f y <;> cases E₂.mapM f <;> rfl

theorem mapM_split1 {α β} (f : α → Option β) (E₁ E₂ : List α) (x : α) :
    (E₁ ++ x :: E₂).mapM f =
      (E₁.mapM f).bind fun a => (f x).bind fun u => (E₂.mapM f).bind fun b => some (a ++ u :: b) := by
  rw [List.mapM_append, List.mapM_cons]
  cases E₁.mapM f <;> cases f x <;> cases E₂.mapM f <;> rfl

theorem mapM_append_opt {α β} (f : α → Option β) (l₁ l₂ : List α) :
    (l₁ ++ l₂).mapM f = (l₁.mapM f).bind fun a => (l₂.mapM f).bind fun b => some (a ++ b) := by
  rw [List.mapM_append]
  cases l₁.mapM f <;> cases l₂.mapM f <;> rfl

/-- appending twice under the same key = appending the concatenation -/
theorem dictAppend_dictAppend {β} (k : List Char) (r1 r2 : List β) (D : List (List Char × List β)) :
    dictAppend k r2 (dictAppend k r1 D) = dictAppend k (r1 ++ r2) D := by
  induction D with
  | nil => simp [dictAppend]
  | cons p t ih =>
    obtain ⟨a, b⟩ := p
    by_cases hak : a = k
    · simp [dictAppend, hak]
    · simp [dictAppend, hak, ih]

theorem byCodeOf_split (c₁ c₂ : List (List Char)) (c : List Char) (p₁ p₂ : List (List (Nat × List Nat)))
    (r1 r2 : List (Nat × List Nat)) (hlen : c₁.length = p₁.length) :
    byCodeOf (c₁ ++ c :: c :: c₂) (p₁ ++ r1 :: r2 :: p₂) = byCodeOf (c₁ ++ c :: c₂) (p₁ ++ (r1 ++ r2) :: p₂) := by
  unfold byCodeOf
  rw [List.zip_append hlen, List.zip_append hlen]
  simp only [List.zip_cons_cons, List.foldl_append, List.foldl_cons, dictAppend_dictAppend]

theorem perBlock_append (h : Line) (e1 e2 : List Line) (h1 : e1 ≠ []) (h2 : e2 ≠ []) :
    perBlock (h, e1 ++ e2) =
      (perBlock (h, e1)).bind fun r1 => (perBlock (h, e2)).bind fun r2 => some (r1 ++ r2) := by
  have h12 : e1 ++ e2 ≠ [] := by simp [h1]
  simp only [perBlock, List.isEmpty_iff, h1, h2, h12, if_false, mapM_append_opt]

theorem uniformRaw_split (E₁ E₂ : List (Line × List Line)) (h : Line) (e1 e2 : List Line) (c0 : List Char) :
    uniformRaw (E₁ ++ (h, e1) :: (h, e2) :: E₂) c0 = uniformRaw (E₁ ++ (h, e1 ++ e2) :: E₂) c0 := by
  unfold uniformRaw
  simp

theorem mixedRaw_split (E₁ E₂ : List (Line × List Line)) (h : Line) (e1 e2 : List Line)
    (c₁ c₂ : List (List Char)) (c : List Char) (h1 : e1 ≠ []) (h2 : e2 ≠ [])
    (hc1 : E₁.mapM capType = some c₁) :
    mixedRaw (E₁ ++ (h, e1) :: (h, e2) :: E₂) (c₁ ++ c :: c :: c₂) =
      mixedRaw (E₁ ++ (h, e1 ++ e2) :: E₂) (c₁ ++ c :: c₂) := by
  unfold mixedRaw
  rw [mapM_split2, mapM_split1, perBlock_append h e1 e2 h1 h2]
  cases hp1 : E₁.mapM perBlock with
  | none => rfl
  | some p₁ =>
    have hlen : c₁.length = p₁.length :=
      (mapM_eq_some_iff.mp hc1).length_eq.symm.trans (mapM_eq_some_iff.mp hp1).length_eq
    cases perBlock (h, e1) with
    | none => rfl
    | some r1 =>
      cases perBlock (h, e2) with
      | none => rfl
      | some r2 =>
        cases E₂.mapM perBlock with
        | none => rfl
        | some p₂ =>
          simp only [Option.bind_eq_bind, Option.bind_some, byCodeOf_split c₁ c₂ c p₁ p₂ r1 r2 hlen]

theorem all_split (c₁ c₂ : List (List Char)) (c c0 : List Char) :
    (c₁ ++ c :: c :: c₂).all (· == c0) = (c₁ ++ c :: c₂).all (· == c0) := by
  simp only [List.all_append, List.all_cons]
  cases (c == c0) <;> simp

theorem rawOf_split (E₁ E₂ : List (Line × List Line)) (h : Line) (e1 e2 : List Line)
    (c₁ c₂ : List (List Char)) (c : List Char) (h1 : e1 ≠ []) (h2 : e2 ≠ [])
    (hc1 : E₁.mapM capType = some c₁) :
    rawOf (E₁ ++ (h, e1) :: (h, e2) :: E₂) (c₁ ++ c :: c :: c₂) =
      rawOf (E₁ ++ (h, e1 ++ e2) :: E₂) (c₁ ++ c :: c₂) := by
  have key : ∀ c0 : List Char,
      (if (c₁ ++ c :: c :: c₂).all (· == c0) then uniformRaw (E₁ ++ (h, e1) :: (h, e2) :: E₂) c0
        else mixedRaw (E₁ ++ (h, e1) :: (h, e2) :: E₂) (c₁ ++ c :: c :: c₂)) =
      (if (c₁ ++ c :: c₂).all (· == c0) then uniformRaw (E₁ ++ (h, e1 ++ e2) :: E₂) c0
        else mixedRaw (E₁ ++ (h, e1 ++ e2) :: E₂) (c₁ ++ c :: c₂)) := by
    intro c0
    rw [all_split, uniformRaw_split, mixedRaw_split E₁ E₂ h e1 e2 c₁ c₂ c h1 h2 hc1]
  cases c₁ with
  | nil =>
    have hk := key c
    simp only [List.nil_append] at hk ⊢
    simp only [rawOf, hk]
  | cons a t =>
    have hk := key a
    simp only [List.cons_append] at hk ⊢
    simp only [rawOf, hk]

/-- **the `!ELEMENT` section (uniform and mixed branch) does not see a cut with a non-empty part on each side** -/
theorem elemsOf_split (E₁ E₂ : List (Line × List Line)) (h : Line) (e1 e2 : List Line) (h1 : e1 ≠ []) (h2 : e2 ≠ []) :
    elemsOf (E₁ ++ (h, e1) :: (h, e2) :: E₂) = elemsOf (E₁ ++ (h, e1 ++ e2) :: E₂) := by
  unfold elemsOf
  rw [mapM_split2, mapM_split1]
  have hcap : ∀ e : List Line, capType (h, e) = capture c!"TYPE=" h := fun _ => rfl
  simp only [hcap]
  cases hc1 : E₁.mapM capType with
  | none => rfl
  | some c₁ =>
    cases capture c!"TYPE=" h with
    | none => rfl
    | some c =>
      cases E₂.mapM capType with
      | none => rfl
      | some c₂ =>
        simp only [Option.bind_some]
        exact rawOf_split E₁ E₂ h e1 e2 c₁ c₂ c h1 h2 hc1

/-- the section keys the reader looks for besides `!NODE` / `!ELEMENT` -/
def otherKeys : List (List Char) :=
  [c!"!NGROUP", c!"!EGROUP", c!"!MATERIAL", c!"!SECTION", c!"!INITIAL CONDITION"]

/-- `h` is a header line that belongs to the `!NODE` section only, or to the `!ELEMENT` section only
    (`isItem1`: `readMaterials` tests the header of EVERY block for `!ITEM=1`, whatever section key it carries) -/
def SplitHeader (h : Line) : Prop :=
  isHeader h = true ∧ ignoreLine h = false ∧ isItem1 h = false ∧ (∀ k ∈ otherKeys, hasSub k h = false) ∧
  (hasSub c!"!NODE" h = true ∧ hasSub c!"!ELEMENT" h = false ∨
   hasSub c!"!NODE" h = false ∧ hasSub c!"!ELEMENT" h = true)

instance (h : Line) : Decidable (SplitHeader h) := by unfold SplitHeader; infer_instance

theorem blocksOf_split_false (key h : Line) (e1 e2 : List Line) (B C : List (Line × List Line))
    (hk : hasSub key h = false) :
    blocksOf key (B ++ (h, e1) :: (h, e2) :: C) = blocksOf key (B ++ (h, e1 ++ e2) :: C) := by
  simp [blocksOf, List.filter_append, hk]

theorem blocksOf_split_true (key h : Line) (e1 e2 : List Line) (B C : List (Line × List Line))
    (hk : hasSub key h = true) :
    blocksOf key (B ++ (h, e1) :: (h, e2) :: C) = blocksOf key B ++ (h, e1) :: (h, e2) :: blocksOf key C ∧
    blocksOf key (B ++ (h, e1 ++ e2) :: C) = blocksOf key B ++ (h, e1 ++ e2) :: blocksOf key C := by
  simp [blocksOf, List.filter_append, hk]

theorem filterItem_split (h : Line) (e1 e2 : List Line) (B C : List (Line × List Line)) (hk : isItem1 h = false) :
    List.filter (fun b : Line × List Line => isItem1 b.1) (B ++ (h, e1) :: (h, e2) :: C) =
      List.filter (fun b : Line × List Line => isItem1 b.1) (B ++ (h, e1 ++ e2) :: C) := by
  simp [List.filter_append, hk]

theorem readNodes_split (h : Line) (e1 e2 : List Line) (B C : List (Line × List Line)) :
    readNodes (B ++ (h, e1) :: (h, e2) :: C) = readNodes (B ++ (h, e1 ++ e2) :: C) := by
  unfold readNodes; rw [extractData_split]

/-- the `!ELEMENT` section: a `!NODE`-only header is invisible, an `!ELEMENT` header needs non-empty parts -/
theorem readElements_split (h : Line) (e1 e2 : List Line) (B C : List (Line × List Line))
    (hne : hasSub c!"!ELEMENT" h = true → e1 ≠ [] ∧ e2 ≠ []) :
    readElements (B ++ (h, e1) :: (h, e2) :: C) = readElements (B ++ (h, e1 ++ e2) :: C) := by
  rw [readElements_eq, readElements_eq]
  cases hk : hasSub c!"!ELEMENT" h with
  | false => rw [blocksOf_split_false _ h e1 e2 B C hk]
  | true =>
    obtain ⟨a, b⟩ := blocksOf_split_true _ h e1 e2 B C hk
    rw [a, b]
    exact elemsOf_split _ _ h e1 e2 (hne hk).1 (hne hk).2

theorem anyEgrp_split (h : Line) (e1 e2 : List Line) (B C : List (Line × List Line)) :
    (blocksOf c!"!ELEMENT" (B ++ (h, e1) :: (h, e2) :: C)).any (fun b => (capture c!"EGRP=" b.1).isSome) =
      (blocksOf c!"!ELEMENT" (B ++ (h, e1 ++ e2) :: C)).any (fun b => (capture c!"EGRP=" b.1).isSome) := by
  cases hk : hasSub c!"!ELEMENT" h with
  | false => rw [blocksOf_split_false _ h e1 e2 B C hk]
  | true =>
    obtain ⟨a, b⟩ := blocksOf_split_true _ h e1 e2 B C hk
    rw [a, b]
    simp only [List.any_append, List.any_cons]
    cases (capture c!"EGRP=" h).isSome <;> simp

/-- **block level**: two consecutive blocks with the same `!NODE`-only / `!ELEMENT`-only header read as the merged
    block (for an `!ELEMENT` header both parts must have a data row: an empty `!ELEMENT` block makes the mixed
    branch of the real reader raise) -/
theorem readBlocks_split (merge : Bool) (h : Line) (e1 e2 : List Line) (B C : List (Line × List Line))
    (hh : SplitHeader h) (hne : hasSub c!"!ELEMENT" h = true → e1 ≠ [] ∧ e2 ≠ []) :
    readBlocks merge (B ++ (h, e1) :: (h, e2) :: C) = readBlocks merge (B ++ (h, e1 ++ e2) :: C) := by
  obtain ⟨-, -, hitem, hother, -⟩ := hh
  have hk : ∀ k ∈ otherKeys, blocksOf k (B ++ (h, e1) :: (h, e2) :: C) = blocksOf k (B ++ (h, e1 ++ e2) :: C) :=
    fun k hk => blocksOf_split_false k h e1 e2 B C (hother k hk)
  unfold readBlocks readGroups readMaterials readSections readInitial
  rw [readNodes_split, readElements_split h e1 e2 B C hne, anyEgrp_split, filterItem_split h e1 e2 B C hitem,
    hk c!"!NGROUP" (by decide), hk c!"!EGROUP" (by decide), hk c!"!MATERIAL" (by decide), hk c!"!SECTION" (by decide),
    hk c!"!INITIAL CONDITION" (by decide)]

/-- general text form: the header `h` is repeated after the header-free rows `d1`; `pre` and `R` are arbitrary text.
    For an `!ELEMENT` header both parts of the cut must keep a data row after the comment / blank filter
    (the second part is the header-free prefix of the filtered `R`). -/
theorem readBlocks_text_split_gen (merge : Bool) (pre d1 R : List Line) (h : Line) (hh : SplitHeader h)
    (h1 : ∀ l ∈ d1, isHeader l = false)
    (hne : hasSub c!"!ELEMENT" h = true →
      (∃ l ∈ d1, ignoreLine l = false) ∧ (toBlocksAux (R.filter keepLine)).1 ≠ []) :
    readBlocks merge (toBlocks (pre ++ h :: (d1 ++ h :: R))) = readBlocks merge (toBlocks (pre ++ h :: (d1 ++ R))) := by
  rw [toBlocks_split_text pre d1 R h hh.1 hh.2.1 h1, toBlocks_unsplit_text pre d1 R h hh.1 hh.2.1 h1]
  exact readBlocks_split merge h _ _ _ _ hh fun hk => ⟨filter_keep_ne_nil d1 (hne hk).1, (hne hk).2⟩

theorem prefix_ne_nil (d2 post : List Line) (h2 : ∀ l ∈ d2, isHeader l = false)
    (hne : ∃ l ∈ d2, ignoreLine l = false) : (toBlocksAux ((d2 ++ post).filter keepLine)).1 ≠ [] := by
  rw [List.filter_append, toBlocksAux_data _ _ (filter_keep_headerfree d2 h2)]
  simp [filter_keep_ne_nil d2 hne]

/-- text form with the second part `d2` of the block made explicit (`post` is arbitrary text: the block of the
    repeated header is `d2` followed by the header-free prefix of `post`) -/
theorem readBlocks_text_split (merge : Bool) (pre d1 d2 post : List Line) (h : Line) (hh : SplitHeader h)
    (h1 : ∀ l ∈ d1, isHeader l = false) (h2 : ∀ l ∈ d2, isHeader l = false)
    (hne : hasSub c!"!ELEMENT" h = true → (∃ l ∈ d1, ignoreLine l = false) ∧ (∃ l ∈ d2, ignoreLine l = false)) :
    readBlocks merge (toBlocks (pre ++ h :: d1 ++ h :: d2 ++ post)) =
      readBlocks merge (toBlocks (pre ++ h :: d1 ++ d2 ++ post)) := by
  have := readBlocks_text_split_gen merge pre d1 (d2 ++ post) h hh h1
    fun hk => ⟨(hne hk).1, prefix_ne_nil d2 post h2 (hne hk).2⟩
  simpa only [List.append_assoc, List.cons_append] using this

/-- **G4 for a `!NODE` block, whole file**: no non-emptiness condition, `pre` and `R` arbitrary text -/
theorem readMsh_split_node (pre d1 R : List Line) (h : Line) (hh : SplitHeader h)
    (hn : hasSub c!"!ELEMENT" h = false) (h1 : ∀ l ∈ d1, isHeader l = false) :
    readMsh (pre ++ h :: d1 ++ h :: R) = readMsh (pre ++ h :: d1 ++ R) := by
  have := readBlocks_text_split_gen false pre d1 R h hh h1 (fun hk => by rw [hn] at hk; cases hk)
  simpa only [readMsh, List.append_assoc, List.cons_append] using this

/-- **G4, whole file (combined)**: repeating the header `h` of a `!NODE` / `!ELEMENT` block between two of its rows
    does not change what `readMsh` returns; `pre`, `post` are arbitrary text. -/
theorem readMsh_split (pre d1 d2 post : List Line) (h : Line) (hh : SplitHeader h)
    (h1 : ∀ l ∈ d1, isHeader l = false) (h2 : ∀ l ∈ d2, isHeader l = false)
    (hne : hasSub c!"!ELEMENT" h = true → (∃ l ∈ d1, ignoreLine l = false) ∧ (∃ l ∈ d2, ignoreLine l = false)) :
    readMsh (pre ++ h :: d1 ++ h :: d2 ++ post) = readMsh (pre ++ h :: d1 ++ d2 ++ post) :=
  readBlocks_text_split false pre d1 d2 post h hh h1 h2 hne

/-- **G4 for an `!ELEMENT` block (uniform or mixed mesh), whole file**: each part of the cut has a data row that
    survives the comment / blank filter -/
theorem readMsh_split_element (pre d1 d2 post : List Line) (h : Line) (hh : SplitHeader h)
    (h1 : ∀ l ∈ d1, isHeader l = false) (h2 : ∀ l ∈ d2, isHeader l = false)
    (hne1 : ∃ l ∈ d1, ignoreLine l = false) (hne2 : ∃ l ∈ d2, ignoreLine l = false) :
    readMsh (pre ++ h :: d1 ++ h :: d2 ++ post) = readMsh (pre ++ h :: d1 ++ d2 ++ post) :=
  readMsh_split pre d1 d2 post h hh h1 h2 fun _ => ⟨hne1, hne2⟩

theorem filter_keepBang_headerfree (d : List Line) (hd : ∀ l ∈ d, isHeader l = false) : d.filter keepBang = d :=
  List.filter_eq_self.mpr fun l hl => keepBang_of_not_header l (hd l hl)

theorem readMshCfg_eq (cfg : ReadCfg) (t : List Line) :
    readMshCfg cfg t = readBlocks cfg.merge (toBlocks (if cfg.bang then t.filter keepBang else t)) := rfl

/-- **G4, whole file, every repair configuration** (`bang`: `!!` lines are comments, `merge`: group blocks are united).
    No extra hypothesis for `bang = true`: header-free rows never start with `!!`, and if `h` itself starts with
    `!!` both texts are filtered to the same text. -/
theorem readMshCfg_split (cfg : ReadCfg) (pre d1 d2 post : List Line) (h : Line) (hh : SplitHeader h)
    (h1 : ∀ l ∈ d1, isHeader l = false) (h2 : ∀ l ∈ d2, isHeader l = false)
    (hne : hasSub c!"!ELEMENT" h = true → (∃ l ∈ d1, ignoreLine l = false) ∧ (∃ l ∈ d2, ignoreLine l = false)) :
    readMshCfg cfg (pre ++ h :: d1 ++ h :: d2 ++ post) = readMshCfg cfg (pre ++ h :: d1 ++ d2 ++ post) := by
  rw [readMshCfg_eq, readMshCfg_eq]
  cases hb : cfg.bang with
  | false => exact readBlocks_text_split cfg.merge pre d1 d2 post h hh h1 h2 hne
  | true =>
    simp only [if_true, List.filter_append, List.filter_cons,
      filter_keepBang_headerfree d1 h1, filter_keepBang_headerfree d2 h2]
    cases hk : keepBang h with
    | false => simp
    | true =>
      simp only [if_true]
      exact readBlocks_text_split cfg.merge _ d1 d2 _ h hh h1 h2 hne

/-- `Split1 t t'`: `t'` is `t` with the header of one `!NODE` / `!ELEMENT` block repeated between two of its rows -/
inductive Split1 : List Line → List Line → Prop
  | cut (pre d1 d2 post : List Line) (h : Line) (hh : SplitHeader h)
      (h1 : ∀ l ∈ d1, isHeader l = false) (h2 : ∀ l ∈ d2, isHeader l = false)
      (hne : hasSub c!"!ELEMENT" h = true →
        (∃ l ∈ d1, ignoreLine l = false) ∧ (∃ l ∈ d2, ignoreLine l = false)) :
      Split1 (pre ++ h :: d1 ++ d2 ++ post) (pre ++ h :: d1 ++ h :: d2 ++ post)

/-- **G4 iterated**: any number of cuts (blocks split into several blocks), every configuration -/
theorem readMshCfg_splits (cfg : ReadCfg) {t t' : List Line} (hs : Relation.ReflTransGen Split1 t t') :
    readMshCfg cfg t' = readMshCfg cfg t := by
  induction hs with
  | refl => rfl
  | tail _ hstep ih =>
    obtain ⟨pre, d1, d2, post, h, hh, h1, h2, hne⟩ := hstep
    rw [readMshCfg_split cfg pre d1 d2 post h hh h1 h2 hne, ih]

theorem readMsh_eq_cfg (t : List Line) : readMsh t = readMshCfg ⟨false, false⟩ t := rfl

/-- **G4 iterated, upstream reader** -/
theorem readMsh_splits {t t' : List Line} (hs : Relation.ReflTransGen Split1 t t') : readMsh t' = readMsh t := by
  rw [readMsh_eq_cfg, readMsh_eq_cfg]; exact readMshCfg_splits _ hs

/-! #### non-vacuity: a mixed mesh (tetrahedron + two triangles), the triangle block split in two -/

def g4Pre : List Line :=
  [c!"!NODE", c!"1,0,0,0", c!"2,1,0,0", c!"# a comment", c!"3,0,1,0", c!"4,0,0,1",
   c!"!ELEMENT,TYPE=341", c!"1,1,2,3,4"]
def g4Hdr : Line := c!"!ELEMENT,TYPE=731"
def g4Text : List Line := g4Pre ++ g4Hdr :: [c!"2,1,2,3"] ++ [c!"3,2,3,4"] ++ [c!"!END"]
def g4TextSplit : List Line := g4Pre ++ g4Hdr :: [c!"2,1,2,3"] ++ g4Hdr :: [c!"3,2,3,4"] ++ [c!"!END"]

theorem g4_split1 : Split1 g4Text g4TextSplit :=
  Split1.cut g4Pre [c!"2,1,2,3"] [c!"3,2,3,4"] [c!"!END"] g4Hdr (by decide +kernel) (by decide +kernel) (by decide +kernel) (by decide +kernel)

theorem g4Text_reads : (readMsh g4Text).isSome = true ∧
    (readMsh g4Text).map (fun r => r.elems.map fun b => (b.1, b.2)) =
      some [(3, [(2, [1, 2, 3]), (3, [2, 3, 4])]), (8, [(1, [1, 2, 3, 4])])] ∧
    toBlocks g4TextSplit ≠ toBlocks g4Text := by decide +kernel

example : readMsh g4TextSplit = readMsh g4Text ∧
    (readMsh g4Text).isSome = true ∧
    (readMsh g4Text).map (fun r => r.elems.map fun b => (b.1, b.2)) =
      some [(3, [(2, [1, 2, 3]), (3, [2, 3, 4])]), (8, [(1, [1, 2, 3, 4])])] ∧
    toBlocks g4TextSplit ≠ toBlocks g4Text :=
  ⟨readMsh_splits (Relation.ReflTransGen.single g4_split1), g4Text_reads⟩

/-- two cuts in a row (the `!NODE` block after its second row, then the triangle block): the iterated statement;
    the leading `[] ++` is the empty `pre` of `Split1.cut` -/
def g4TextSplit2 : List Line :=
  [] ++ c!"!NODE" :: [c!"1,0,0,0", c!"2,1,0,0"] ++ c!"!NODE" ::
    [c!"# a comment", c!"3,0,1,0", c!"4,0,0,1", c!"!ELEMENT,TYPE=341", c!"1,1,2,3,4"] ++
    (g4Hdr :: [c!"2,1,2,3"] ++ g4Hdr :: [c!"3,2,3,4"] ++ [c!"!END"])

theorem g4_split2 : Split1 g4TextSplit g4TextSplit2 :=
  Split1.cut [] [c!"1,0,0,0", c!"2,1,0,0"] [] _ c!"!NODE" (by decide +kernel) (by decide +kernel) (by decide +kernel) (by decide +kernel)

example : Relation.ReflTransGen Split1 g4Text g4TextSplit2 ∧ readMsh g4TextSplit2 = readMsh g4Text ∧
    readMshCfg ⟨true, true⟩ g4TextSplit2 = readMshCfg ⟨true, true⟩ g4Text :=
  have hs := (Relation.ReflTransGen.single g4_split1).tail g4_split2
  ⟨hs, readMsh_splits hs, readMshCfg_splits _ hs⟩

/-- the non-emptiness condition of the `!ELEMENT` case is necessary: with a part of the cut that has no data row
    (here: only a comment) the mixed branch raises on the split file, while the unsplit file reads -/
example :
    readMsh (g4Pre ++ g4Hdr :: [c!"# only a comment"] ++ g4Hdr :: [c!"2,1,2,3", c!"3,2,3,4"] ++ [c!"!END"]) = none ∧
    (readMsh (g4Pre ++ g4Hdr :: [c!"# only a comment"] ++ [c!"2,1,2,3", c!"3,2,3,4"] ++ [c!"!END"])).isSome = true := by
  decide +kernel

end Femio.Fistr.G4
