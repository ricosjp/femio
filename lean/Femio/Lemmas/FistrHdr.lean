import Femio.Model.FistrCanon
import Femio.Lemmas.FistrG3a

/-! Header lines of the written `.msh` file, for the whole-file round trip of C01 (`Lemmas/FistrRoundtrip.lean`):
a written header is a keyword followed by comma-separated `NAME=value` parameters (`hdrLine`); the section it belongs
to is read off the keyword, and a `KEY=(\w+)` search returns the value of the first parameter whose name ends with
`KEY`.  Also the characters of written data lines. -/
namespace Femio.Fistr.RT
open Numeral Femio.C01

theorem isPrefix_mem (key s : List Char) (h : isPrefix key s = true) : ∀ x ∈ key, x ∈ s := by
  induction key generalizing s with
  | nil => intro x hx; cases hx
  | cons a k ih =>
    cases s with
    | nil => simp [isPrefix] at h
    | cons b s =>
      simp only [isPrefix, Bool.and_eq_true, beq_iff_eq] at h
      intro x hx
      rcases List.mem_cons.mp hx with rfl | hx
      · rw [h.1]; exact List.mem_cons_self
      · exact List.mem_cons_of_mem _ (ih s h.2 x hx)

theorem hasSub_cons_of_not_mem (x : Char) (k rest : List Char) (h : x ∉ rest) :
    hasSub (x :: k) (x :: rest) = isPrefix k rest := by
  simp [hasSub, isPrefix, hasSub_no_first x k rest h]

theorem captureP_none_of_not_mem (key : List Char) (p : Char → Bool) (s : List Char) (x : Char)
    (hx : x ∈ key) (hxs : x ∉ s) : captureP key p s = none := by
  induction s with
  | nil => rfl
  | cons c t ih =>
    rw [captureP, if_neg fun h => hxs (isPrefix_mem key _ h.1 x hx)]
    exact ih (fun m => hxs (List.mem_cons_of_mem _ m))

theorem isItem1_go_no_bang (s : List Char) (h : '!' ∉ s) : isItem1.go s = false := by
  induction s with
  | nil => rfl
  | cons c t ih =>
    have hc : ('!' == c) = false := by
      simp only [beq_eq_false_iff_ne, ne_eq]; exact fun e => h (e ▸ List.mem_cons_self)
    simp [isItem1.go, isPrefix, hc, ih (fun m => h (List.mem_cons_of_mem _ m))]

theorem isPrefix_key_eq (key k v : List Char) (hk : '=' ∉ key) (hk' : '=' ∉ k) :
    isPrefix (key ++ ['=']) (k ++ '=' :: v) = decide (key = k) := by
  induction key generalizing k with
  | nil =>
    cases k with
    | nil => simp [isPrefix]
    | cons c k =>
      have : c ≠ '=' := fun e => hk' (e ▸ List.mem_cons_self)
      simp [isPrefix, Ne.symm this]
  | cons a key ih =>
    have ha : a ≠ '=' := fun e => hk (e ▸ List.mem_cons_self)
    cases k with
    | nil => simp [isPrefix, ha]
    | cons c k =>
      simp only [List.cons_append, isPrefix, ih k (fun m => hk (List.mem_cons_of_mem _ m))
        (fun m => hk' (List.mem_cons_of_mem _ m)), List.cons.injEq, Bool.decide_and, beq_eq_decide]

theorem captureP_field (key : List Char) (p : Char → Bool) (k v : List Char) (hk : '=' ∉ key) (hk' : '=' ∉ k)
    (hv : '=' ∉ v) :
    captureP (key ++ ['=']) p (k ++ '=' :: v) =
      if key <:+ k ∧ v.takeWhile p ≠ [] then some (v.takeWhile p) else none := by
  have hdrop : ((key ++ ['=']) ++ v).drop (key ++ ['=']).length = v := List.drop_left
  induction k with
  | nil =>
    have hnone := captureP_none_of_not_mem (key ++ ['=']) p v '=' (by simp) hv
    rw [List.nil_append, captureP, hnone, ← List.nil_append ('=' :: v), isPrefix_key_eq key [] v hk hk']
    by_cases h : key = []
    · subst h; simp
    · simp [h]
  | cons c k ih =>
    have hk'' : '=' ∉ k := fun m => hk' (List.mem_cons_of_mem _ m)
    rw [List.cons_append, captureP, ← List.cons_append, isPrefix_key_eq key (c :: k) v hk hk', ih hk'']
    by_cases h : key = c :: k
    · have hns : ¬ key <:+ k := fun hs => by
        have := hs.length_le; rw [h] at this; simp at this
      have e : c :: k ++ '=' :: v = (key ++ ['=']) ++ v := by simp [h]
      rw [e, hdrop]
      rw [h] at hns
      simp [h, hns]
    · simp [h, List.suffix_cons_iff]

def hdrLine (kw : List Char) (ps : List (List Char × List Char)) : Line :=
  joinSep ',' (kw :: ps.map fun f => f.1 ++ '=' :: f.2)

/-- characters of keywords and parameter names: none that the header scan or a `KEY=` search reacts to -/
def plainCh (c : Char) : Bool := c != '!' && c != '#' && c != ',' && c != '='

theorem plainCh_of_word {c : Char} (h : isWord c = true) : plainCh c = true := by
  unfold plainCh
  simp only [Bool.and_eq_true, bne_iff_ne, ne_eq]
  refine ⟨⟨⟨?_, ?_⟩, ?_⟩, ?_⟩ <;> rintro rfl <;> revert h <;> decide

def ParamsOK : List (List Char × List Char) → Prop
  | [] => True
  | f :: ps => f.1.all plainCh = true ∧ IsToken f.2 ∧ ParamsOK ps

structure HdrOK (kw : List Char) (ps : List (List Char × List Char)) : Prop where
  keyword : kw.all plainCh = true
  params : ParamsOK ps

theorem hdrLine_bang (kw : List Char) (ps : List (List Char × List Char)) :
    hdrLine ('!' :: kw) ps = '!' :: hdrLine kw ps := by
  cases ps <;> rfl

theorem ParamsOK.mem {ps : List (List Char × List Char)} (h : ParamsOK ps) :
    ∀ f ∈ ps, (∀ c ∈ f.1, plainCh c = true) ∧ IsToken f.2 := by
  induction ps with
  | nil => intro f hf; cases hf
  | cons g ps ih =>
    intro f hf
    rcases List.mem_cons.mp hf with rfl | hf
    · exact ⟨List.all_eq_true.mp h.1, h.2.1⟩
    · exact ih h.2.2 f hf

theorem not_mem_hdrLine {kw : List Char} {ps : List (List Char × List Char)} (h : HdrOK kw ps) (x : Char)
    (hx : plainCh x = false ∧ x ≠ ',' ∧ x ≠ '=') : x ∉ hdrLine kw ps := fun hm => by
  rw [hdrLine, G3.mem_joinSep ',' x hx.2.1] at hm
  obtain ⟨f, hf, hxf⟩ := hm
  have hp : plainCh x = true := by
    rcases List.mem_cons.mp hf with rfl | hf
    · exact List.all_eq_true.mp h.keyword x hxf
    · obtain ⟨g, hg, rfl⟩ := List.mem_map.mp hf
      obtain ⟨h1, h2⟩ := h.params.mem g hg
      rcases List.mem_append.mp hxf with hx1 | hx2
      · exact h1 x hx1
      · rcases List.mem_cons.mp hx2 with rfl | hx2
        · exact absurd rfl hx.2.2
        · exact plainCh_of_word (h2.2 x hx2)
  rw [hx.1] at hp
  cases hp

inductive Sec | node | elem | ngroup | egroup | material | section | initial | item
  deriving DecidableEq

def Sec.all : List Sec := [.node, .elem, .ngroup, .egroup, .material, .section, .initial, .item]

theorem Sec.mem_all (s : Sec) : s ∈ Sec.all := by cases s <;> decide

def Sec.key : Sec → List Char
  | .node => c!"NODE" | .elem => c!"ELEMENT" | .ngroup => c!"NGROUP" | .egroup => c!"EGROUP"
  | .material => c!"MATERIAL" | .section => c!"SECTION" | .initial => c!"INITIAL CONDITION" | .item => c!"ITEM"

/-- `!ITEM=1` has a test of its own, not a key search -/
def Sec.test : Sec → Line → Bool
  | .item => isItem1
  | s => hasSub ('!' :: s.key)

theorem isItem1_cons_bang (rest : List Char) (h : '!' ∉ rest) (hp : isPrefix c!"ITEM" rest = false) :
    isItem1 ('!' :: rest) = false := by
  unfold isItem1
  rw [isItem1.go]
  simp [isPrefix, hp, isItem1_go_no_bang rest h]

theorem ignoreLine_cons_bang (rest : List Char) (h : '#' ∉ rest) : ignoreLine ('!' :: rest) = false := by
  simp [ignoreLine, isWs, h]

structure Belongs (h : Line) (t : Option Sec) : Prop where
  hdr : isHeader h = true
  keep : ignoreLine h = false
  test : ∀ s ∈ Sec.all, s.test h = decide (t = some s)

theorem belongs_hdrLine {kw : List Char} {ps : List (List Char × List Char)} (h : HdrOK kw ps) (t : Option Sec)
    (hkw : ∀ s ∈ Sec.all, isPrefix s.key kw = decide (t = some s)) (ht : t ≠ some .item) :
    Belongs (hdrLine ('!' :: kw) ps) t := by
  have hb := not_mem_hdrLine h '!' (by decide)
  have hj : ∀ K, ',' ∉ K → isPrefix K (hdrLine kw ps) = isPrefix K kw := fun K hK => G3.isPrefix_join K hK kw _
  have hi : isPrefix c!"ITEM" kw = false := (hkw .item (Sec.mem_all _)).trans (decide_eq_false ht)
  rw [hdrLine_bang]
  refine ⟨rfl, ignoreLine_cons_bang _ (not_mem_hdrLine h '#' (by decide)), fun s hs => (Eq.trans ?_ (hkw s hs))⟩
  cases s
  case item => exact (isItem1_cons_bang _ hb ((hj _ (by decide)).trans hi)).trans hi.symm
  all_goals exact (hasSub_cons_of_not_mem '!' _ _ hb).trans (hj _ (by decide))

theorem captureP_hdrLine (key : List Char) (p : Char → Bool) {kw : List Char} {ps : List (List Char × List Char)}
    (h : HdrOK kw ps) (hk : G3.keyOK (key ++ ['=']) = true) (hk' : '=' ∉ key) (hp : p ',' = false)
    (hv : ∀ f ∈ ps, key <:+ f.1 → ∀ c ∈ f.2, p c = true) :
    captureP (key ++ ['=']) p (hdrLine ('!' :: kw) ps) = ps.findSome? fun f => if key <:+ f.1 then some f.2 else none := by
  have hkw : captureP (key ++ ['=']) p ('!' :: kw) = none :=
    captureP_none_of_not_mem _ p _ '=' (by simp) (fun hm => by
      rcases List.mem_cons.mp hm with h0 | h0
      · cases h0
      · have := List.all_eq_true.mp h.keyword '=' h0; revert this; decide)
  have hscan : G3.scan (G3.mCap (key ++ ['=']) p) = captureP (key ++ ['=']) p :=
    funext fun l => (G3.captureP_eq_scan _ p l).symm
  rw [hdrLine, G3.captureP_eq_scan, G3.scan_join (G3.mCap_local _ p hk hp), hscan, List.findSome?_cons, hkw]
  show (ps.map fun f => f.1 ++ '=' :: f.2).findSome? (captureP (key ++ ['=']) p) = _
  have hps := h.params
  clear h hkw
  induction ps with
  | nil => rfl
  | cons g ps ih =>
    obtain ⟨h1, h2, h3⟩ := hps
    have e1 : '=' ∉ g.1 := fun hm => by have := List.all_eq_true.mp h1 '=' hm; revert this; decide
    have e2 : '=' ∉ g.2 := fun hm => by have := plainCh_of_word (h2.2 '=' hm); revert this; decide
    simp only [List.map_cons, List.findSome?_cons, captureP_field key p g.1 g.2 hk' e1 e2]
    rw [ih (fun f hf => hv f (List.mem_cons_of_mem _ hf)) h3]
    by_cases hs : key <:+ g.1
    · have := (span_all p g.2 (hv g List.mem_cons_self hs)).1
      simp [hs, this, h2.1]
    · simp [hs]

theorem capture_hdrLine (key : List Char) {kw : List Char} {ps : List (List Char × List Char)}
    (h : HdrOK kw ps) (hk : G3.keyOK (key ++ ['=']) = true) (hk' : '=' ∉ key) :
    capture (key ++ ['=']) (hdrLine ('!' :: kw) ps) = ps.findSome? fun f => if key <:+ f.1 then some f.2 else none := by
  rw [G3.capture_eq_captureP]
  exact captureP_hdrLine key isWord h hk hk' (by decide) (fun f hf _ => (h.params.mem f hf).2.2)

theorem joinSep_ne_nil (sep : Char) (f : List Char) (fs : List (List Char)) (hf : f ≠ []) : joinSep sep (f :: fs) ≠ [] := by
  cases fs with
  | nil => simpa [joinSep] using hf
  | cons g t => simp [joinSep, hf]

theorem dataCh_natRow (xs : List Nat) : ∀ c ∈ renderNatRow xs, isDataCh c = true :=
  dataCh_joinSep _ fun f hf => by obtain ⟨n, _, rfl⟩ := List.mem_map.mp hf; exact sciCh_showNat n

theorem dataCh_nodeLine (r : Nat × List Sci) : ∀ c ∈ nodeLine r, isDataCh c = true :=
  dataCh_joinSep _ fun f hf => by
    rcases List.mem_cons.mp hf with rfl | hf
    · exact sciCh_showNat _
    · obtain ⟨s, _, rfl⟩ := List.mem_map.mp hf; exact sciCh_renderSci 12 s

theorem nodeLine_ok (r : Nat × List Sci) : isHeader (nodeLine r) = false ∧ ignoreLine (nodeLine r) = false :=
  dataLine_ok _ (joinSep_ne_nil _ _ _ (showNat_ne_nil _)) (dataCh_nodeLine r)

theorem elemLine_ok (r : Nat × List Nat) : isHeader (elemLine r) = false ∧ ignoreLine (elemLine r) = false :=
  dataLine_ok _ (by unfold elemLine renderNatRow; exact joinSep_ne_nil _ _ _ (showNat_ne_nil _)) (dataCh_natRow _)

theorem showNat_ok (n : Nat) : isHeader (showNat n) = false ∧ ignoreLine (showNat n) = false :=
  dataLine_ok _ (showNat_ne_nil n) fun c hc => isDataCh_of_digit (showNat_isDigit n c hc)

theorem tempLine_ok (r : Nat × Sci) : isHeader (tempLine r) = false ∧ ignoreLine (tempLine r) = false :=
  nodeLine_ok (r.1, [r.2])

/-- a written data row starts with a digit, so `_extend_assignments` does not take it for a group name -/
theorem startsWith_alpha_showNat (n : Nat) (rest : List Char) : startsWithP isAlpha (showNat n ++ rest) = false := by
  obtain ⟨c, t, hct, hcd⟩ := showNat_cons n
  rw [hct, List.cons_append]
  exact startsWithP_alpha_digit _ hcd

end Femio.Fistr.RT
