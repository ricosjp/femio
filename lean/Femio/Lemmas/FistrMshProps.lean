import Femio.Model.FistrMsh
import Femio.Lemmas.FistrTextProps
import Femio.Lemmas.ListLemmas

/-! Lemmas for C01: rows of the `.msh` file, header scan, block splitting. -/
namespace Femio.Fistr
open Numeral Femio.Gen

theorem renderSci_no_comma (p : Nat) (s : Sci) : ',' ∉ renderSci p s := fun h => by
  have := sciCh_renderSci p s ',' h
  revert this
  decide

theorem isEmpty_map_of_ne_nil {α β} (f : α → β) {l : List α} (h : l ≠ []) : (l.map f).isEmpty = false := by
  cases l with
  | nil => exact absurd rfl h
  | cons a t => rfl

/-- a row of integers (`%d,%d,…`) read by `to_values(data_type=int)` -/
theorem parseRowI_natRow (xs : List Nat) (h : xs ≠ []) : parseRowI (renderNatRow xs) = some xs := by
  unfold parseRowI renderNatRow
  rw [split_join ',' _ (by simpa using h) (by
    intro f hf; obtain ⟨n, _, rfl⟩ := List.mem_map.mp hf; exact comma_not_mem_showNat n)]
  simpa using mapM_map_eq_some_self showNat parseNatTok xs fun a _ => parseNatTok_showNat a

/-- an `!ELEMENT` row read by `to_fem_attribute(data_type=int)` (id through float) -/
theorem parseRowF_elemLine (r : Nat × List Nat) : parseRowF parseNatTok (elemLine r) = some r := by
  unfold parseRowF elemLine renderNatRow
  rw [split_join ',' _ (by simp) (by
    intro f hf; obtain ⟨n, _, rfl⟩ := List.mem_map.mp hf; exact comma_not_mem_showNat n)]
  have := mapM_map_eq_some_self showNat parseNatTok r.2 fun a _ => parseNatTok_showNat a
  simp [parseIdF_showNat, this]

/-- a `!NODE` row -/
theorem parseRowF_nodeLine (r : Nat × List Sci) :
    parseRowF parseDec (nodeLine r) = some (r.1, r.2.map (Sci.toDec 12)) := by
  unfold parseRowF nodeLine
  rw [split_join ',' _ (by simp) (by
    intro f hf
    rcases List.mem_cons.mp hf with rfl | hf
    · exact comma_not_mem_showNat _
    · obtain ⟨s, _, rfl⟩ := List.mem_map.mp hf; exact renderSci_no_comma 12 s)]
  have := mapM_map_eq_some_map (renderSci 12) parseDec (Sci.toDec 12) r.2 fun a _ => parseDec_renderSci 12 a
  simp [parseIdF_showNat, this]

/-- an `!INITIAL CONDITION` row -/
theorem parseRowF_tempLine (r : Nat × Sci) : parseRowF parseDec (tempLine r) = some (r.1, [r.2.toDec 12]) := by
  have h : tempLine r = nodeLine (r.1, [r.2]) := rfl
  rw [h, parseRowF_nodeLine]; rfl

theorem permute_prism_spec {α} (l : List α) (h : l.length = 6) :
    ∃ w, permute prismPermWrite l = some w ∧ w.length = 6 ∧ permute prismPermRead w = some l := by
  obtain ⟨a, b, c, d, e, f, rfl⟩ : ∃ a b c d e f, l = [a, b, c, d, e, f] := by
    match l, h with
    | [a, b, c, d, e, f], _ => exact ⟨a, b, c, d, e, f, rfl⟩
  exact ⟨[a, c, b, d, f, e], rfl, rfl, rfl⟩

theorem permute_prism {α} (l : List α) (h : l.length = 6) :
    (permute prismPermWrite l).bind (permute prismPermRead) = some l := by
  obtain ⟨w, hw, -, hr⟩ := permute_prism_spec l h
  rw [hw]
  exact hr

theorem startsWithP_alpha_digit {c : Char} (t : List Char) (hd : isDigit c = true) :
    startsWithP isAlpha (c :: t) = false := by
  simp [startsWithP, trimLeft, List.dropWhile, dataCh_not_ws (isDataCh_of_digit hd), isAlpha_of_isDigit hd]

theorem extendAssignments_of_numeric (ng : List (Name × List Nat)) (rows : List Line)
    (h : ∀ l ∈ rows, startsWithP isAlpha l = false) : extendAssignments ng rows = some rows := by
  have : rows.filter (startsWithP isAlpha) = [] := by
    rw [List.filter_eq_nil_iff]
    intro l hl; simp [h l hl]
  simp [extendAssignments, this]

def renderBlocks (bs : List (Line × List Line)) : List Line := bs.flatMap fun b => b.1 :: b.2

/-- headers start with `!`, data lines do not -/
def WFBlocks (bs : List (Line × List Line)) : Prop :=
  ∀ b ∈ bs, isHeader b.1 = true ∧ ∀ l ∈ b.2, isHeader l = false

theorem renderBlocks_append (a b : List (Line × List Line)) : renderBlocks (a ++ b) = renderBlocks a ++ renderBlocks b :=
  List.flatMap_append

theorem toBlocksAux_data (d rest : List Line) (hd : ∀ l ∈ d, isHeader l = false) :
    toBlocksAux (d ++ rest) = (d ++ (toBlocksAux rest).1, (toBlocksAux rest).2) := by
  induction d with
  | nil => simp
  | cons l t ih =>
    simp [toBlocksAux, hd l (by simp), ih (fun x hx => hd x (List.mem_cons_of_mem _ hx))]

theorem toBlocksAux_render (bs : List (Line × List Line)) (h : WFBlocks bs) :
    toBlocksAux (renderBlocks bs) = ([], bs) := by
  induction bs with
  | nil => rfl
  | cons b t ih =>
    have hb := h b (by simp)
    have ht := ih (fun x hx => h x (List.mem_cons_of_mem _ hx))
    have : renderBlocks (b :: t) = b.1 :: (b.2 ++ renderBlocks t) := by simp [renderBlocks]
    rw [this]
    simp [toBlocksAux, hb.1, toBlocksAux_data b.2 _ hb.2, ht]

theorem filter_clean (t : List Line) (h : ∀ l ∈ t, ignoreLine l = false) : t.filter (fun l => !ignoreLine l) = t :=
  List.filter_eq_self.mpr (by intro l hl; simp [h l hl])

theorem toBlocks_of_clean (t : List Line) (h : ∀ l ∈ t, ignoreLine l = false) : toBlocks t = (toBlocksAux t).2 := by
  unfold toBlocks
  rw [filter_clean t h]

/-- the `!!` comment filter of the repaired reader (`cfg.bang`) -/
def keepBang (l : Line) : Bool := !isPrefix c!"!!" l

theorem keepBang_of_not_header (l : Line) (hl : isHeader l = false) : keepBang l = true := by
  cases l with
  | nil => rfl
  | cons c t =>
    have hc : ¬ (c = '!') := by simpa [isHeader] using hl
    have hc' : ¬ ('!' = c) := fun e => hc e.symm
    simp [keepBang, isPrefix, hc']

theorem extractData_split (key : List Char) (h : Line) (d1 d2 : List Line) (pre post : List (Line × List Line)) :
    extractData key (pre ++ (h, d1) :: (h, d2) :: post) = extractData key (pre ++ (h, d1 ++ d2) :: post) := by
  simp only [extractData, blocksOf, List.filter_append, List.filter_cons, List.flatMap_append]
  cases hasSub key h <;> simp

theorem renderBlocks_split (h : Line) (d1 d2 : List Line) (pre post : List (Line × List Line)) :
    renderBlocks (pre ++ (h, d1) :: (h, d2) :: post) = renderBlocks pre ++ (h :: d1 ++ h :: d2 ++ renderBlocks post) := by
  simp [renderBlocks]

theorem wf_split (h : Line) (d1 d2 : List Line) (pre post : List (Line × List Line))
    (hwf : WFBlocks (pre ++ (h, d1 ++ d2) :: post)) : WFBlocks (pre ++ (h, d1) :: (h, d2) :: post) := by
  intro b hb
  have hmid := hwf (h, d1 ++ d2) (by simp)
  simp only [List.mem_append, List.mem_cons] at hb
  rcases hb with hb | rfl | rfl | hb
  · exact hwf b (by simp [hb])
  · exact ⟨hmid.1, fun l hl => hmid.2 l (by simp [hl])⟩
  · exact ⟨hmid.1, fun l hl => hmid.2 l (by simp [hl])⟩
  · exact hwf b (by simp [hb])

end Femio.Fistr
