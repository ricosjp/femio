import Femio.Model.FistrCanon
import Femio.Lemmas.FistrMshProps
import Femio.Lemmas.InsertionSort
import Mathlib.Data.List.Nodup
import Mathlib.Data.List.Perm.Subperm

/-! `remove_useless_nodes` (`removeUseless`): on a node table with distinct ids, all referenced nodes present and
    nodal tables aligned with the node table, the result is the table re-bound to `np.unique` of the referenced ids
    (`pick`), or the input itself when the two lengths agree. -/
namespace Femio.Fistr.RU

def refs (elems : List (Nat × List (Nat × List Nat))) : List Nat := elems.flatMap fun b => b.2.flatMap (·.2)

theorem sortNat_eq_insertionSort (l : List Nat) : sortNat l = List.insertionSort (· ≤ ·) l :=
  foldr_eq_insertionSort _ insertNatAsc (fun _ => rfl) (fun _ _ _ => rfl) l

theorem sortNat_perm (l : List Nat) : (sortNat l).Perm l := by
  rw [sortNat_eq_insertionSort]
  exact List.perm_insertionSort _ l

theorem mem_sortNat (l : List Nat) (i : Nat) : i ∈ sortNat l ↔ i ∈ l :=
  (sortNat_perm l).mem_iff

theorem sortNat_pairwise (l : List Nat) : (sortNat l).Pairwise (· ≤ ·) := by
  rw [sortNat_eq_insertionSort]
  exact List.pairwise_insertionSort _ l

theorem mem_dedupSorted (l : List Nat) (i : Nat) : i ∈ dedupSorted l ↔ i ∈ l := by
  induction l using dedupSorted.induct with
  | case1 => simp [dedupSorted]
  | case2 x => simp [dedupSorted]
  | case3 y t ih =>
    rw [dedupSorted, if_pos rfl, ih]
    simp
  | case4 x y t hxy ih =>
    rw [dedupSorted, if_neg hxy, List.mem_cons, ih]
    simp

theorem dedupSorted_pairwise (l : List Nat) (h : l.Pairwise (· ≤ ·)) : (dedupSorted l).Pairwise (· < ·) := by
  induction l using dedupSorted.induct with
  | case1 => simp [dedupSorted]
  | case2 x => simp [dedupSorted]
  | case3 y t ih =>
    rw [dedupSorted, if_pos rfl]
    exact ih (List.pairwise_cons.mp h).2
  | case4 x y t hxy ih =>
    rw [dedupSorted, if_neg hxy, List.pairwise_cons]
    have hc := List.pairwise_cons.mp h
    refine ⟨?_, ih hc.2⟩
    intro z hz
    rw [mem_dedupSorted] at hz
    have hxy' : x ≤ y := hc.1 y (by simp)
    have hxy'' : x < y := by omega
    rcases List.mem_cons.mp hz with rfl | hz
    · exact hxy''
    · have := (List.pairwise_cons.mp hc.2).1 z hz
      omega

theorem mem_uniqueNat (l : List Nat) (i : Nat) : i ∈ uniqueNat l ↔ i ∈ l := by
  unfold uniqueNat
  rw [mem_dedupSorted, mem_sortNat]

theorem uniqueNat_pairwise (l : List Nat) : (uniqueNat l).Pairwise (· < ·) :=
  dedupSorted_pairwise _ (sortNat_pairwise l)

theorem uniqueNat_nodup (l : List Nat) : (uniqueNat l).Nodup :=
  (uniqueNat_pairwise l).imp (fun h => Nat.ne_of_lt h)

/-- a strictly ascending list is a fixed point of `sortNat` -/
theorem sortNat_of_pairwise_lt (l : List Nat) (h : l.Pairwise (· < ·)) : sortNat l = l :=
  (sortNat_perm l).eq_of_pairwise' (r := (· ≤ ·)) (sortNat_pairwise l) (h.imp (fun h => Nat.le_of_lt h))

/-- two strictly ascending lists with the same members are equal -/
theorem eq_of_pairwise_lt_of_mem_iff (l₁ l₂ : List Nat) (h₁ : l₁.Pairwise (· < ·)) (h₂ : l₂.Pairwise (· < ·))
    (h : ∀ i, i ∈ l₁ ↔ i ∈ l₂) : l₁ = l₂ :=
  List.Pairwise.eq_of_mem_iff h₁ h₂ h

theorem lookupN_eq_lookup {β} (i : Nat) (tbl : List (Nat × β)) : lookupN i tbl = tbl.lookup i :=
  eq_lookup lookupN (fun _ => rfl) (fun _ _ _ _ => rfl) i tbl

theorem lookupN_some_mem {β} (i : Nat) (tbl : List (Nat × β)) (v : β) (h : lookupN i tbl = some v) :
    (i, v) ∈ tbl :=
  mem_of_lookup_eq_some (lookupN_eq_lookup i tbl ▸ h)

theorem lookupN_of_mem_nodup {β} (i : Nat) (tbl : List (Nat × β)) (v : β) (hk : (tbl.map (·.1)).Nodup)
    (h : (i, v) ∈ tbl) : lookupN i tbl = some v :=
  (lookupN_eq_lookup i tbl).trans (lookup_eq_some_of_mem hk h)

theorem lookupN_eq_some_iff {β} (i : Nat) (tbl : List (Nat × β)) (v : β) (hk : (tbl.map (·.1)).Nodup) :
    lookupN i tbl = some v ↔ (i, v) ∈ tbl :=
  ⟨lookupN_some_mem i tbl v, lookupN_of_mem_nodup i tbl v hk⟩

theorem mem_pick {β} (used : List Nat) (tbl : List (Nat × β)) (hk : (tbl.map (·.1)).Nodup) (i : Nat) (v : β) :
    (i, v) ∈ pick used tbl ↔ i ∈ used ∧ (i, v) ∈ tbl := by
  unfold pick
  rw [List.mem_filterMap]
  constructor
  · rintro ⟨j, hj, hjv⟩
    rw [Option.map_eq_some_iff] at hjv
    obtain ⟨w, hw, heq⟩ := hjv
    cases heq
    exact ⟨hj, lookupN_some_mem _ _ _ hw⟩
  · rintro ⟨hi, hm⟩
    exact ⟨i, hi, by rw [lookupN_of_mem_nodup i tbl v hk hm]; rfl⟩

theorem pick_nil {β} (tbl : List (Nat × β)) : pick [] tbl = [] := rfl

theorem pick_cons_of_lookup {β} (i : Nat) (us : List Nat) (tbl : List (Nat × β)) (v : β)
    (h : lookupN i tbl = some v) : pick (i :: us) tbl = (i, v) :: pick us tbl := by
  unfold pick
  rw [List.filterMap_cons, h]
  rfl

/-- `posOf` finds the first row with the given id, and so does `lookupN` -/
theorem posOf_getElem {β} (tbl : List (Nat × β)) (i k : Nat) (h : posOf (tbl.map (·.1)) i = some k) :
    ∃ c, tbl[k]? = some (i, c) ∧ lookupN i tbl = some c := by
  induction tbl generalizing k with
  | nil => simp [posOf] at h
  | cons a t ih =>
    obtain ⟨a, b⟩ := a
    by_cases hai : a = i
    · simp only [List.map_cons, posOf, if_pos hai, Option.some.injEq] at h
      subst h; subst hai
      exact ⟨b, by simp, by simp [lookupN]⟩
    · simp only [List.map_cons, posOf, if_neg hai, Option.map_eq_some_iff] at h
      obtain ⟨k', hk', rfl⟩ := h
      obtain ⟨c, hc1, hc2⟩ := ih k' hk'
      exact ⟨c, by simpa using hc1, by simp [lookupN, hai, hc2]⟩

theorem posOf_isSome (ids : List Nat) (i : Nat) (h : i ∈ ids) : ∃ k, posOf ids i = some k :=
  eq_idxOf? posOf (fun _ => rfl) (fun _ _ _ => rfl) ids i ▸ Option.isSome_iff_exists.mp (List.isSome_idxOf?.mpr h)

theorem mapM_posOf_isSome (ids us : List Nat) (h : ∀ i ∈ us, i ∈ ids) : ∃ idx, us.mapM (posOf ids) = some idx := by
  induction us with
  | nil => exact ⟨[], rfl⟩
  | cons i t ih =>
    obtain ⟨k, hk⟩ := posOf_isSome ids i (h i (by simp))
    obtain ⟨idx, hidx⟩ := ih (fun j hj => h j (List.mem_cons_of_mem _ hj))
    exact ⟨k :: idx, by simp [List.mapM_cons, hk, hidx]⟩

/-- picking rows by position = `pick` -/
theorem mapM_getElem_of_posOf {β} (tbl : List (Nat × β)) (us idx : List Nat)
    (h : us.mapM (posOf (tbl.map (·.1))) = some idx) :
    idx.mapM (fun k => tbl[k]?) = some (pick us tbl) ∧ (pick us tbl).map (·.1) = us := by
  have h' := mapM_eq_some_iff.mp h
  clear h
  induction h' with
  | nil => exact ⟨rfl, rfl⟩
  | @cons i k t idx' hik _ ih =>
    obtain ⟨c, hc1, hc2⟩ := posOf_getElem tbl i k hik
    rw [pick_cons_of_lookup i t tbl c hc2, List.mapM_cons, hc1, ih.1]
    exact ⟨rfl, by rw [List.map_cons, ih.2]⟩

theorem mapM_map_snd {α β} (f : Nat → Option (α × β)) (idx : List Nat) (l : List (α × β))
    (h : idx.mapM f = some l) : idx.mapM (fun k => (f k).map (·.2)) = some (l.map (·.2)) :=
  mapM_eq_some_iff.mpr (List.forall₂_map_right_iff.mpr
    ((mapM_eq_some_iff.mp h).imp fun k a hk => by rw [hk]; rfl))

/-- in the "nothing to remove" branch the referenced ids are a permutation of the node ids -/
theorem uniqueNat_perm_of_length_eq (ids : List Nat) (elems : List (Nat × List (Nat × List Nat)))
    (href : ∀ i ∈ refs elems, i ∈ ids) (hlen : ids.length = (uniqueNat (refs elems)).length) :
    (uniqueNat (refs elems)).Perm ids :=
  (List.subperm_of_subset (uniqueNat_nodup _)
    (fun i hi => href i ((mem_uniqueNat _ i).mp hi))).perm_of_length_le (by rw [hlen])

/-- in the "nothing to remove" branch the node ids are distinct and `np.unique` of the references is the sorted
    id column -/
theorem uniqueNat_eq_sortNat_of_length_eq (nodes : List (Nat × List Dec)) (elems : List (Nat × List (Nat × List Nat)))
    (href : ∀ i ∈ refs elems, i ∈ nodes.map (·.1))
    (hlen : nodes.length = (uniqueNat (refs elems)).length) :
    (nodes.map (·.1)).Nodup ∧ uniqueNat (refs elems) = sortNat (nodes.map (·.1)) := by
  have hperm := uniqueNat_perm_of_length_eq (nodes.map (·.1)) elems href (by rw [List.length_map]; exact hlen)
  exact ⟨hperm.nodup_iff.mp (uniqueNat_nodup _),
    (hperm.trans (sortNat_perm _).symm).eq_of_pairwise' (r := (· ≤ ·))
      ((uniqueNat_pairwise _).imp (fun h => Nat.le_of_lt h)) (sortNat_pairwise _)⟩

/-- the per-table step of `removeUseless` -/
def nodalStep (used idx : List Nat) (p : Name × List (Nat × List Dec)) : Option (Name × List (Nat × List Dec)) := do
  let data ← idx.mapM fun k => (p.2[k]?).map (·.2)
  pure (p.1, used.zip data)

theorem nodalStep_eq (ids used idx : List Nat) (p : Name × List (Nat × List Dec))
    (hal : p.2.map (·.1) = ids) (h : used.mapM (posOf ids) = some idx) :
    nodalStep used idx p = some (p.1, pick used p.2) := by
  subst hal
  obtain ⟨h1, h2⟩ := mapM_getElem_of_posOf p.2 used idx h
  have h3 := mapM_map_snd (fun k => p.2[k]?) idx _ h1
  unfold nodalStep
  rw [h3]
  have : used.zip ((pick used p.2).map (·.2)) = pick used p.2 := (List.zip_of_prod h2 rfl).symm
  simp [this]

/-- `remove_useless_nodes` on a table that holds all referenced nodes, with nodal tables aligned with it.  The ids
    need not be distinct: `posOf` and `lookupN` both take the FIRST row with a given id, and in the equal-length
    branch distinctness follows from the count -/
theorem removeUseless_spec (nodes : List (Nat × List Dec)) (elems : List (Nat × List (Nat × List Nat)))
    (nodal : List (Name × List (Nat × List Dec)))
    (href : ∀ i ∈ refs elems, i ∈ nodes.map (·.1))
    (hal : ∀ p ∈ nodal, p.2.map (·.1) = nodes.map (·.1)) :
    removeUseless nodes elems nodal =
      if nodes.length = (uniqueNat (refs elems)).length then some (nodes, nodal)
      else some (pick (uniqueNat (refs elems)) nodes,
        nodal.map fun p => (p.1, pick (uniqueNat (refs elems)) p.2)) := by
  have hsub : ∀ i ∈ uniqueNat (refs elems), i ∈ nodes.map (·.1) := fun i hi =>
    href i ((mem_uniqueNat _ i).mp hi)
  unfold removeUseless
  dsimp only
  change (if (nodes.map (·.1)).length = (uniqueNat (refs elems)).length then _ else _) = _
  rw [List.length_map]
  by_cases hlen : nodes.length = (uniqueNat (refs elems)).length
  · rw [if_pos hlen, if_pos hlen]
    exact if_pos (uniqueNat_eq_sortNat_of_length_eq nodes elems href hlen).2
  · rw [if_neg hlen, if_neg hlen]
    obtain ⟨idx, hidx⟩ := mapM_posOf_isSome (nodes.map (·.1)) (uniqueNat (refs elems)) hsub
    obtain ⟨h1, -⟩ := mapM_getElem_of_posOf nodes _ idx hidx
    have h2 : nodal.mapM (nodalStep (uniqueNat (refs elems)) idx) =
        some (nodal.map fun p => (p.1, pick (uniqueNat (refs elems)) p.2)) :=
      mapM_eq_some_map _ _ nodal (fun p hp => nodalStep_eq _ _ idx p (hal p hp) hidx)
    change (do
      let idx ← (uniqueNat (refs elems)).mapM (posOf (nodes.map Prod.fst))
      let nodes' ← idx.mapM fun k => nodes[k]?
      let nodal' ← nodal.mapM (nodalStep (uniqueNat (refs elems)) idx)
      pure (nodes', nodal')) = _
    rw [hidx]
    simp only [Option.bind_eq_bind, Option.bind_some, h1, h2]
    rfl

/-- the rows `remove_useless_nodes` keeps of a table keyed by the node ids (`n` rows), in either branch: those of the
    referenced nodes.  The row count is an argument of its own because `canon` tests `m.nodes.length`, whatever table
    (`canonNodes m`, a temperature table) is re-bound -/
theorem mem_kept {β} (elems : List (Nat × List (Nat × List Nat))) (tbl : List (Nat × β)) (n : Nat) (hn : n = tbl.length)
    (hnd : (tbl.map (·.1)).Nodup) (href : ∀ i ∈ refs elems, i ∈ tbl.map (·.1)) (i : Nat) (v : β) :
    (i, v) ∈ (if n = (uniqueNat (refs elems)).length then tbl else pick (uniqueNat (refs elems)) tbl) ↔
      i ∈ refs elems ∧ (i, v) ∈ tbl := by
  subst hn
  split
  · rename_i hlen
    refine ⟨fun h => ⟨?_, h⟩, fun h => h.2⟩
    have hperm := uniqueNat_perm_of_length_eq (tbl.map (·.1)) elems href (by rw [List.length_map]; exact hlen)
    exact (mem_uniqueNat _ i).mp (hperm.mem_iff.mpr (List.mem_map.mpr ⟨(i, v), h, rfl⟩))
  · rw [mem_pick _ _ hnd, mem_uniqueNat]

end Femio.Fistr.RU
