import Femio.Lemmas.FistrHdr
import Femio.Lemmas.FistrRU
import Femio.Lemmas.FistrG4

/-! Whole-file round trip of the FrontISTR `.msh` model (C01): the text `writeMsh m` produces is, block by block,
`fileBlocks m`; the header scan returns these blocks; every section key finds exactly its blocks (symbolic group /
material names); every `read…` function returns the written data; `remove_useless_nodes` (via `Lemmas/FistrRU`). -/

namespace Femio.Fistr.RT
open Numeral Femio.Gen Femio.C01

/-- the FrontISTR code written for element type `t` (`0` off the table; `writerTypes_codes` is about the types on it) -/
def wcode (t : Nat) : Nat := (lookupN t fistrTypeToCode).getD 0

/-- the row as the writer prints it (prisms re-ordered; a prism row that is not of length 6 is not written at all) -/
def permW (t : Nat) (r : Nat × List Nat) : Nat × List Nat :=
  if t = 12 then (r.1, (permute prismPermWrite r.2).getD []) else r

theorem map_permW_of_ne {t : Nat} (h : t ≠ 12) (rows : List (Nat × List Nat)) : rows.map (permW t) = rows :=
  (List.map_congr_left (g := id) fun _ _ => if_neg h).trans (List.map_id rows)

def wrows (b : Nat × List (Nat × List Nat)) : List (Nat × List Nat) := b.2.map (permW b.1)

def elemBlk (b : Nat × List (Nat × List Nat)) : Line × List Line :=
  (elemHeader (wcode b.1), (wrows b).map elemLine)

/-- the writer's two spellings of the group header -/
def grpHdr (tight : Bool) (n : Name) : Line := hdrLine c!"!EGROUP" [(if tight then c!"EGRP" else c!" EGRP", n)]
def grpBlk (tight : Bool) (g : Name × List Nat) : Line × List Line := (grpHdr tight g.1, g.2.map showNat)

/-- the condition under which the writer takes the `write_formatted_strings` branch -/
def tightGroups (m : MshIn) : Bool :=
  decide ((m.groups.flatMap (·.2)).length = nElemsIn m ∧
    nElemsIn m = m.groups.length + (if m.hasAll then 1 else 0) - 1)

def secHdr (s : SecIn) : Line := hdrLine c!"!SECTION" [(c!"TYPE", secType s), (c!"EGRP", s.egrp), (c!"MATERIAL", s.mat)]
def matHdr (s : SecIn) : Line := hdrLine c!"!MATERIAL" [(c!"NAME", s.mat), (c!"ITEM", c!"1")]
def itemHdr : Line := c!"!ITEM=1,SUBITEM=2"
def matLine (s : SecIn) : Line := renderSci 8 s.young ++ ',' :: renderSci 8 s.poisson
theorem matLine_eq (s : SecIn) : matLine s = joinSep ',' [renderSci 8 s.young, renderSci 8 s.poisson] := rfl
def secBlk (s : SecIn) : Line × List Line := (secHdr s, if s.shell then [c!"1.0,1"] else [])
def matBlk (s : SecIn) : Line × List Line := (matHdr s, [])
def itemBlk (s : SecIn) : Line × List Line := (itemHdr, [matLine s])
def tempBlk (t : List (Nat × Sci)) : Line × List Line := (tempHeader, t.map tempLine)

def fileSegs (m : MshIn) : List (Option Sec × List (Line × List Line)) :=
  [(none, [(c!"!HEADER", [c!"Data written by femio"])]), (some .node, [(c!"!NODE", m.nodes.map nodeLine)]),
   (some .elem, m.blocks.map elemBlk), (some .egroup, m.groups.map (grpBlk (tightGroups m))),
   (some .section, m.sec.toList.map secBlk), (some .material, m.sec.toList.map matBlk),
   (some .item, m.sec.toList.map itemBlk), (some .initial, m.temp.toList.map tempBlk), (none, [(c!"!END", [])])]

def fileBlocks (m : MshIn) : List (Line × List Line) := (fileSegs m).flatMap (·.2)

theorem writerTypes_codes : ∀ t ∈ writerTypes, lookupN t fistrTypeToCode = some (wcode t) ∧
    ((wcode t = 351 ∨ wcode t = 352) ↔ t = 12) ∧ codeToType (showNat (wcode t)) = some t := by decide +kernel

theorem writeBlock_eq (b : Nat × List (Nat × List Nat)) (ht : b.1 ∈ writerTypes)
    (h6 : b.1 = 12 → ∀ r ∈ b.2, r.2.length = 6) :
    writeBlock b = some ((elemBlk b).1 :: (elemBlk b).2) := by
  obtain ⟨hc, h12, -⟩ := writerTypes_codes b.1 ht
  unfold writeBlock elemBlk wrows
  rw [hc]
  by_cases h : b.1 = 12
  · have hp := mapM_eq_some_map (fun r => (permute prismPermWrite r.2).map fun c => (r.1, c)) (permW 12) b.2 fun r hr => by
      obtain ⟨w, hw, -, -⟩ := permute_prism_spec r.2 (h6 h r hr)
      simp [hw, permW]
    simp only [Option.bind_eq_bind, Option.bind_some, Option.pure_def, if_pos (h12.mpr h), hp]
    rw [h]
  · simp [h12, h, map_permW_of_ne h]

theorem length_flatMap_ge {α β} (gs : List (α × List β)) (h : ∀ g ∈ gs, g.2 ≠ []) :
    gs.length ≤ (gs.flatMap (·.2)).length := by
  induction gs with
  | nil => simp
  | cons g t ih =>
    have h1 : 1 ≤ g.2.length := List.length_pos_iff.mpr (h g (by simp))
    have := ih (fun x hx => h x (List.mem_cons_of_mem _ hx))
    simp only [List.flatMap_cons, List.length_append, List.length_cons]
    omega

/-- groups of one element each: row k of the zipped table is (k-th name, its only member) -/
theorem zip_singletons (H : Name → Line) (gs : List (Name × List Nat)) (h : ∀ g ∈ gs, g.2 ≠ [])
    (hlen : (gs.flatMap (·.2)).length = gs.length) :
    ((gs.zip (gs.flatMap (·.2))).flatMap fun (g, v) => [H g.1, showNat v]) =
      gs.flatMap fun g => H g.1 :: g.2.map showNat := by
  induction gs with
  | nil => rfl
  | cons g t ih =>
    have ht := fun x hx => h x (List.mem_cons_of_mem _ hx)
    have h1 : 1 ≤ g.2.length := List.length_pos_iff.mpr (h g (by simp))
    have h2 := length_flatMap_ge t ht
    simp only [List.flatMap_cons, List.length_append, List.length_cons] at hlen
    have hg : g.2.length = 1 := by omega
    obtain ⟨v, hv⟩ := List.length_eq_one_iff.mp hg
    have hlen' : (t.flatMap (·.2)).length = t.length := by omega
    simp only [List.flatMap_cons, hv, List.zip_cons_cons, List.map_cons, List.map_nil,
      List.cons_append, List.nil_append]
    rw [ih ht hlen']

theorem groupLines_eq (m : MshIn) (h : ∀ g ∈ m.groups, g.2 ≠ []) :
    groupLines m = some (renderBlocks (m.groups.map (grpBlk (tightGroups m)))) := by
  unfold groupLines
  by_cases hemp : m.groups = []
  · simp [hemp, renderBlocks]
  have hne : m.groups.isEmpty = false := by simpa using hemp
  rw [hne]
  simp only [Bool.false_eq_true, if_false]
  by_cases hc : (m.groups.flatMap (·.2)).length = nElemsIn m ∧
      nElemsIn m = m.groups.length + (if m.hasAll then 1 else 0) - 1
  · have hge := length_flatMap_ge m.groups h
    have hpos : 1 ≤ m.groups.length := List.length_pos_iff.mpr hemp
    have hlen : m.groups.length = (m.groups.flatMap (·.2)).length := by
      obtain ⟨h1, h2⟩ := hc
      split at h2 <;> omega
    have ht : tightGroups m = true := by unfold tightGroups; exact decide_eq_true hc
    rw [if_pos hc, if_pos hlen, ht]
    simp only [renderBlocks, List.flatMap_map, grpBlk]
    exact congrArg some (zip_singletons (grpHdr true) m.groups h hlen.symm)
  · have ht : tightGroups m = false := by unfold tightGroups; exact decide_eq_false hc
    rw [if_neg hc, ht]
    simp only [renderBlocks, List.flatMap_map, grpBlk]
    congr 1
    apply List.flatMap_congr
    intro g hg
    have : g.2.isEmpty = false := by simpa using h g hg
    simp only [idLines, this, Bool.false_eq_true, if_false]
    rfl

/-- **the writer's text is the rendering of `fileBlocks`** -/
theorem writeMsh_eq (m : MshIn) (hwf : WF m) : writeMsh m = some (renderBlocks (fileBlocks m)) := by
  have hb := mapM_eq_some_map writeBlock _ m.blocks fun b hb => writeBlock_eq b (hwf.blocks_ok b hb).1 (hwf.prism b hb)
  have hg := groupLines_eq m (fun g hg => (hwf.groups_ok g hg).1)
  have e2 : renderBlocks (m.blocks.map elemBlk) = (m.blocks.map fun b => (elemBlk b).1 :: (elemBlk b).2).flatten := by
    simp [renderBlocks, List.flatMap_def, List.map_map, Function.comp_def]
  have e3 : ∀ rest, renderBlocks (m.sec.toList.map secBlk) ++ (renderBlocks (m.sec.toList.map matBlk) ++
      (renderBlocks (m.sec.toList.map itemBlk) ++ rest)) = (match m.sec with | some s => secLines s | none => []) ++ rest := by
    intro rest
    cases m.sec with
    | none => rfl
    | some s =>
      cases hs : s.shell <;>
        simp [renderBlocks, secBlk, matBlk, itemBlk, secLines, secHdr, secType, matHdr, itemHdr, matLine, hdrLine, joinSep, hs]
  have e4 : renderBlocks (m.temp.toList.map tempBlk) =
      (match m.temp with | some t => tempHeader :: t.map tempLine | none => []) := by
    cases m.temp with
    | none => rfl
    | some t => simp [renderBlocks, tempBlk]
  unfold writeMsh
  rw [hb, hg]
  simp only [Option.pure_def, Option.bind_eq_bind, Option.bind_some, fileBlocks, fileSegs, List.flatMap_cons,
    List.flatMap_nil, renderBlocks_append]
  rw [e2, e3, e4]
  simp only [renderBlocks, List.flatMap_cons, List.flatMap_nil, List.append_assoc, List.cons_append, List.nil_append,
    List.append_nil]
  rfl

theorem isToken_showNat (n : Nat) : IsToken (showNat n) :=
  ⟨showNat_ne_nil n, fun c hc => by simp [isWord, showNat_isDigit n c hc]⟩

theorem elemHeader_ok (code : Nat) : HdrOK c!"ELEMENT" [(c!"TYPE", showNat code)] :=
  ⟨rfl, rfl, isToken_showNat code, trivial⟩

theorem grpHdr_ok (tight : Bool) {n : Name} (hn : IsToken n) :
    HdrOK c!"EGROUP" [(if tight then c!"EGRP" else c!" EGRP", n)] :=
  ⟨rfl, by cases tight <;> rfl, hn, trivial⟩

theorem secHdr_ok (s : SecIn) (he : IsToken s.egrp) (hm : IsToken s.mat) :
    HdrOK c!"SECTION" [(c!"TYPE", secType s), (c!"EGRP", s.egrp), (c!"MATERIAL", s.mat)] :=
  ⟨rfl, rfl, by unfold secType; split <;> decide, rfl, he, rfl, hm, trivial⟩

theorem matHdr_ok (s : SecIn) (hm : IsToken s.mat) : HdrOK c!"MATERIAL" [(c!"NAME", s.mat), (c!"ITEM", c!"1")] :=
  ⟨rfl, rfl, hm, rfl, by decide, trivial⟩

theorem const_belongs :
    Belongs c!"!HEADER" none ∧ Belongs c!"!NODE" (some .node) ∧ Belongs itemHdr (some .item) ∧
    Belongs tempHeader (some .initial) ∧ Belongs c!"!END" none := by
  refine ⟨?_, ?_, ?_, ?_, ?_⟩ <;> exact ⟨rfl, by decide +kernel, by decide +kernel⟩

theorem elemHeader_type (code : Nat) : capture c!"TYPE=" (elemHeader code) = some (showNat code) :=
  capture_hdrLine c!"TYPE" (elemHeader_ok code) (by decide) (by decide)

theorem elemHeader_egrp (code : Nat) : capture c!"EGRP=" (elemHeader code) = none :=
  capture_hdrLine c!"EGRP" (elemHeader_ok code) (by decide) (by decide)

theorem grpHdr_capture (tight : Bool) (n : Name) (hn : IsToken n) : capture c!"EGRP=" (grpHdr tight n) = some n := by
  cases tight <;> exact capture_hdrLine c!"EGRP" (grpHdr_ok _ hn) (by decide) (by decide)

theorem secHdr_capture (s : SecIn) (he : IsToken s.egrp) (hm : IsToken s.mat) :
    capture c!"TYPE=" (secHdr s) = some (secType s) ∧ capture c!"EGRP=" (secHdr s) = some s.egrp ∧
    capture c!"MATERIAL=" (secHdr s) = some s.mat :=
  ⟨capture_hdrLine c!"TYPE" (secHdr_ok s he hm) (by decide) (by decide),
   capture_hdrLine c!"EGRP" (secHdr_ok s he hm) (by decide) (by decide),
   capture_hdrLine c!"MATERIAL" (secHdr_ok s he hm) (by decide) (by decide)⟩

theorem matHdr_capture (s : SecIn) (hm : IsToken s.mat) :
    capture c!"NAME=" (matHdr s) = some s.mat ∧ captureP c!"ITEM=" isDigit (matHdr s) = some ['1'] :=
  ⟨capture_hdrLine c!"NAME" (matHdr_ok s hm) (by decide) (by decide),
   captureP_hdrLine c!"ITEM" isDigit (matHdr_ok s hm) (by decide) (by decide) (by decide) fun f hf hs => by
    simp only [List.mem_cons, List.not_mem_nil, or_false] at hf
    rcases hf with rfl | rfl
    · exact absurd hs (by decide : ¬ c!"ITEM" <:+ c!"NAME")
    · decide⟩

theorem tempHeader_type : capture c!"TYPE=" tempHeader = some c!"TEMPERATURE" := by decide

theorem matLine_ok (s : SecIn) : isHeader (matLine s) = false ∧ ignoreLine (matLine s) = false := by
  have hne : renderSci 8 s.young ≠ [] := by
    simp only [renderSci, ne_eq, List.append_eq_nil_iff, not_and]
    intro _ h; cases h
  rw [matLine_eq]
  refine dataLine_ok _ (joinSep_ne_nil _ _ _ hne) (dataCh_joinSep _ fun f hf => ?_)
  simp only [List.mem_cons, List.not_mem_nil, or_false] at hf
  rcases hf with rfl | rfl <;> exact sciCh_renderSci 8 _

theorem segs_ok (m : MshIn) (hwf : WF m) : ∀ seg ∈ fileSegs m, ∀ b ∈ seg.2,
    Belongs b.1 seg.1 ∧ ∀ l ∈ b.2, isHeader l = false ∧ ignoreLine l = false := by
  obtain ⟨kH, kN, kI, kT, kZ⟩ := const_belongs
  intro seg hseg b hb
  simp only [fileSegs, List.mem_cons, List.not_mem_nil, or_false] at hseg
  rcases hseg with rfl | rfl | rfl | rfl | rfl | rfl | rfl | rfl | rfl <;>
    simp only [List.mem_cons, List.not_mem_nil, or_false, List.mem_map, Option.mem_toList] at hb
  · subst hb; exact ⟨kH, by decide⟩
  · subst hb
    exact ⟨kN, List.forall_mem_map.mpr fun r _ => nodeLine_ok r⟩
  · obtain ⟨e, _, rfl⟩ := hb
    exact ⟨belongs_hdrLine (elemHeader_ok _) (some .elem) (by decide) (by decide),
      List.forall_mem_map.mpr fun r _ => elemLine_ok r⟩
  · obtain ⟨g, hg, rfl⟩ := hb
    exact ⟨belongs_hdrLine (grpHdr_ok _ (hwf.groups_ok g hg).2.2) (some .egroup) (by decide) (by decide),
      List.forall_mem_map.mpr fun r _ => showNat_ok r⟩
  · obtain ⟨s, hs, rfl⟩ := hb
    refine ⟨belongs_hdrLine (secHdr_ok s (hwf.sec_ok s hs).1 (hwf.sec_ok s hs).2) (some .section) (by decide)
      (by decide), fun l hl => ?_⟩
    cases hsh : s.shell <;> simp [secBlk, hsh] at hl
    subst hl; decide
  · obtain ⟨s, hs, rfl⟩ := hb
    exact ⟨belongs_hdrLine (matHdr_ok s (hwf.sec_ok s hs).2) (some .material) (by decide) (by decide),
      fun l hl => by cases hl⟩
  · obtain ⟨s, _, rfl⟩ := hb
    refine ⟨kI, fun l hl => ?_⟩
    simp only [itemBlk, List.mem_cons, List.not_mem_nil, or_false] at hl
    subst hl; exact matLine_ok s
  · obtain ⟨t, _, rfl⟩ := hb
    exact ⟨kT, List.forall_mem_map.mpr fun r _ => tempLine_ok r⟩
  · subst hb; exact ⟨kZ, fun l hl => by cases hl⟩

/-- **the header scan of the written text returns the written blocks** -/
theorem toBlocks_file (m : MshIn) (hwf : WF m) : toBlocks (renderBlocks (fileBlocks m)) = fileBlocks m := by
  have hall : ∀ b ∈ fileBlocks m, (isHeader b.1 = true ∧ ignoreLine b.1 = false) ∧
      ∀ l ∈ b.2, isHeader l = false ∧ ignoreLine l = false := fun b hb => by
    obtain ⟨seg, hseg, hbs⟩ := List.mem_flatMap.mp hb
    obtain ⟨h1, h2⟩ := segs_ok m hwf seg hseg b hbs
    exact ⟨⟨h1.hdr, h1.keep⟩, h2⟩
  rw [toBlocks_of_clean, toBlocksAux_render _ (fun b hb => ⟨(hall b hb).1.1, fun l hl => ((hall b hb).2 l hl).1⟩)]
  intro l hl
  simp only [renderBlocks, List.mem_flatMap, List.mem_cons] at hl
  obtain ⟨b, hb, rfl | hl⟩ := hl
  · exact (hall b hb).1.2
  · exact ((hall b hb).2 l hl).2

theorem filter_segs (segs : List (Option Sec × List (Line × List Line))) (s : Sec)
    (h : ∀ seg ∈ segs, ∀ b ∈ seg.2, s.test b.1 = decide (seg.1 = some s)) :
    (segs.flatMap (·.2)).filter (fun b => s.test b.1) = (segs.filter (·.1 == some s)).flatMap (·.2) := by
  induction segs with
  | nil => rfl
  | cons seg t ih =>
    have ht := ih fun x hx => h x (List.mem_cons_of_mem _ hx)
    have hseg := h seg List.mem_cons_self
    rw [List.flatMap_cons, List.filter_append, ht, List.filter_cons]
    by_cases hs : seg.1 = some s
    · rw [List.filter_eq_self.mpr fun b hb => by rw [hseg b hb]; exact decide_eq_true hs, if_pos (by simpa using hs),
        List.flatMap_cons]
    · rw [List.filter_eq_nil_iff.mpr fun b hb => by rw [hseg b hb]; simpa using hs, if_neg (by simpa using hs),
        List.nil_append]

theorem sel (m : MshIn) (hwf : WF m) (s : Sec) :
    (fileBlocks m).filter (fun b => s.test b.1) = ((fileSegs m).filter (·.1 == some s)).flatMap (·.2) :=
  filter_segs _ s fun seg hseg b hb => (segs_ok m hwf seg hseg b hb).1.test s s.mem_all

theorem sel_node (m : MshIn) (hwf : WF m) : blocksOf c!"!NODE" (fileBlocks m) = [(c!"!NODE", m.nodes.map nodeLine)] :=
  sel m hwf .node

theorem sel_elem (m : MshIn) (hwf : WF m) : blocksOf c!"!ELEMENT" (fileBlocks m) = m.blocks.map elemBlk :=
  (sel m hwf .elem).trans (List.append_nil _)

theorem sel_ng (m : MshIn) (hwf : WF m) : blocksOf c!"!NGROUP" (fileBlocks m) = [] :=
  sel m hwf .ngroup

theorem sel_eg (m : MshIn) (hwf : WF m) :
    blocksOf c!"!EGROUP" (fileBlocks m) = m.groups.map (grpBlk (tightGroups m)) :=
  (sel m hwf .egroup).trans (List.append_nil _)

theorem sel_mat (m : MshIn) (hwf : WF m) : blocksOf c!"!MATERIAL" (fileBlocks m) = m.sec.toList.map matBlk :=
  (sel m hwf .material).trans (List.append_nil _)

theorem sel_sec (m : MshIn) (hwf : WF m) : blocksOf c!"!SECTION" (fileBlocks m) = m.sec.toList.map secBlk :=
  (sel m hwf .section).trans (List.append_nil _)

theorem sel_init (m : MshIn) (hwf : WF m) :
    blocksOf c!"!INITIAL CONDITION" (fileBlocks m) = m.temp.toList.map tempBlk :=
  (sel m hwf .initial).trans (List.append_nil _)

theorem sel_item (m : MshIn) (hwf : WF m) :
    (fileBlocks m).filter (fun b => isItem1 b.1) = m.sec.toList.map itemBlk :=
  (sel m hwf .item).trans (List.append_nil _)

structure AppendsFresh {κ β} (ins : κ → β → List (κ × β) → List (κ × β)) : Prop where
  nil : ∀ k v, ins k v [] = [(k, v)]
  cons : ∀ k v a t, a.1 ≠ k → ins k v (a :: t) = a :: ins k v t

theorem AppendsFresh.fresh {κ β} {ins : κ → β → List (κ × β) → List (κ × β)} (hins : AppendsFresh ins) (k : κ) (v : β)
    (acc : List (κ × β)) (h : k ∉ acc.map (·.1)) : ins k v acc = acc ++ [(k, v)] := by
  induction acc with
  | nil => exact hins.nil k v
  | cons a t ih =>
    rw [List.map_cons, List.mem_cons, not_or] at h
    rw [hins.cons k v a t (Ne.symm h.1), ih h.2, List.cons_append]

/-- inserting pairs with fresh, pairwise distinct keys one after the other appends them -/
theorem AppendsFresh.foldl {κ β} {ins : κ → β → List (κ × β) → List (κ × β)} (hins : AppendsFresh ins)
    (l acc : List (κ × β)) (hnd : (acc.map (·.1) ++ l.map (·.1)).Nodup) :
    l.foldl (fun d p => ins p.1 p.2 d) acc = acc ++ l := by
  induction l generalizing acc with
  | nil => simp
  | cons p t ih =>
    have hk : p.1 ∉ acc.map (·.1) := fun hmem =>
      (List.nodup_append.mp hnd).2.2 p.1 hmem p.1 List.mem_cons_self rfl
    rw [List.foldl_cons, hins.fresh p.1 p.2 acc hk, ih (acc ++ [p]) (by simpa [List.append_assoc] using hnd),
      List.append_assoc, List.singleton_append]

theorem appendsFresh_dictAppend {β} : AppendsFresh (dictAppend (β := β)) :=
  ⟨fun _ _ => rfl, fun _ _ _ _ h => if_neg h⟩

theorem appendsFresh_natDictSet {β} : AppendsFresh (natDictSet (β := β)) :=
  ⟨fun _ _ => rfl, fun _ _ _ _ h => if_neg h⟩

theorem appendsFresh_dictSet {β} : AppendsFresh (dictSet (β := β)) :=
  ⟨fun _ _ => rfl, fun _ _ _ _ h => if_neg h⟩

theorem dictOfList_nodup {β} (l : List (List Char × β)) (h : (l.map (·.1)).Nodup) : dictOfList l = l := by
  have := appendsFresh_dictSet.foldl l [] (by simpa using h)
  simpa [dictOfList] using this

theorem sortByKey_of_pairwise {β} (l : List (Nat × β)) (h : (l.map (·.1)).Pairwise (· < ·)) : sortByKey l = l := by
  induction l with
  | nil => rfl
  | cons x t ih =>
    rw [List.map_cons, List.pairwise_cons] at h
    have : sortByKey (x :: t) = insertByKey x (sortByKey t) := rfl
    rw [this, ih h.2]
    cases t with
    | nil => rfl
    | cons y u =>
      exact if_pos (Nat.le_of_lt (h.1 y.1 List.mem_cons_self))

theorem readNodes_file (m : MshIn) (hwf : WF m) : readNodes (fileBlocks m) = some (canonNodes m) := by
  unfold readNodes extractData
  rw [sel_node m hwf]
  simp only [List.flatMap_cons, List.flatMap_nil, List.append_nil]
  rw [isEmpty_map_of_ne_nil nodeLine hwf.nodes_ne]
  simp only [Bool.false_eq_true, if_false]
  rw [mapM_map_eq_some_map nodeLine _ (fun r => (r.1, r.2.map (Sci.toDec 12))) m.nodes]
  · rfl
  · intro r hr
    rw [parseRowF_nodeLine]
    simp only [Option.map_some]
    rw [List.take_of_length_le (by simp [hwf.coords r hr])]

theorem reorderPrism_wrows (b : Nat × List (Nat × List Nat)) (h6 : b.1 = 12 → ∀ r ∈ b.2, r.2.length = 6) :
    reorderPrism (b.1, wrows b) = some b := by
  obtain ⟨t, rows⟩ := b
  simp only at h6
  unfold reorderPrism wrows
  by_cases ht : t = 12
  · subst ht
    simp only [if_true]
    rw [mapM_map_eq_some_self (permW 12) _ rows fun r hr => by
      obtain ⟨w, hw, -, hr'⟩ := permute_prism_spec r.2 (h6 rfl r hr)
      simp [permW, hw, hr']]
    rfl
  · simp [ht, map_permW_of_ne ht]

theorem mapM_reorderPrism_file (bs : List (Nat × List (Nat × List Nat)))
    (h6 : ∀ b ∈ bs, b.1 = 12 → ∀ r ∈ b.2, r.2.length = 6) :
    (bs.map fun b => (b.1, wrows b)).mapM reorderPrism = some bs :=
  mapM_map_eq_some_self _ reorderPrism bs fun b hb => reorderPrism_wrows b (h6 b hb)

theorem perBlock_file (b : Nat × List (Nat × List Nat)) (hne : b.2 ≠ []) : G4.perBlock (elemBlk b) = some (wrows b) := by
  unfold G4.perBlock elemBlk wrows
  simp only [isEmpty_map_of_ne_nil elemLine (mt List.map_eq_nil_iff.mp hne), Bool.false_eq_true, if_false]
  exact mapM_map_eq_some_self elemLine _ _ fun r _ => by unfold elemLine; rw [parseRowI_natRow _ (by simp)]; rfl

theorem parseRowF_wrows (b : Nat × List (Nat × List Nat)) :
    ((wrows b).map elemLine).mapM (parseRowF parseNatTok) = some (wrows b) :=
  mapM_map_eq_some_self elemLine _ _ fun r _ => parseRowF_elemLine r

/-- the written codes are distinct: the reader's table maps them back to the distinct types -/
theorem codes_nodup (bs : List (Nat × List (Nat × List Nat)))
    (hctt : ∀ b ∈ bs, codeToType (showNat (wcode b.1)) = some b.1) (hasc : (bs.map (·.1)).Pairwise (· < ·)) :
    (bs.map fun b => showNat (wcode b.1)).Nodup := by
  have hnd : (bs.map (·.1)).Nodup := hasc.imp (fun h => Nat.ne_of_lt h)
  refine List.Nodup.of_map codeToType ?_
  rw [List.map_map, List.map_congr_left (g := fun b => some b.1) hctt]
  have := hnd.map (Option.some_injective _)
  rwa [List.map_map] at this

theorem mixedRaw_file (bs : List (Nat × List (Nat × List Nat)))
    (hctt : ∀ b ∈ bs, codeToType (showNat (wcode b.1)) = some b.1) (hok : ∀ b ∈ bs, b.2 ≠ [])
    (hasc : (bs.map (·.1)).Pairwise (· < ·)) :
    G4.mixedRaw (bs.map elemBlk) (bs.map fun b => showNat (wcode b.1)) = some (bs.map fun b => (b.1, wrows b)) := by
  -- the codes are distinct, so both dictionary folds (by code, then by type) only append, and the types already ascend
  unfold G4.mixedRaw
  rw [mapM_map_eq_some_map elemBlk G4.perBlock wrows bs (fun b hb => perBlock_file b (hok b hb))]
  simp only [Option.bind_eq_bind, Option.bind_some]
  have hzip : (bs.map fun b => showNat (wcode b.1)).zip (bs.map wrows) = bs.map fun b => (showNat (wcode b.1), wrows b) := by
    rw [List.zip_map']
  have hby : G4.byCodeOf (bs.map fun b => showNat (wcode b.1)) (bs.map wrows) =
      bs.map fun b => (showNat (wcode b.1), wrows b) := by
    unfold G4.byCodeOf
    rw [hzip]
    have := appendsFresh_dictAppend.foldl
      (bs.map fun b => (showNat (wcode b.1), wrows b)) [] (by
        simpa [List.map_map, Function.comp_def] using codes_nodup bs hctt hasc)
    simpa using this
  rw [hby]
  have htyped : (bs.map fun b => (showNat (wcode b.1), wrows b)).mapM
      (fun p => (codeToType p.1).map fun ty => (ty, p.2)) = some (bs.map fun b => (b.1, wrows b)) :=
    mapM_map_eq_some_map _ _ _ bs (fun b hb => by simp [hctt b hb])
  rw [htyped]
  simp only [Option.bind_some, Option.pure_def]
  have hnd : (bs.map (·.1)).Nodup := hasc.imp (fun h => Nat.ne_of_lt h)
  have hfold := appendsFresh_natDictSet.foldl
      (bs.map fun b => (b.1, wrows b)) [] (by simpa [List.map_map, Function.comp_def] using hnd)
  simp only [List.nil_append] at hfold
  rw [hfold, sortByKey_of_pairwise _ (by simpa [List.map_map, Function.comp_def] using hasc)]

theorem elemsOf_file (m : MshIn) (hwf : WF m) : G4.elemsOf (m.blocks.map elemBlk) = some m.blocks := by
  unfold G4.elemsOf
  rw [mapM_map_eq_some_map elemBlk G4.capType (fun b => showNat (wcode b.1)) m.blocks fun _ _ => elemHeader_type _]
  simp only [Option.bind_some]
  have hctt : ∀ b ∈ m.blocks, codeToType (showNat (wcode b.1)) = some b.1 :=
    fun b hb => (writerTypes_codes b.1 (hwf.blocks_ok b hb).1).2.2
  have h6 := hwf.prism
  have hok := hwf.blocks_ok
  have hasc := hwf.types_asc
  have hbne := hwf.blocks_ne
  generalize m.blocks = bs at hctt h6 hok hasc hbne
  match bs, hctt, h6, hok, hasc, hbne with
  | [], _, _, _, _, hbne => exact absurd rfl hbne
  | [b0], hctt, h6, hok, _, _ =>
    have hne : (wrows b0).isEmpty = false := isEmpty_map_of_ne_nil _ (hok b0 (by simp)).2
    simp only [G4.rawOf, List.map_cons, List.map_nil, List.all_cons, List.all_nil, beq_self_eq_true, Bool.and_true,
      if_true, G4.uniformRaw, hctt b0 (by simp), elemBlk, List.flatMap_cons, List.flatMap_nil, List.append_nil]
    simp only [Option.bind_eq_bind, Option.bind_some, parseRowF_wrows b0, hne, Bool.false_eq_true, if_false,
      Option.pure_def]
    exact mapM_reorderPrism_file [b0] (fun b hb => h6 b hb)
  | b0 :: b1 :: rest, hctt, h6, hok, hasc, _ =>
    have hmix := mixedRaw_file (b0 :: b1 :: rest) hctt (fun b hb => (hok b hb).2) hasc
    have hne : showNat (wcode b1.1) ≠ showNat (wcode b0.1) := fun e =>
      (List.nodup_cons.mp (codes_nodup _ hctt hasc)).1 (List.mem_cons.mpr (Or.inl e.symm))
    have hall : ((b0 :: b1 :: rest).map fun b => showNat (wcode b.1)).all (· == showNat (wcode b0.1)) = false := by
      simp [hne]
    simp only [List.map_cons] at hall hmix ⊢
    simp only [G4.rawOf, hall, Bool.false_eq_true, if_false, hmix, Option.bind_some]
    exact mapM_reorderPrism_file (b0 :: b1 :: rest) h6

theorem readElements_file (m : MshIn) (hwf : WF m) : readElements (fileBlocks m) = some m.blocks := by
  rw [G4.readElements_eq, sel_elem m hwf, elemsOf_file m hwf]

theorem egrp_guard_file (m : MshIn) (hwf : WF m) :
    (blocksOf c!"!ELEMENT" (fileBlocks m)).any (fun b => (capture c!"EGRP=" b.1).isSome) = false := by
  rw [sel_elem m hwf, List.any_eq_false]
  intro b hb
  obtain ⟨e, he, rfl⟩ := List.mem_map.mp hb
  simp [elemBlk, elemHeader_egrp]

theorem readGroups_ng_file (m : MshIn) (hwf : WF m) (all : List Nat) :
    readGroups false c!"!NGROUP" c!"NGRP=" all (fileBlocks m) = some [(c!"ALL", all)] := by
  unfold readGroups
  rw [sel_ng m hwf]
  rfl

theorem group_vals (t : Bool) (g : Name × List Nat) (hne : g.2 ≠ []) :
    (if (grpBlk t g).2.isEmpty then none else ((grpBlk t g).2.mapM parseRowI).map List.flatten) = some g.2 := by
  simp only [grpBlk, isEmpty_map_of_ne_nil showNat hne, Bool.false_eq_true, if_false]
  rw [mapM_map_eq_some_map showNat parseRowI (fun e => [e]) _ fun e _ => parseRowI_natRow [e] (by simp)]
  simp [List.flatten_eq_flatMap, List.flatMap_map]

theorem readGroups_eg_file (m : MshIn) (hwf : WF m) (all : List Nat) :
    readGroups false c!"!EGROUP" c!"EGRP=" all (fileBlocks m) = some ((c!"ALL", all) :: m.groups) := by
  unfold readGroups
  rw [sel_eg m hwf]
  have hnames : (m.groups.map (grpBlk (tightGroups m))).mapM (fun b => capture c!"EGRP=" b.1) = some (m.groups.map (·.1)) :=
    mapM_map_eq_some_map _ _ _ m.groups (fun g hg => grpHdr_capture _ g.1 (hwf.groups_ok g hg).2.2)
  have hvals : (m.groups.map (grpBlk (tightGroups m))).mapM
      (fun b => if b.2.isEmpty then none else (b.2.mapM parseRowI).map List.flatten) = some (m.groups.map (·.2)) :=
    mapM_map_eq_some_map _ _ _ m.groups (fun g hg => group_vals _ g (hwf.groups_ok g hg).1)
  simp only [Option.bind_eq_bind, hnames, hvals, Option.bind_some, Bool.false_eq_true, if_false, Option.pure_def]
  have hz : (m.groups.map (·.1)).zip (m.groups.map (·.2)) = m.groups := (List.zip_of_prod rfl rfl).symm
  rw [hz, dictOfList_nodup]
  simp only [List.map_cons, List.nodup_cons]
  refine ⟨?_, hwf.group_names⟩
  intro hmem
  obtain ⟨g, hg, hname⟩ := List.mem_map.mp hmem
  exact (hwf.groups_ok g hg).2.1 hname

theorem readSections_file (m : MshIn) (hwf : WF m) :
    readSections (fileBlocks m) = some (m.sec.toList.map fun s => (s.mat, secType s, s.egrp)) := by
  unfold readSections
  rw [sel_sec m hwf]
  cases hs : m.sec with
  | none => rfl
  | some s =>
    obtain ⟨h1, h2, h3⟩ := secHdr_capture s (hwf.sec_ok s hs).1 (hwf.sec_ok s hs).2
    simp [List.mapM_cons, secBlk, h1, h2, h3]

theorem matLine_split (s : SecIn) : splitOn ',' (matLine s) = [renderSci 8 s.young, renderSci 8 s.poisson] := by
  rw [matLine_eq, split_join ',' _ (by simp) (by
    intro f hf
    simp only [List.mem_cons, List.not_mem_nil, or_false] at hf
    rcases hf with rfl | rfl <;> exact renderSci_no_comma 8 _)]

theorem readMaterials_file (m : MshIn) (hwf : WF m) (nElem : Nat) :
    readMaterials nElem (fileBlocks m) =
      some (m.sec.toList.map fun s => (s.mat, [s.young.toDec 8, s.poisson.toDec 8])) := by
  unfold readMaterials
  rw [sel_mat m hwf, sel_item m hwf]
  cases hs : m.sec with
  | none => rfl
  | some s =>
    obtain ⟨h1, h2⟩ := matHdr_capture s (hwf.sec_ok s hs).2
    have hp : parseNat ['1'] = some 1 := by decide
    -- one `!MATERIAL` block (name `h1`, `ITEM=1` `h2`) and one `!ITEM=1` block whose row `matLine s` holds the two values
    simp only [Option.toList_some, List.map_cons, List.map_nil, matBlk, itemBlk, h2, Option.bind_eq_bind, Option.bind_some, hp,
      ne_eq, not_true_eq_false, if_false, List.mapM_cons, List.mapM_nil, h1, Option.pure_def, List.length_cons,
      List.length_nil, List.flatMap_cons, List.flatMap_nil, List.append_nil, List.isEmpty_cons,
      Nat.zero_add, matLine_split, parseDec_renderSci, Bool.false_eq_true, and_false]
    split <;> simp

theorem extendAssignments_temp (ng : List (Name × List Nat)) (t : List (Nat × Sci)) :
    extendAssignments ng (t.map tempLine) = some (t.map tempLine) :=
  extendAssignments_of_numeric ng _ fun l hl => by
    obtain ⟨r, _, rfl⟩ := List.mem_map.mp hl
    exact startsWith_alpha_showNat r.1 (',' :: renderSci 12 r.2)

theorem readInitial_file (m : MshIn) (hwf : WF m) (ng : List (Name × List Nat)) :
    readInitial ng (m.nodes.map (·.1)) (fileBlocks m) = some (canonTemp m) := by
  unfold readInitial canonTemp
  rw [sel_init m hwf]
  cases ht : m.temp with
  | none => rfl
  | some t =>
    have hids := hwf.temp_ok t ht
    have hlen : t.length = m.nodes.length := by simpa using congrArg List.length hids
    have hne : t ≠ [] := fun h => hwf.nodes_ne (List.length_eq_zero_iff.mp (by rw [← hlen, h]; rfl))
    have hrows : (t.map tempLine).mapM (parseRowF parseDec) = some (t.map fun r => (r.1, [r.2.toDec 12])) :=
      mapM_map_eq_some_map tempLine (parseRowF parseDec) _ t fun r _ => parseRowF_tempLine r
    have hne' := isEmpty_map_of_ne_nil tempLine hne
    -- one block of type `TEMPERATURE`; as many rows as nodes (`hlen`), so nothing is padded
    simp only [Option.toList_some, List.map_cons, List.map_nil, List.mapM_cons, List.mapM_nil, tempHeader_type,
      Option.bind_eq_bind, Option.bind_some, Option.pure_def, tempBlk, extendAssignments_temp, hne', hrows,
      Bool.false_eq_true, if_false, List.zip_cons_cons, List.zip_nil_right, dictOfList, List.foldl_cons, List.foldl_nil,
      dictSet, lookupS, if_true, List.length_map, hlen]

end Femio.Fistr.RT

namespace Femio.C01
open Femio.Fistr Femio.Fistr.RT Femio.Gen Numeral

theorem canonNodes_ids (m : MshIn) : (canonNodes m).map (·.1) = m.nodes.map (·.1) := by
  simp [canonNodes, List.map_map, Function.comp_def]

theorem canonTemp_aligned (m : MshIn) (hwf : WF m) : ∀ p ∈ canonTemp m, p.2.map (·.1) = (canonNodes m).map (·.1) := by
  intro p hp
  simp only [canonTemp, List.mem_map, Option.mem_toList] at hp
  obtain ⟨t, ht, rfl⟩ := hp
  rw [canonNodes_ids, ← hwf.temp_ok t ht]
  simp [List.map_map, Function.comp_def]

theorem removeUseless_file (m : MshIn) (hwf : WF m) :
    removeUseless (canonNodes m) m.blocks (canonTemp m) = some ((canon m).nodes, (canon m).nodal) := by
  have := RU.removeUseless_spec (canonNodes m) m.blocks (canonTemp m)
    (by rw [canonNodes_ids]; exact hwf.refs)
    (canonTemp_aligned m hwf)
  rw [this]
  have hl : (canonNodes m).length = m.nodes.length := by simp [canonNodes]
  have hr : RU.refs m.blocks = referenced m := rfl
  rw [hl, hr]
  unfold canon
  split <;> rfl

/-- the reader on the blocks of the written file -/
theorem readBlocks_file (m : MshIn) (hwf : WF m) : readBlocks false (fileBlocks m) = some (canon m) := by
  unfold readBlocks
  rw [readNodes_file m hwf, readElements_file m hwf]
  simp only [Option.bind_eq_bind, Option.bind_some, egrp_guard_file m hwf, Bool.false_eq_true, if_false,
    canonNodes_ids, readGroups_ng_file m hwf, readGroups_eg_file m hwf, readMaterials_file m hwf, readSections_file m hwf,
    readInitial_file m hwf, removeUseless_file m hwf, Option.pure_def]
  rfl

theorem readMsh_writeMsh (m : MshIn) (hwf : WF m) : (writeMsh m).bind readMsh = some (canon m) := by
  rw [writeMsh_eq m hwf]
  simp only [Option.bind_some, readMsh]
  rw [toBlocks_file m hwf, readBlocks_file m hwf]

theorem mem_tempRows (t : List (Nat × Sci)) (i : Nat) (v : Dec) :
    (i, [v]) ∈ t.map (fun r => (r.1, [r.2.toDec 12])) ↔ ∃ s, (i, s) ∈ t ∧ v = s.toDec 12 := by
  simp only [List.mem_map, Prod.mk.injEq, List.cons.injEq, and_true, Prod.exists]
  constructor
  · rintro ⟨a, b, hab, rfl, rfl⟩; exact ⟨b, hab, rfl⟩
  · rintro ⟨s, hs, rfl⟩; exact ⟨i, s, hs, rfl, rfl⟩

end Femio.C01
