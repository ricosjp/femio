import Femio.Model.Surface
import Femio.Lemmas.ScanPos
import Femio.Lemmas.SurfaceProps

/-! `extract_surface_fistr` (C10): the structural insertion sort `sortBy` is Mathlib's `insertionSort`, `lexLe` is a
    total order on rows, a `lexLe`-sorted list has contiguous equal keys, and therefore the neighbour scan of
    `boundaryLexScan` keeps exactly the rows whose 3-node key occurs once. -/
namespace Femio.C10
open Faces

theorem sortBy_eq_insertionSort {α} (le : α → α → Bool) (l : List α) :
    sortBy le l = List.insertionSort (fun a b => le a b = true) l :=
  foldr_eq_insertionSort _ (insertBy le) (fun _ => rfl) (fun _ _ _ => rfl) l

theorem sortBy_perm {α} (le : α → α → Bool) (l : List α) : (sortBy le l).Perm l := by
  rw [sortBy_eq_insertionSort]
  exact List.perm_insertionSort _ l

theorem fistrRows_cons_tet (id a b c d : Nat) (t : List Core.Elem) :
    fistrRows (⟨id, 8, [a, b, c, d]⟩ :: t) =
      [key [a, b, c] ++ [id, 1], key [a, b, d] ++ [id, 2], key [b, c, d] ++ [id, 3], key [c, a, d] ++ [id, 4]]
        ++ fistrRows t :=
  rfl

theorem elemFaces_tet (id a b c d : Nat) :
    elemFaces ⟨id, 8, [a, b, c, d]⟩ = [[a, c, b], [a, b, d], [b, c, d], [a, d, c]] :=
  rfl

theorem key_eq_of_perm {f g : Face} (h : f.Perm g) : key f = key g := by
  rw [key_eq_insertionSort, key_eq_insertionSort]
  exact List.Perm.eq_of_pairwise (fun a b _ _ => Nat.le_antisymm) (List.pairwise_insertionSort _ f)
    (List.pairwise_insertionSort _ g) ((List.perm_insertionSort _ f).trans (h.trans (List.perm_insertionSort _ g).symm))

theorem key_length (f : Face) : (key f).length = f.length := (key_perm f).length_eq

theorem lexLe_iff_le (a b : List Nat) : lexLe a b = true ↔ a ≤ b := by
  induction a generalizing b with
  | nil => simp [lexLe]
  | cons x s ih =>
    cases b with
    | nil => simp [lexLe]
    | cons y t => simp [lexLe, List.cons_le_cons_iff, ih]

theorem lexLe_total (a b : List Nat) : lexLe a b = true ∨ lexLe b a = true := by
  simpa only [lexLe_iff_le] using Std.Total.total (r := (· ≤ ·)) a b

theorem lexLe_trans (a b c : List Nat) : lexLe a b = true → lexLe b c = true → lexLe a c = true := by
  simpa only [lexLe_iff_le] using IsTrans.trans (r := (· ≤ ·)) a b c

theorem sortBy_pairwise {α} (le : α → α → Bool) (htot : ∀ a b, le a b = true ∨ le b a = true)
    (htr : ∀ a b c, le a b = true → le b c = true → le a c = true) (l : List α) :
    (sortBy le l).Pairwise (fun a b => le a b = true) := by
  rw [sortBy_eq_insertionSort]
  exact pairwise_insertionSort_of_test htr (fun _ _ h => h) (fun a b h => (htot a b).resolve_left h) l

theorem lexLe_take (n : Nat) (a b : List Nat) : lexLe a b = true → lexLe (a.take n) (b.take n) = true := by
  induction n generalizing a b with
  | zero => intro _; simp [lexLe]
  | succ n ih =>
    cases a with
    | nil => intro _; simp [lexLe]
    | cons x s =>
      cases b with
      | nil => intro h; simp [lexLe] at h
      | cons y t =>
        simp only [List.take_succ_cons, lexLe, Bool.or_eq_true, Bool.and_eq_true, decide_eq_true_eq, beq_iff_eq]
        rintro (h | ⟨h, h'⟩)
        · left; exact h
        · right; exact ⟨h, ih s t h'⟩

theorem grouped_of_pairwise (l : List (List Nat)) (h : l.Pairwise (fun a b => lexLe a b = true)) : Grouped l := by
  induction l with
  | nil => trivial
  | cons a t ih =>
    rw [List.pairwise_cons] at h
    refine ⟨?_, ih h.2⟩
    intro b hb hba
    subst hba
    cases t with
    | nil => simp at hb
    | cons c u =>
      have hbc : b ≤ c := (lexLe_iff_le b c).mp (h.1 c (by simp))
      have hcb : c ≤ b := by
        rcases List.mem_cons.mp hb with hb | hb
        · rw [hb]; exact List.le_refl c
        · exact (lexLe_iff_le c b).mp ((List.pairwise_cons.mp h.2).1 b hb)
      simp [List.le_antisymm hbc hcb]

theorem scanAux_eq_root (prev : Option (List Nat)) (l : List (List Nat)) :
    Femio.C10.scanAux prev l = _root_.scanAux prev l := by
  induction l generalizing prev with
  | nil => rfl
  | cons a t ih =>
    simp only [Femio.C10.scanAux, _root_.scanAux, ih]
    congr 1
    rw [Bool.eq_iff_iff]
    cases t <;> simp

/-- `List.count` does not depend on the (lawful) `BEq` instance -/
theorem count_inst {α : Type} (i1 i2 : BEq α) [@LawfulBEq α i1] [@LawfulBEq α i2] (a : α) (l : List α) :
    @List.count α i1 a l = @List.count α i2 a l := by
  induction l with
  | nil => rfl
  | cons b t ih =>
    rw [@List.count_cons α i1, @List.count_cons α i2, ih]
    have : (@BEq.beq α i1 b a) = (@BEq.beq α i2 b a) := by
      rw [Bool.eq_iff_iff, @beq_iff_eq α i1, @beq_iff_eq α i2]
    rw [this]

/-- on a grouped key list the neighbour scan marks exactly the keys that occur once -/
theorem scan_of_grouped (ks : List (List Nat)) (hg : Grouped ks) :
    Femio.C10.scan ks = ks.map (fun k => decide (ks.count k = 1)) := by
  rw [Femio.C10.scan, scanAux_eq_root]
  apply List.ext_getElem
  · simp [scanAux_length]
  · intro i h1 h2
    have hi : i < ks.length := by simpa using h2
    have := scanAux_spec (none : Option (List Nat)) ks hg i hi
    have hc := count_inst instBEqOfDecidableEq List.instBEq ks[i] ks
    simp only [ne_eq, reduceCtorEq, not_false_eq_true, and_true] at this
    rw [hc] at this
    rw [List.getElem_map, Bool.eq_iff_iff, decide_eq_true_eq]
    exact this

/-- filtering by a mask that was computed element-wise is `filter` -/
theorem filter_zip_mask {α : Type} (p : α → Bool) (s : List α) :
    ((s.zip (s.map p)).filter (·.2)).map (·.1) = s.filter p := by
  induction s with
  | nil => rfl
  | cons a t ih =>
    by_cases h : p a = true
    · simp [h, ih]
    · simp [h, ih]

theorem lexScan_of_sorted (n : Nat) (s : List (List Nat)) (hs : s.Pairwise (fun a b => lexLe a b = true)) :
    ((s.zip (scan (s.map (·.take n)))).filter (·.2)).map (fun r => r.1.drop n) =
      (s.filter fun r => decide ((s.map (·.take n)).count (r.take n) = 1)).map (·.drop n) := by
  have hg : Grouped (s.map (·.take n)) :=
    grouped_of_pairwise _ (List.Pairwise.map _ (fun a b h => lexLe_take n a b h) hs)
  rw [scan_of_grouped _ hg, List.map_map]
  rw [← filter_zip_mask (fun r => decide ((s.map (·.take n)).count (r.take n) = 1)) s, List.map_map]
  rfl

/-- `extract_surface_fistr`: the lexsorted rows whose 3-node key occurs exactly once, in sorted order,
    projected to `[element id, face number]` -/
theorem boundaryLexScan_eq (es : List Core.Elem) :
    boundaryLexScan es =
      ((sortBy lexLe (fistrRows es)).filter fun r =>
        decide (((sortBy lexLe (fistrRows es)).map (·.take 3)).count (r.take 3) = 1)).map (·.drop 3) :=
  lexScan_of_sorted 3 _ (sortBy_pairwise lexLe lexLe_total lexLe_trans _)

end Femio.C10
