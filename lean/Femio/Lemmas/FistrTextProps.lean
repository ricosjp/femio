import Femio.Model.FistrText
import Femio.Lemmas.NumeralProps
import Mathlib.Tactic.IntervalCases
import Mathlib.Tactic.Ring

/-! String-level lemmas for the FrontISTR text models (C01, C03): `split ∘ join`, decimal numerals,
`%.pE` rendering vs `float()` parsing, blank-insensitivity of field parsers. -/
namespace Femio.Fistr
open Numeral

theorem splitOn_noSep (sep : Char) (f : List Char) (h : sep ∉ f) : splitOn sep f = [f] := by
  induction f with
  | nil => rfl
  | cons c t ih =>
    have hc : c ≠ sep := fun e => h (e ▸ List.mem_cons_self)
    have ht : sep ∉ t := fun m => h (List.mem_cons_of_mem _ m)
    simp [splitOn, hc, ih ht]

theorem splitOn_append (sep : Char) (f rest : List Char) (h : sep ∉ f) :
    splitOn sep (f ++ sep :: rest) = f :: splitOn sep rest := by
  induction f with
  | nil => simp [splitOn]
  | cons c t ih =>
    have hc : c ≠ sep := fun e => h (e ▸ List.mem_cons_self)
    have ht : sep ∉ t := fun m => h (List.mem_cons_of_mem _ m)
    simp [splitOn, hc, ih ht]

/-- `sep.join(fields).split(sep) = fields` for fields that do not contain the separator -/
theorem split_join (sep : Char) (fs : List (List Char)) (hne : fs ≠ []) (h : ∀ f ∈ fs, sep ∉ f) :
    splitOn sep (joinSep sep fs) = fs := by
  induction fs with
  | nil => exact absurd rfl hne
  | cons f t ih =>
    cases t with
    | nil => simpa [joinSep] using splitOn_noSep sep f (h f (by simp))
    | cons g t =>
      have := ih (by simp) (fun x hx => h x (List.mem_cons_of_mem _ hx))
      simp only [joinSep]
      rw [splitOn_append sep f _ (h f (by simp)), this]

theorem isDigit_digitChar (d : Nat) (h : d < 10) : isDigit (digitChar d) = true := by
  interval_cases d <;> decide

theorem toNat_digitChar (d : Nat) (h : d < 10) : (digitChar d).toNat - 48 = d := by
  interval_cases d <;> decide

theorem natDigits_lt (n : Nat) : ∀ d ∈ natDigits n, d < 10 := aux_lt (n + 1) n [] (by simp)

theorem showNat_isDigit (n : Nat) : ∀ c ∈ showNat n, isDigit c = true := by
  intro c hc
  simp only [showNat, List.mem_map] at hc
  obtain ⟨d, hd, rfl⟩ := hc
  exact isDigit_digitChar d (natDigits_lt n d hd)

theorem showNat_ne_nil (n : Nat) : showNat n ≠ [] := by
  simp only [showNat, ne_eq, List.map_eq_nil_iff]
  exact aux_ne_nil (n + 1) n [] (by omega)

theorem not_mem_of_forall {p : Char → Bool} {l : List Char} (h : ∀ c ∈ l, p c = true) {x : Char} (hx : p x = false) :
    x ∉ l := fun m => by simp [h x m] at hx

theorem comma_not_mem_showNat (n : Nat) : ',' ∉ showNat n :=
  not_mem_of_forall (showNat_isDigit n) (by decide)

theorem fixDigits_isDigit (k n : Nat) : ∀ c ∈ fixDigits k n, isDigit c = true := by
  induction k generalizing n with
  | zero => simp [fixDigits]
  | succ k ih =>
    intro c hc
    simp only [fixDigits, List.mem_append, List.mem_singleton] at hc
    rcases hc with hc | rfl
    · exact ih _ c hc
    · exact isDigit_digitChar _ (Nat.mod_lt _ (by omega))

theorem length_fixDigits (k n : Nat) : (fixDigits k n).length = k := by
  induction k generalizing n with
  | zero => rfl
  | succ k ih => simp [fixDigits, ih]

theorem evalChars_foldl (l : List Char) (acc : Nat) :
    l.foldl (fun x c => x * 10 + (c.toNat - 48)) acc = acc * 10 ^ l.length + evalChars l := by
  induction l generalizing acc with
  | nil => simp [evalChars]
  | cons c t ih =>
    simp only [List.foldl_cons, List.length_cons, evalChars]
    rw [ih, ih (0 * 10 + (c.toNat - 48))]
    ring

theorem evalChars_append (l r : List Char) : evalChars (l ++ r) = evalChars l * 10 ^ r.length + evalChars r := by
  unfold evalChars
  rw [List.foldl_append, evalChars_foldl]
  rfl

theorem evalChars_map_digitChar (ds : List Nat) (h : ∀ d ∈ ds, d < 10) (acc : Nat) :
    (ds.map digitChar).foldl (fun x c => x * 10 + (c.toNat - 48)) acc = evalDigits acc ds := by
  induction ds generalizing acc with
  | nil => rfl
  | cons d t ih =>
    simp only [List.map_cons, List.foldl_cons, evalDigits]
    rw [toNat_digitChar d (h d (by simp)), ih (fun x hx => h x (List.mem_cons_of_mem _ hx))]
    rfl

theorem evalChars_showNat (n : Nat) : evalChars (showNat n) = n := by
  unfold evalChars showNat
  rw [evalChars_map_digitChar _ (natDigits_lt n)]
  unfold natDigits
  rw [aux_eval (n + 1) n [] (by omega)]
  rfl

theorem evalChars_fixDigits (k n : Nat) : evalChars (fixDigits k n) = n % 10 ^ k := by
  induction k generalizing n with
  | zero => simp [fixDigits, evalChars, Nat.mod_one]
  | succ k ih =>
    simp only [fixDigits]
    rw [evalChars_append, ih]
    simp only [List.length_singleton, pow_one, evalChars, List.foldl_cons, List.foldl_nil, zero_mul, zero_add]
    rw [toNat_digitChar _ (Nat.mod_lt _ (by omega)), pow_succ, Nat.mul_comm (10 ^ k) 10, Nat.mod_mul]
    omega

theorem span_all {α} (p : α → Bool) (l : List α) (hl : ∀ c ∈ l, p c = true) :
    l.takeWhile p = l ∧ l.dropWhile p = [] := by
  have h1 := List.takeWhile_append_of_pos (l₂ := []) hl
  have h2 := List.dropWhile_append_of_pos (l₂ := []) hl
  rw [List.append_nil] at h1 h2
  exact ⟨h1.trans (List.append_nil l), h2⟩

theorem span_stop {α} (p : α → Bool) (l : List α) (c : α) (t : List α) (hl : ∀ c ∈ l, p c = true)
    (hc : p c = false) : (l ++ c :: t).takeWhile p = l ∧ (l ++ c :: t).dropWhile p = c :: t := by
  have hc' : ¬ p c = true := by simp [hc]
  rw [List.takeWhile_append_of_pos hl, List.dropWhile_append_of_pos hl, List.takeWhile_cons_of_neg hc',
    List.dropWhile_cons_of_neg hc', List.append_nil]
  exact ⟨rfl, rfl⟩

theorem trimLeft_of_noWs (s : List Char) (h : ∀ c ∈ s, isWs c = false) : trimLeft s = s := by
  cases s with
  | nil => rfl
  | cons c t => simp [trimLeft, List.dropWhile, h c (by simp)]

theorem trim_of_noWs (s : List Char) (h : ∀ c ∈ s, isWs c = false) : trim s = s := by
  unfold trim
  rw [trimLeft_of_noWs s h, trimLeft_of_noWs s.reverse (fun c hc => h c (List.mem_reverse.mp hc)), List.reverse_reverse]

/-- the characters `%.pE` prints -/
def isSciCh (c : Char) : Bool := isDigit c || c == '-' || c == '.' || c == 'E' || c == '+'

theorem sciCh_not_ws {c : Char} (h : isSciCh c = true) : isWs c = false := by
  by_contra hw
  have hw' : isWs c = true := by simpa using hw
  simp only [isWs, Bool.or_eq_true, beq_iff_eq] at hw'
  rcases hw' with ((((rfl | rfl) | rfl) | rfl) | rfl) | rfl <;> revert h <;> decide

theorem noWs_of_digits {s : List Char} (hs : ∀ c ∈ s, isDigit c = true) : ∀ c ∈ s, isWs c = false :=
  fun c hc => sciCh_not_ws (by simp [isSciCh, hs c hc])

theorem trimLeft_cons_ws (c : Char) (t : List Char) (h : isWs c = true) : trimLeft (c :: t) = trimLeft t := by
  simp [trimLeft, List.dropWhile, h]

theorem trimLeft_cons_nonws (c : Char) (t : List Char) (h : isWs c = false) : trimLeft (c :: t) = c :: t := by
  simp [trimLeft, List.dropWhile, h]

theorem trimLeft_append_ws (a x : List Char) (ha : ∀ c ∈ a, isWs c = true) : trimLeft (a ++ x) = trimLeft x := by
  induction a with
  | nil => rfl
  | cons c t ih =>
    rw [List.cons_append, trimLeft_cons_ws _ _ (ha c (by simp))]
    exact ih (fun y hy => ha y (List.mem_cons_of_mem _ hy))

theorem takeWhile_all {α} (p : α → Bool) (f : List α) : ∀ c ∈ f.takeWhile p, p c = true := by
  induction f with
  | nil => intro c hc; cases hc
  | cons a t ih =>
    intro c hc
    cases h : p a with
    | true =>
      rw [List.takeWhile_cons, h] at hc
      rcases List.mem_cons.mp hc with rfl | hc
      · exact h
      · exact ih c hc
    | false => rw [List.takeWhile_cons, h] at hc; cases hc

theorem trimLeft_split (f : List Char) : ∃ a, (∀ c ∈ a, isWs c = true) ∧ f = a ++ trimLeft f :=
  ⟨f.takeWhile isWs, takeWhile_all isWs f, (List.takeWhile_append_dropWhile).symm⟩

theorem trimLeft_head (f : List Char) : trimLeft f = [] ∨ ∃ c t, trimLeft f = c :: t ∧ isWs c = false := by
  induction f with
  | nil => exact Or.inl rfl
  | cons c t ih =>
    cases h : isWs c with
    | true => rw [trimLeft_cons_ws _ _ h]; exact ih
    | false => rw [trimLeft_cons_nonws _ _ h]; exact Or.inr ⟨c, t, rfl, h⟩

theorem trimLeft_eq_nil_iff (f : List Char) : trimLeft f = [] ↔ ∀ c ∈ f, isWs c = true := by
  constructor
  · intro h
    obtain ⟨a, ha, hf⟩ := trimLeft_split f
    rw [h, List.append_nil] at hf
    rw [hf]; exact ha
  · intro h
    have := trimLeft_append_ws f [] h
    simpa [trimLeft] using this

theorem isWs_head_trimLeft {f : List Char} {c : Char} {t : List Char} (h : trimLeft f = c :: t) : isWs c = false := by
  rcases trimLeft_head f with h0 | ⟨c', t', h1, h2⟩
  · rw [h0] at h; cases h
  · rw [h1] at h; cases h; exact h2

theorem trimLeft_append_of_cons (f x : List Char) (c : Char) (t : List Char) (h : trimLeft f = c :: t) :
    trimLeft (f ++ x) = c :: (t ++ x) := by
  obtain ⟨a, ha, hf⟩ := trimLeft_split f
  have hc : isWs c = false := isWs_head_trimLeft h
  rw [hf, h, List.append_assoc, trimLeft_append_ws _ _ ha, List.cons_append, trimLeft_cons_nonws _ _ hc]

theorem trimLeft_snoc_nonws (x : List Char) (c : Char) (hc : isWs c = false) :
    trimLeft (x ++ [c]) = trimLeft x ++ [c] := by
  rcases trimLeft_head x with h0 | ⟨d, t, h1, _⟩
  · rw [h0, trimLeft_append_ws _ _ ((trimLeft_eq_nil_iff x).mp h0), trimLeft_cons_nonws _ _ hc]; rfl
  · rw [trimLeft_append_of_cons x [c] d t h1, h1]; rfl

theorem trim_of_trimLeft_nil (f : List Char) (h : trimLeft f = []) : trim f = [] := by
  unfold trim; rw [h]; rfl

theorem trim_of_trimLeft_cons (f : List Char) (c : Char) (t : List Char) (h : trimLeft f = c :: t) :
    trim f = c :: (trimLeft t.reverse).reverse := by
  have hc : isWs c = false := isWs_head_trimLeft h
  unfold trim
  rw [h, List.reverse_cons, trimLeft_snoc_nonws _ _ hc, List.reverse_append]
  rfl

theorem trim_eq_nil_iff (f : List Char) : trim f = [] ↔ ∀ c ∈ f, isWs c = true := by
  constructor
  · intro h
    rcases trimLeft_head f with h0 | ⟨c, t, h1, _⟩
    · exact (trimLeft_eq_nil_iff f).mp h0
    · rw [trim_of_trimLeft_cons f c t h1] at h; cases h
  · intro h
    exact trim_of_trimLeft_nil f ((trimLeft_eq_nil_iff f).mpr h)

theorem trim_pad (a f b : List Char) (ha : ∀ c ∈ a, isWs c = true) (hb : ∀ c ∈ b, isWs c = true) :
    trim (a ++ f ++ b) = trim f := by
  rcases trimLeft_head f with h0 | ⟨c, t, h1, _⟩
  · have hf := (trimLeft_eq_nil_iff f).mp h0
    rw [(trim_eq_nil_iff f).mpr hf, (trim_eq_nil_iff _).mpr (by
      intro c hc
      simp only [List.mem_append] at hc
      rcases hc with (hc | hc) | hc
      · exact ha c hc
      · exact hf c hc
      · exact hb c hc)]
  · have h2 : trimLeft (a ++ f ++ b) = c :: (t ++ b) := by
      rw [List.append_assoc, trimLeft_append_ws _ _ ha, trimLeft_append_of_cons f b c t h1]
    rw [trim_of_trimLeft_cons _ c _ h2, trim_of_trimLeft_cons f c t h1, List.reverse_append,
      trimLeft_append_ws _ _ (fun c hc => hb c (List.mem_reverse.mp hc))]

theorem parseNatTok_showNat (n : Nat) : parseNatTok (showNat n) = some n := by
  unfold parseNatTok
  rw [trim_of_noWs _ (noWs_of_digits (showNat_isDigit n)), parseNat_showNat]

/-- `int(' 12 ') = int('12')` (G3) -/
theorem parseNatTok_pad (a s b : List Char) (ha : ∀ c ∈ a, isWs c = true) (hb : ∀ c ∈ b, isWs c = true) :
    parseNatTok (a ++ s ++ b) = parseNatTok s := by
  unfold parseNatTok
  rw [trim_pad a s b ha hb]

theorem splitSign_digit (c : Char) (t : List Char) (h : isDigit c = true) : splitSign (c :: t) = (false, c :: t) := by
  have h1 : c ≠ '-' := by rintro rfl; simp [isDigit] at h
  have h2 : c ≠ '+' := by rintro rfl; simp [isDigit] at h
  unfold splitSign
  split
  · rename_i heq; cases heq; exact absurd rfl h1
  · rename_i heq; cases heq; exact absurd rfl h2
  · rfl

theorem showNat_cons (n : Nat) : ∃ c t, showNat n = c :: t ∧ isDigit c = true := by
  obtain ⟨c, t, h⟩ := List.exists_cons_of_ne_nil (showNat_ne_nil n)
  exact ⟨c, t, h, showNat_isDigit n c (by rw [h]; simp)⟩

theorem parseUnsigned_digits (s : List Char) (hne : s ≠ []) (hs : ∀ c ∈ s, isDigit c = true) :
    parseUnsigned s = some (evalChars s, 0) := by
  unfold parseUnsigned
  rw [(span_all isDigit _ hs).1, (span_all isDigit _ hs).2]
  simp [parseFrac, parseExp, hne]

theorem parseDec_digits (s : List Char) (hne : s ≠ []) (hs : ∀ c ∈ s, isDigit c = true) :
    parseDec s = some ⟨false, evalChars s, 0⟩ := by
  obtain ⟨c, t, rfl⟩ := List.exists_cons_of_ne_nil hne
  unfold parseDec
  rw [trim_of_noWs _ (noWs_of_digits hs), splitSign_digit c t (hs c (by simp))]
  simp only
  rw [parseUnsigned_digits _ hne hs]
  rfl

/-- the id column read through `float` then `int` gives back the printed integer -/
theorem parseIdF_showNat (n : Nat) : parseIdF (showNat n) = some n := by
  unfold parseIdF
  rw [parseDec_digits _ (showNat_ne_nil n) (showNat_isDigit n), evalChars_showNat]
  simp [Dec.toNat?]

theorem expDigits_isDigit (x : Nat) : ∀ c ∈ expDigits x, isDigit c = true := by
  unfold expDigits; split
  · exact fixDigits_isDigit 2 x
  · exact showNat_isDigit x

theorem expDigits_ne_nil (x : Nat) : expDigits x ≠ [] := by
  unfold expDigits; split
  · intro h; have := length_fixDigits 2 x; rw [h] at this; simp at this
  · exact showNat_ne_nil x

theorem evalChars_expDigits (x : Nat) : evalChars (expDigits x) = x := by
  unfold expDigits; split
  · rename_i h; rw [evalChars_fixDigits]; exact Nat.mod_eq_of_lt (by simpa using h)
  · exact evalChars_showNat x

theorem sciCh_renderSci (p : Nat) (s : Sci) : ∀ c ∈ renderSci p s, isSciCh c = true := by
  have hd : ∀ {c}, isDigit c = true → isSciCh c = true := fun h => by simp [isSciCh, h]
  intro c hc
  simp only [renderSci, List.mem_append, List.mem_cons] at hc
  rcases hc with ((hc | hc) | hc | hc) | hc | hc | hc
  · cases hn : s.neg <;> simp [hn] at hc; subst hc; decide
  · exact hd (showNat_isDigit _ c hc)
  · subst hc; decide
  · exact hd (fixDigits_isDigit _ _ c hc)
  · subst hc; decide
  · split at hc <;> (subst hc; decide)
  · exact hd (expDigits_isDigit _ c hc)

theorem parseExp_render (x : Int) :
    parseExp ('E' :: (if x < 0 then '-' else '+') :: expDigits x.natAbs) = some x := by
  have hall : (expDigits x.natAbs).all isDigit = true := List.all_eq_true.mpr (expDigits_isDigit _)
  by_cases hx : x < 0
  · simp only [parseExp, hx, if_true, true_or, splitSign, ne_eq, expDigits_ne_nil, not_false_eq_true, hall, and_self,
      evalChars_expDigits]
    congr 1; omega
  · simp only [parseExp, hx, if_false, true_or, if_true, splitSign, ne_eq, expDigits_ne_nil, not_false_eq_true, hall,
      and_self, evalChars_expDigits, Bool.false_eq_true]
    congr 1; omega

theorem parseUnsigned_render (p a b : Nat) (x : Int) :
    parseUnsigned (showNat a ++ '.' :: (fixDigits p b ++ 'E' :: (if x < 0 then '-' else '+') :: expDigits x.natAbs))
      = some (a * 10 ^ p + b % 10 ^ p, x - p) := by
  unfold parseUnsigned
  have h1 := span_stop isDigit (showNat a) '.' (fixDigits p b ++ 'E' :: (if x < 0 then '-' else '+') :: expDigits x.natAbs)
    (showNat_isDigit a) (by decide)
  rw [h1.1, h1.2]
  have h2 := span_stop isDigit (fixDigits p b) 'E' ((if x < 0 then '-' else '+') :: expDigits x.natAbs)
    (fixDigits_isDigit p b) (by decide)
  simp only [parseFrac, h2.1, h2.2, showNat_ne_nil, false_and, if_false, parseExp_render, Option.map_some,
    evalChars_append, evalChars_showNat, evalChars_fixDigits, length_fixDigits]

/-- **float round trip**: the text `'%.pE'` prints for a decimal datum is read back by `float()` as exactly
    that decimal value (any `p`, any mantissa, any exponent, both signs, signed zero) -/
theorem parseDec_renderSci (p : Nat) (s : Sci) : parseDec (renderSci p s) = some (s.toDec p) := by
  obtain ⟨neg, m, x⟩ := s
  have hnows : ∀ c ∈ renderSci p ⟨neg, m, x⟩, isWs c = false := fun c hc => sciCh_not_ws (sciCh_renderSci _ _ c hc)
  unfold parseDec
  rw [trim_of_noWs _ hnows]
  have hsplit : splitSign (renderSci p ⟨neg, m, x⟩) = (neg, showNat (m / 10 ^ p) ++ '.' :: (fixDigits p (m % 10 ^ p) ++
      'E' :: (if x < 0 then '-' else '+') :: expDigits x.natAbs)) := by
    cases neg
    · obtain ⟨c, t, hct, hcd⟩ := showNat_cons (m / 10 ^ p)
      simp only [renderSci, Bool.false_eq_true, if_false, List.nil_append, List.append_assoc, List.cons_append]
      rw [hct, List.cons_append, splitSign_digit c _ hcd]
    · simp [renderSci, splitSign]
  rw [hsplit]
  simp only [parseUnsigned_render, Option.map_some, Sci.toDec, Nat.mod_mod]
  congr 2
  exact Nat.div_add_mod' m (10 ^ p)

/-- blanks around a float field are ignored (G3) -/
theorem parseDec_pad (a s b : List Char) (ha : ∀ c ∈ a, isWs c = true) (hb : ∀ c ∈ b, isWs c = true) :
    parseDec (a ++ s ++ b) = parseDec s := by
  unfold parseDec
  rw [trim_pad a s b ha hb]

theorem isAlpha_of_isDigit {c : Char} (h : isDigit c = true) : isAlpha c = false := by
  simp only [isDigit, Bool.and_eq_true, decide_eq_true_eq] at h
  simp only [isAlpha, Bool.or_eq_false_iff, Bool.and_eq_false_iff, decide_eq_false_iff_not]
  omega

/-- the characters of a row of `%d` and `%.pE` fields -/
def isDataCh (c : Char) : Bool := isSciCh c || c == ','

theorem isDataCh_of_digit {c : Char} (h : isDigit c = true) : isDataCh c = true := by simp [isDataCh, isSciCh, h]

theorem dataCh_not_ws {c : Char} (h : isDataCh c = true) : isWs c = false := by
  simp only [isDataCh, Bool.or_eq_true, beq_iff_eq] at h
  rcases h with h | rfl
  · exact sciCh_not_ws h
  · decide

theorem sciCh_showNat (n : Nat) : ∀ c ∈ showNat n, isSciCh c = true :=
  fun c hc => by simp [isSciCh, showNat_isDigit n c hc]

theorem dataCh_joinSep (fs : List (List Char)) (h : ∀ f ∈ fs, ∀ c ∈ f, isSciCh c = true) :
    ∀ c ∈ joinSep ',' fs, isDataCh c = true := by
  have hf : ∀ f ∈ fs, ∀ c ∈ f, isDataCh c = true := fun f hf c hc => by simp [isDataCh, h f hf c hc]
  induction fs with
  | nil => intro c hc; cases hc
  | cons f fs ih =>
    cases fs with
    | nil => exact hf f List.mem_cons_self
    | cons g t =>
      intro c hc
      rcases List.mem_append.mp hc with hc | hc
      · exact hf f List.mem_cons_self c hc
      · rcases List.mem_cons.mp hc with rfl | hc
        · decide
        · exact ih (fun x hx => h x (List.mem_cons_of_mem _ hx)) (fun x hx => hf x (List.mem_cons_of_mem _ hx)) c hc

theorem ignoreLine_cons {c : Char} {t : List Char} (h2 : isWs c = false) (h1 : '#' ∉ c :: t) : ignoreLine (c :: t) = false := by
  simp only [ignoreLine, Bool.or_eq_false_iff]
  exact ⟨by simpa using h1, by simp [h2]⟩

theorem dataLine_ok (l : Line) (hne : l ≠ []) (h : ∀ c ∈ l, isDataCh c = true) :
    isHeader l = false ∧ ignoreLine l = false := by
  obtain ⟨c, t, rfl⟩ := List.exists_cons_of_ne_nil hne
  have hc := h c List.mem_cons_self
  have hbang : c ≠ '!' := by rintro rfl; revert hc; decide
  exact ⟨by simp [isHeader, hbang], ignoreLine_cons (dataCh_not_ws hc) (not_mem_of_forall h (by decide))⟩

theorem hasSub_no_first (x : Char) (k s : List Char) (h : x ∉ s) : hasSub (x :: k) s = false := by
  induction s with
  | nil => simp [hasSub]
  | cons c t ih =>
    have hc : x ≠ c := fun e => h (e ▸ List.mem_cons_self)
    simp [hasSub, isPrefix, hc, ih (fun m => h (List.mem_cons_of_mem _ m))]

end Femio.Fistr
