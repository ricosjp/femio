import Femio.Model.Surface
import Femio.Lemmas.GeomProps
import Femio.Lemmas.SurfaceProps
import Femio.Lemmas.BoundaryG
import Mathlib.Tactic.Ring

/-! Flux lemmas behind `C10_element_outward` / `C10_volume`: per element the fluxes of the table faces add up to
    the "centroid" volume kernel; a mirrored face has the opposite flux. -/
namespace Femio.C10
open Core Faces V3 Geom Femio.Gen

variable {R : Type} [CommRing R]

theorem sumR_eq_sum (l : List R) : sumR 0 l = l.sum := rfl

theorem len4 {α : Type} (l : List α) (h : l.length = 4) : ∃ a b c d, l = [a, b, c, d] :=
  match l, h with
  | [a, b, c, d], _ => ⟨a, b, c, d, rfl⟩

theorem len5 {α : Type} (l : List α) (h : l.length = 5) : ∃ a b c d e, l = [a, b, c, d, e] :=
  match l, h with
  | [a, b, c, d, e], _ => ⟨a, b, c, d, e, rfl⟩

theorem len6 {α : Type} (l : List α) (h : l.length = 6) : ∃ a b c d e f, l = [a, b, c, d, e, f] :=
  match l, h with
  | [a, b, c, d, e, f], _ => ⟨a, b, c, d, e, f, rfl⟩

theorem len8 {α : Type} (l : List α) (h : l.length = 8) : ∃ a b c d e f g i, l = [a, b, c, d, e, f, g, i] :=
  match l, h with
  | [a, b, c, d, e, f, g, i], _ => ⟨a, b, c, d, e, f, g, i, rfl⟩

theorem len_ge4 {α : Type} (l : List α) (h : 4 ≤ l.length) : ∃ a b c d t, l = a :: b :: c :: d :: t :=
  match l, h with
  | a :: b :: c :: d :: t, _ => ⟨a, b, c, d, t, rfl⟩

/-- the element is of a type whose faces are triangles / quadrilaterals and has that type's arity -/
def solidB (e : Elem) : Bool :=
  (e.ty == 8 || e.ty == 9 || e.ty == 10 || e.ty == 12 || e.ty == 14) && e.conn.length == arity e.ty

/-! Each "centroid" kernel is by definition the sum of the fluxes through the faces of the element, up to rotations of
    the faces; here with the faces as the regenerated tables list them. -/

theorem tet6_eq_faces (four : R) (p0 p1 p2 p3 : V3 R) :
    sumR 0 [four * det p0 p2 p1, four * det p0 p1 p3, four * det p1 p2 p3, four * det p0 p3 p2]
      = four * tet6 p0 p1 p2 p3 := by
  simp only [sumR, List.foldr, tet6, det_sub_eq]; ring

theorem pyrC24_eq_faces (four : R) (p0 p1 p2 p3 p4 : V3 R) :
    sumR 0 [four * det p0 p1 p4, four * det p1 p2 p4, four * det p2 p3 p4, four * det p3 p0 p4, quadC4 p0 p3 p2 p1]
      = pyrC24 four p0 p1 p2 p3 p4 := by
  simp only [sumR, List.foldr, pyrC24]
  linear_combination quadC4_rot p1 p0 p3 p2

theorem prismC24_eq_faces (four : R) (p0 p1 p2 p3 p4 p5 : V3 R) :
    sumR 0 [four * det p0 p1 p2, four * det p3 p5 p4, quadC4 p0 p3 p4 p1, quadC4 p1 p4 p5 p2, quadC4 p0 p2 p5 p3]
      = prismC24 four p0 p1 p2 p3 p4 p5 := by
  simp only [sumR, List.foldr, prismC24]
  linear_combination - four * det_rot p3 p5 p4 - quadC4_rot p0 p2 p5 p3

theorem hexC24_eq_faces (p0 p1 p2 p3 p4 p5 p6 p7 : V3 R) :
    sumR 0 [quadC4 p0 p1 p5 p4, quadC4 p0 p3 p2 p1, quadC4 p1 p2 p6 p5, quadC4 p2 p3 p7 p6, quadC4 p3 p0 p4 p7,
      quadC4 p4 p5 p6 p7] = hexC24 p0 p1 p2 p3 p4 p5 p6 p7 := by
  simp only [sumR, List.foldr, hexC24]
  linear_combination quadC4_rot p4 p0 p1 p5 + quadC4_rot p5 p4 p0 p1 - quadC4_rot p0 p3 p2 p1
    + quadC4_rot p5 p1 p2 p6 + quadC4_rot p7 p3 p0 p4 + quadC4_rot p4 p7 p3 p0 + quadC4_rot p7 p4 p5 p6
    + quadC4_rot p6 p7 p4 p5

/-- **divergence theorem on the regenerated face tables**: per element, the fluxes through its table faces add up
    to the "centroid" volume kernel (×24) -/
theorem elem_flux (pt : Nat → V3 R) (e : Elem) (h : solidB e = true) :
    sumR 0 ((elemFaces e).map (faceFlux24 4 0 pt)) = elemVol24 4 0 pt e := by
  obtain ⟨id, ty, conn⟩ := e
  simp only [solidB, Bool.and_eq_true, Bool.or_eq_true, beq_iff_eq] at h
  obtain ⟨hty, hlen⟩ := h
  -- once the connectivity is a list of the right length, both sides evaluate to the two sides of the lemma
  rcases hty with (((h8 | h9) | h10) | h12) | h14
  · subst h8
    obtain ⟨a, b, c, d, rfl⟩ := len4 conn hlen
    exact tet6_eq_faces 4 (pt a) (pt b) (pt c) (pt d)
  · subst h9
    obtain ⟨a, b, c, d, t, rfl⟩ := len_ge4 conn (by simp [arity] at hlen; omega)
    exact tet6_eq_faces 4 (pt a) (pt b) (pt c) (pt d)
  · subst h10
    obtain ⟨a, b, c, d, e, rfl⟩ := len5 conn hlen
    exact pyrC24_eq_faces 4 (pt a) (pt b) (pt c) (pt d) (pt e)
  · subst h12
    obtain ⟨a, b, c, d, e, f, rfl⟩ := len6 conn hlen
    exact prismC24_eq_faces 4 (pt a) (pt b) (pt c) (pt d) (pt e) (pt f)
  · subst h14
    obtain ⟨a, b, c, d, e, f, g, i, rfl⟩ := len8 conn hlen
    exact hexC24_eq_faces (pt a) (pt b) (pt c) (pt d) (pt e) (pt f) (pt g) (pt i)

/-- a face traversed backwards has the opposite flux -/
theorem flux_mirror (pt : Nat → V3 R) (f g : Face) (h : mirrorB f g = true) :
    faceFlux24 4 0 pt g = - faceFlux24 4 0 pt f := by
  unfold mirrorB at h
  split at h
  · rename_i a b c
    simp only [Bool.or_eq_true, beq_iff_eq] at h
    rcases h with (h | h) | h <;> subst h <;> simp only [faceFlux24]
    · rw [det_rot (pt a) (pt c) (pt b), det_swap, mul_neg]
    · rw [← det_rot (pt b) (pt a) (pt c), det_swap, mul_neg]
    · rw [det_swap, mul_neg]
  · rename_i a b c d
    simp only [Bool.or_eq_true, beq_iff_eq] at h
    rcases h with ((h | h) | h) | h <;> subst h <;> simp only [faceFlux24]
    · exact quadC4_rev _ _ _ _
    · rw [quadC4_rot, quadC4_rev]
    · rw [quadC4_rot, quadC4_rot, quadC4_rev]
    · rw [← quadC4_rot, quadC4_rev]
  · cases h

end Femio.C10
