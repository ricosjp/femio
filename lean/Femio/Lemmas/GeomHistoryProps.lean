import Femio.Model.GeomHistory

/-! What the theorems on call histories rest on (`Model/GeomHistory.lean`): the four cases of one `step` (computed or read from the
stored variable, for either query), what a read returns on the tree (`fromStored`), the invariant that stored variables hold
fresh-object values (`StoredOk`), and one signed step under a map of the values (`step_signed_map`). -/
namespace Femio.C11
variable {V : Type}

/-- what `metric < 0.` and `np.abs` satisfy -/
structure Sgn.Lawful (S : Sgn V) : Prop where
  abs_nonneg : ∀ v, S.isNeg (S.abs v) = false
  abs_of_nonneg : ∀ v, S.isNeg v = false → S.abs v = v

section lemmas
variable {S : Sgn V}

theorem anyNeg_absVals (hS : S.Lawful) (v : Vals V) : anyNeg S (absVals S v) = false := by
  induction v with
  | nil => rfl
  | cons x t ih =>
    simp only [anyNeg, absVals, List.map_cons, List.any_cons, Bool.or_eq_false_iff] at ih ⊢
    exact ⟨hS.abs_nonneg _, ih⟩

theorem absVals_of_noNeg (hS : S.Lawful) (v : Vals V) (h : anyNeg S v = false) : absVals S v = v := by
  induction v with
  | nil => rfl
  | cons x t ih =>
    simp only [anyNeg, List.any_cons, Bool.or_eq_false_iff] at h
    simp only [absVals, List.map_cons, List.cons.injEq]
    exact ⟨by rw [hS.abs_of_nonneg _ h.1], ih h.2⟩

theorem validate_noNeg (hS : S.Lawful) (o : Opts) (v : Vals V) (h : anyNeg S v = false) : validate S o v = some v := by
  simp only [validate, h, Bool.and_false, Bool.false_eq_true, ↓reduceIte, Option.some.injEq]
  split
  · exact absVals_of_noNeg hS v h
  · rfl

theorem validate_signed (v : Vals V) : validate S ⟨false, false⟩ v = some v := by
  simp [validate]

end lemmas

theorem stepBase_read {cfg : HCfg} {S : Sgn V} {mi : MeshInfo V} {c : Call} {s : HState V} {w : Vals V}
    (he : c.explicit = false) (hb : s.base = some w) :
    stepBase cfg S mi c s = readStored cfg S c w s (fun r => { s with base := some r }) := by
  simp only [stepBase, he, hb, Bool.false_eq_true, ↓reduceIte]

theorem stepBase_compute {cfg : HCfg} {S : Sgn V} {mi : MeshInfo V} {c : Call} {s : HState V}
    (h : c.explicit = true ∨ s.base = none) : stepBase cfg S mi c s = baseCompute S mi c s := by
  rcases h with h | h
  · simp only [stepBase, h, ↓reduceIte]
  · by_cases he : c.explicit = true
    · simp only [stepBase, he, ↓reduceIte]
    · simp only [stepBase, he, h, Bool.false_eq_true, ↓reduceIte]

theorem stepMetric_read {cfg : HCfg} {S : Sgn V} {mi : MeshInfo V} {c : Call} {s : HState V} {w : Vals V}
    (he : c.explicit = false) (hb : s.metric = some w) :
    stepMetric cfg S mi c s = readStored cfg S c w s (fun r => { s with metric := some r }) := by
  simp only [stepMetric, he, hb, Bool.false_eq_true, ↓reduceIte]

theorem stepMetric_compute {cfg : HCfg} {S : Sgn V} {mi : MeshInfo V} {c : Call} {s : HState V}
    (h : c.explicit = true ∨ s.metric = none) : stepMetric cfg S mi c s = metricCompute S mi c s := by
  rcases h with h | h
  · simp only [stepMetric, h, ↓reduceIte]
  · by_cases he : c.explicit = true
    · simp only [stepMetric, he, ↓reduceIte]
    · simp only [stepMetric, he, h, Bool.false_eq_true, ↓reduceIte]

theorem step_cases (cfg : HCfg) (S : Sgn V) (mi : MeshInfo V) (c : Call) (s : HState V) :
    (c.api = .base ∧ (c.explicit = true ∨ s.base = none) ∧ step cfg S mi c s = baseCompute S mi c s) ∨
    (c.api = .metric ∧ (c.explicit = true ∨ s.metric = none) ∧ step cfg S mi c s = metricCompute S mi c s) ∨
    (∃ w, c.api = .base ∧ c.explicit = false ∧ s.base = some w ∧
      step cfg S mi c s = readStored cfg S c w s (fun r => { s with base := some r })) ∨
    (∃ w, c.api = .metric ∧ c.explicit = false ∧ s.metric = some w ∧
      step cfg S mi c s = readStored cfg S c w s (fun r => { s with metric := some r })) := by
  unfold step
  cases c.api
  · by_cases he : c.explicit = true
    · exact Or.inl ⟨rfl, Or.inl he, stepBase_compute (Or.inl he)⟩
    · cases hb : s.base with
      | none => exact Or.inl ⟨rfl, Or.inr rfl, stepBase_compute (Or.inr hb)⟩
      | some w =>
        exact Or.inr (Or.inr (Or.inl ⟨w, rfl, Bool.eq_false_iff.mpr he, rfl, stepBase_read (Bool.eq_false_iff.mpr he) hb⟩))
  · by_cases he : c.explicit = true
    · exact Or.inr (Or.inl ⟨rfl, Or.inl he, stepMetric_compute (Or.inl he)⟩)
    · cases hb : s.metric with
      | none => exact Or.inr (Or.inl ⟨rfl, Or.inr rfl, stepMetric_compute (Or.inr hb)⟩)
      | some w =>
        exact Or.inr (Or.inr (Or.inr ⟨w, rfl, Bool.eq_false_iff.mpr he, rfl, stepMetric_read (Bool.eq_false_iff.mpr he) hb⟩))

/-- what a call answered from the stored variable `w` returns -/
def fromStored (S : Sgn V) (w : Vals V) (c : Call) : Out V :=
  match validate S c.opts w with
  | none => .negative
  | some r => .vals r

theorem fromStored_of_validate {S : Sgn V} {w r : Vals V} {c : Call} (h : validate S c.opts w = some r) :
    fromStored S w c = .vals r := by
  simp only [fromStored, h]

theorem readStored_tree (S : Sgn V) (c : Call) (w : Vals V) (s : HState V) (set : Vals V → HState V) :
    readStored HCfg.tree S c w s set = (fromStored S w c, s) := by
  simp only [readStored, fromStored, HCfg.tree, Bool.false_and, Bool.false_eq_true, ↓reduceIte]
  cases validate S c.opts w <;> rfl

/-- `r` is what the query returns on a fresh object for some mode and options -/
def IsQueryValue (S : Sgn V) (mi : MeshInfo V) (r : Vals V) : Prop := ∃ m o, validate S o (mi.fresh m) = some r

theorem isQueryValue_validate {S : Sgn V} (hS : S.Lawful) {mi : MeshInfo V} {w r : Vals V} (o : Opts)
    (hw : IsQueryValue S mi w) (hr : validate S o w = some r) : IsQueryValue S mi r := by
  obtain ⟨m, o', h'⟩ := hw
  by_cases ha : o'.retAbs = true
  · -- w = |fresh m|: validating it again changes nothing
    have hw' : w = absVals S (mi.fresh m) := by
      simp only [validate, ha, ↓reduceIte] at h'
      split at h'
      · exact absurd h' (by simp)
      · exact (Option.some.inj h').symm
    have hn : anyNeg S w = false := hw' ▸ anyNeg_absVals hS _
    have : r = w := by
      have := validate_noNeg hS o w hn
      rw [this] at hr
      exact (Option.some.inj hr).symm
    exact ⟨m, o', this ▸ h'⟩
  · have hw' : w = mi.fresh m := by
      simp only [validate, ha, Bool.false_eq_true, ↓reduceIte] at h'
      split at h'
      · exact absurd h' (by simp)
      · exact (Option.some.inj h').symm
    exact ⟨m, o, hw' ▸ hr⟩

/-- the invariant: both stored variables hold fresh-object values -/
def StoredOk (S : Sgn V) (mi : MeshInfo V) (s : HState V) : Prop :=
  (∀ w, s.base = some w → IsQueryValue S mi w) ∧ (∀ w, s.metric = some w → IsQueryValue S mi w)

/-- what one step has to establish -/
def StepOk (S : Sgn V) (mi : MeshInfo V) (x : Out V × HState V) : Prop :=
  StoredOk S mi x.2 ∧ ∀ r, x.1 = .vals r → IsQueryValue S mi r

theorem storedOk_setBase {S : Sgn V} {mi : MeshInfo V} {s : HState V} {r : Vals V} (hs : StoredOk S mi s)
    (hr : IsQueryValue S mi r) : StoredOk S mi { s with base := some r } :=
  ⟨fun w hw => by simp only [Option.some.injEq] at hw; exact hw ▸ hr, hs.2⟩

theorem storedOk_setMetric {S : Sgn V} {mi : MeshInfo V} {s : HState V} {r : Vals V} (hs : StoredOk S mi s)
    (hr : IsQueryValue S mi r) : StoredOk S mi { s with metric := some r } :=
  ⟨hs.1, fun w hw => by simp only [Option.some.injEq] at hw; exact hw ▸ hr⟩

theorem readStored_ok {S : Sgn V} (hS : S.Lawful) {mi : MeshInfo V} (c : Call) {w : Vals V} {s : HState V}
    (set : Vals V → HState V) (hs : StoredOk S mi s) (hw : IsQueryValue S mi w) :
    StepOk S mi (readStored HCfg.tree S c w s set) := by
  rw [readStored_tree]
  refine ⟨hs, fun r h => ?_⟩
  cases hv : validate S c.opts w with
  | none => simp [fromStored, hv] at h
  | some r0 =>
    rw [fromStored_of_validate hv, Out.vals.injEq] at h
    exact h ▸ isQueryValue_validate hS c.opts hw hv

theorem baseCompute_ok {S : Sgn V} {mi : MeshInfo V} (c : Call) {s : HState V} (hs : StoredOk S mi s) :
    StepOk S mi (baseCompute S mi c s) := by
  unfold baseCompute
  cases hv : validate S c.opts (mi.fresh c.mode) with
  | none => exact ⟨hs, fun r h => by simp at h⟩
  | some r0 =>
    have hr : IsQueryValue S mi r0 := ⟨c.mode, c.opts, hv⟩
    refine ⟨?_, fun r h => ?_⟩
    · by_cases hu : c.update = true
      · simp only [hu, ↓reduceIte]; exact storedOk_setBase hs hr
      · simp only [hu, Bool.false_eq_true, ↓reduceIte]; exact hs
    · simp only [Out.vals.injEq] at h; exact h ▸ hr

theorem metricCompute_ok {S : Sgn V} {mi : MeshInfo V} (c : Call) {s : HState V} (hs : StoredOk S mi s) :
    StepOk S mi (metricCompute S mi c s) := by
  unfold metricCompute
  by_cases hsup : mi.metricSupported = true
  · simp only [hsup, Bool.not_true, Bool.false_eq_true, ↓reduceIte]
    cases hv : validate S c.opts (mi.fresh .centroid) with
    | none => exact ⟨hs, fun r h => by simp at h⟩
    | some r0 =>
      have hr : IsQueryValue S mi r0 := ⟨.centroid, c.opts, hv⟩
      have hs1 : StoredOk S mi (if mi.mixed = true then s else { s with base := some r0 }) := by
        by_cases hm : mi.mixed = true
        · simp only [hm, ↓reduceIte]; exact hs
        · simp only [hm, Bool.false_eq_true, ↓reduceIte]; exact storedOk_setBase hs hr
      by_cases hu : c.update = true
      · simp only [hu, Bool.not_true, Bool.false_eq_true, ↓reduceIte]
        by_cases hsome : s.metric.isSome = true
        · simp only [hsome, ↓reduceIte]
          exact ⟨hs1, fun r h => by simp at h⟩
        · simp only [hsome, Bool.false_eq_true, ↓reduceIte]
          exact ⟨storedOk_setMetric hs1 hr, fun r h => by simp only [Out.vals.injEq] at h; exact h ▸ hr⟩
      · simp only [hu, Bool.not_false, ↓reduceIte]
        exact ⟨hs, fun r h => by simp only [Out.vals.injEq] at h; exact h ▸ hr⟩
  · simp only [hsup, Bool.not_false, ↓reduceIte]
    exact ⟨hs, fun r h => by simp at h⟩

theorem step_storedOk {S : Sgn V} (hS : S.Lawful) (mi : MeshInfo V) (c : Call) (s : HState V) (hs : StoredOk S mi s) :
    StepOk S mi (step HCfg.tree S mi c s) := by
  rcases step_cases HCfg.tree S mi c s with ⟨-, -, h⟩ | ⟨-, -, h⟩ | ⟨w, -, -, hb, h⟩ | ⟨w, -, -, hb, h⟩ <;> rw [h]
  · exact baseCompute_ok c hs
  · exact metricCompute_ok c hs
  · exact readStored_ok hS c _ hs (hs.1 w hb)
  · exact readStored_ok hS c _ hs (hs.2 w hb)

theorem storedOk_empty (S : Sgn V) (mi : MeshInfo V) : StoredOk S mi HState.empty :=
  ⟨fun _ h => by simp [HState.empty] at h, fun _ h => by simp [HState.empty] at h⟩

theorem eq_of_none_or_some {α : Type} {o : Option α} {v w : α} (h : o = none ∨ o = some v) (hb : o = some w) :
    w = v := by
  subst hb
  exact h.elim (fun h => absurd h (Option.some_ne_none w)) Option.some.inj

def mapVals (f : V → V) (v : Vals V) : Vals V := v.map fun x => (x.1, f x.2)
def mapState (f : V → V) (s : HState V) : HState V := ⟨s.base.map (mapVals f), s.metric.map (mapVals f)⟩
def mapOut (f : V → V) : Out V → Out V
  | .vals v => .vals (mapVals f v)
  | .negative => .negative
  | .unsupported => .unsupported
  | .updateError => .updateError
def mapStep (f : V → V) (x : Out V × HState V) : Out V × HState V := (mapOut f x.1, mapState f x.2)
/-- the mesh whose fresh values are the `f`-images (the mirrored mesh: `f = (-·)`, by the kernel theorems at `det = -1`) -/
def mapMesh (f : V → V) (mi : MeshInfo V) : MeshInfo V := { mi with fresh := fun m => mapVals f (mi.fresh m) }

theorem step_signed_map (S : Sgn V) (f : V → V) (mi : MeshInfo V) (c : Call) (s : HState V) (hc : c.opts = ⟨false, false⟩) :
    step HCfg.tree S (mapMesh f mi) c (mapState f s) = mapStep f (step HCfg.tree S mi c s) := by
  have hread : ∀ (w : Vals V) (s' : HState V) set, readStored HCfg.tree S c w s' set = (.vals w, s') := fun w s' set => by
    rw [readStored_tree, fromStored_of_validate (hc ▸ validate_signed w)]
  have hbase : baseCompute S (mapMesh f mi) c (mapState f s) = mapStep f (baseCompute S mi c s) := by
    simp only [baseCompute, hc, validate_signed, mapMesh, mapStep]
    by_cases hu : c.update = true <;> simp [hu, mapOut, mapState]
  have hmetric : metricCompute S (mapMesh f mi) c (mapState f s) = mapStep f (metricCompute S mi c s) := by
    simp only [metricCompute, hc, validate_signed, mapMesh, mapStep]
    by_cases hsup : mi.metricSupported = true
    · by_cases hu : c.update = true
      · by_cases hmx : mi.mixed = true <;> cases hm : s.metric <;> simp [hsup, hu, hmx, hm, mapOut, mapState]
      · simp [hsup, hu, mapOut, mapState]
    · simp [hsup, mapOut, mapState]
  rcases step_cases HCfg.tree S mi c s with ⟨hapi, hx, h⟩ | ⟨hapi, hx, h⟩ | ⟨w, hapi, he, hb, h⟩ | ⟨w, hapi, he, hb, h⟩ <;>
    rw [h] <;> simp only [step, hapi]
  · rw [stepBase_compute (hx.imp id fun hb => by rw [mapState, hb]; rfl), hbase]
  · rw [stepMetric_compute (hx.imp id fun hb => by rw [mapState, hb]; rfl), hmetric]
  · rw [stepBase_read he (show (mapState f s).base = some (mapVals f w) by rw [mapState, hb]; rfl), hread, hread]; rfl
  · rw [stepMetric_read he (show (mapState f s).metric = some (mapVals f w) by rw [mapState, hb]; rfl), hread, hread]; rfl

end Femio.C11
