import Femio.Model.Geom
import Mathlib.Tactic.Ring
import Mathlib.Tactic.LinearCombination

/-! Algebra of the geometry kernels. The kernels are sums of `det`s of node differences or of node sums, so what a
    map `p ↦ A·p + t` does to them follows from a few facts about `V3`, each proved once on coordinates.  The centroid
    kernels are sums of the face terms `det a b c` and `quadC4 a b c d`, invariant under rotating their arguments; the
    prism and the pyramid are hexahedra with collapsed edges, so what holds of `hexC24` for all vertices holds of them. -/

open V3 Geom

variable {R : Type} [CommRing R]

/-- 3×3 matrix as 9 scalars, acting on V3 -/
structure M3 (R : Type) where
  a : R
  b : R
  c : R
  d : R
  e : R
  f : R
  g : R
  h : R
  i : R

def M3.app (m : M3 R) (v : V3 R) : V3 R :=
  ⟨m.a * v.x + m.b * v.y + m.c * v.z, m.d * v.x + m.e * v.y + m.f * v.z, m.g * v.x + m.h * v.y + m.i * v.z⟩
def M3.det (m : M3 R) : R :=
  m.a * (m.e * m.i - m.f * m.h) - m.b * (m.d * m.i - m.f * m.g) + m.c * (m.d * m.h - m.e * m.g)

def M3.ofRows (r1 r2 r3 : V3 R) : M3 R := ⟨r1.x, r1.y, r1.z, r2.x, r2.y, r2.z, r3.x, r3.y, r3.z⟩

namespace Femio.C11

/-- cofactor matrix: `cross (A v) (A w) = cof A (cross v w)` and `Aᵀ·cof A = det A` -/
def cof (m : M3 R) : M3 R :=
  ⟨m.e*m.i - m.f*m.h, -(m.d*m.i - m.f*m.g), m.d*m.h - m.e*m.g,
   -(m.b*m.i - m.c*m.h), m.a*m.i - m.c*m.g, -(m.a*m.h - m.b*m.g),
   m.b*m.f - m.c*m.e, -(m.a*m.f - m.c*m.d), m.a*m.e - m.b*m.d⟩

/-- uniform scaling `s·I` -/
def scaleM (s : R) : M3 R := ⟨s, 0, 0, 0, s, 0, 0, 0, s⟩

/-- the planarity determinant of a quad face `a b c d`: 6 × the volume of the tetrahedron on its corners -/
def twist (a b c d : V3 R) : R := V3.det (V3.sub b a) (V3.sub c a) (V3.sub d a)

end Femio.C11

open Femio.C11 (cof scaleM twist)

/-- the kernels of `Model/Geom.lean` and the operations of `V3`, `M3` down to coordinates, for the identities that are
    polynomial identities in the coordinates and nothing more (`geom_unfold; ring`) -/
macro "geom_unfold" : tactic =>
  `(tactic| simp only [tet6, hexLin6, hexC24, quadC4, pyrLin6, pyrC24, prismLin6, prismC24, hexprism6,
      triCross, quadCrossC, fluxTri6, V3.det, V3.sub, V3.add, V3.smul, V3.cross, V3.dot, V3.normSq,
      M3.app, M3.det])

theorem sub_add_add (a b t : V3 R) : sub (add a t) (add b t) = sub a b := by
  simp only [V3.sub, V3.add]; congr 1 <;> ring

theorem add_left_comm_v3 (a b c : V3 R) : add a (add b c) = add b (add a c) := by
  simp only [V3.add]; congr 1 <;> ring

theorem smul_smul_swap (k l : R) (v : V3 R) : smul k (smul l v) = smul l (smul k v) := by
  simp only [V3.smul]; congr 1 <;> ring

theorem one_smul_v3 (v : V3 R) : smul 1 v = v := by
  simp only [V3.smul, one_mul]

theorem sub_add_left (a e : V3 R) : sub (add a e) a = e := by
  simp only [V3.sub, V3.add]; congr 1 <;> ring

theorem smul_add4 (a b c d : R) (e : V3 R) :
    add (add (smul a e) (smul b e)) (add (smul c e) (smul d e)) = smul (a + b + c + d) e := by
  simp only [V3.add, V3.smul]; congr 1 <;> ring

theorem M3.app_add (m : M3 R) (u v : V3 R) : m.app (add u v) = add (m.app u) (m.app v) := by
  simp only [M3.app, V3.add]; congr 1 <;> ring

theorem M3.app_sub (m : M3 R) (u v : V3 R) : m.app (sub u v) = sub (m.app u) (m.app v) := by
  simp only [M3.app, V3.sub]; congr 1 <;> ring

theorem M3.app_smul (m : M3 R) (s : R) (v : V3 R) : m.app (smul s v) = smul s (m.app v) := by
  simp only [M3.app, V3.smul]; congr 1 <;> ring

theorem M3.det_app (m : M3 R) (u v w : V3 R) :
    V3.det (m.app u) (m.app v) (m.app w) = m.det * V3.det u v w := by
  simp only [M3.app, M3.det, V3.det]; ring

theorem M3.cross_app (m : M3 R) (v w : V3 R) : cross (m.app v) (m.app w) = (cof m).app (cross v w) := by
  simp only [V3.cross, M3.app, cof]; congr 1 <;> ring

theorem M3.dot_app_cof (m : M3 R) (p n : V3 R) : dot (m.app p) ((cof m).app n) = m.det * dot p n := by
  simp only [M3.app, cof, M3.det, V3.dot]; ring

theorem Femio.C11.scaleM_app (s : R) (v : V3 R) : (scaleM s).app v = smul s v := by
  simp only [scaleM, M3.app, V3.smul]; congr 1 <;> ring

theorem Femio.C11.scaleM_cof_app (s : R) (v : V3 R) : (cof (scaleM s)).app v = smul (s * s) v := by
  simp only [scaleM, cof, M3.app, V3.smul]; congr 1 <;> ring

theorem Femio.C11.scaleM_det (s : R) : (scaleM s).det = s * s * s := by
  simp only [scaleM, M3.det]; ring

theorem dot_add_left (u v w : V3 R) : dot (add u v) w = dot u w + dot v w := by
  simp only [V3.dot, V3.add]; ring

theorem dot_add (t a b : V3 R) : dot t (add a b) = dot t a + dot t b := by
  simp only [V3.dot, V3.add]; ring

theorem normSq_smul (s : R) (v : V3 R) : normSq (smul s v) = s * s * normSq v := by
  simp only [V3.normSq, V3.dot, V3.smul]; ring

theorem det_rot (a b c : V3 R) : det b c a = det a b c := by
  simp only [V3.det]; ring

theorem det_swap (a b c : V3 R) : det a c b = - det a b c := by
  simp only [V3.det]; ring

theorem det_self_left (a x : V3 R) : det a a x = 0 := by
  simp only [V3.det]; ring

theorem det_self_right (x a : V3 R) : det x a a = 0 := by
  rw [← det_rot, det_self_left]

theorem det_smul (s : R) (a b c : V3 R) : det (smul s a) (smul s b) (smul s c) = s ^ 3 * det a b c := by
  simp only [V3.det, V3.smul]; ring

theorem tet6_linear (m : M3 R) (p0 p1 p2 p3 : V3 R) :
    tet6 (m.app p0) (m.app p1) (m.app p2) (m.app p3) = m.det * tet6 p0 p1 p2 p3 := by
  simp only [tet6, ← M3.app_sub, M3.det_app]

theorem tet6_translate (t p0 p1 p2 p3 : V3 R) :
    tet6 (add p0 t) (add p1 t) (add p2 t) (add p3 t) = tet6 p0 p1 p2 p3 := by
  simp only [tet6, sub_add_add]

/-- outward faces of femio's tet sum to the volume (divergence theorem on the face table) -/
theorem tet_faces_outward (p0 p1 p2 p3 : V3 R) :
    fluxTri6 p0 p2 p1 + fluxTri6 p0 p1 p3 + fluxTri6 p1 p2 p3 + fluxTri6 p0 p3 p2 = tet6 p0 p1 p2 p3 := by
  geom_unfold; ring

theorem det_sub_eq (a b c d : V3 R) :
    det (sub b a) (sub c a) (sub d a) = det a c b + det a b d + det b c d + det a d c :=
  (tet_faces_outward a b c d).symm

theorem quadC4_linear (m : M3 R) (p0 p1 p2 p3 : V3 R) :
    quadC4 (m.app p0) (m.app p1) (m.app p2) (m.app p3) = m.det * quadC4 p0 p1 p2 p3 := by
  simp only [quadC4, ← M3.app_add, M3.det_app, mul_add]

/-- the centroid fan is the mean of the two triangulations of the quadrilateral (each `4·det` per triangle) -/
theorem quadC4_eq (a b c d : V3 R) : quadC4 a b c d = 2 * (det a b c + det b c d + det c d a + det d a b) := by
  simp only [quadC4, V3.det, V3.add]; ring

theorem quadC4_rot (p0 p1 p2 p3 : V3 R) : quadC4 p1 p2 p3 p0 = quadC4 p0 p1 p2 p3 := by
  rw [quadC4_eq, quadC4_eq]; ring

theorem quadC4_rot2 (p0 p1 p2 p3 : V3 R) : quadC4 p2 p3 p0 p1 = quadC4 p0 p1 p2 p3 := by
  rw [quadC4_rot, quadC4_rot]

theorem quadC4_rev (p0 p1 p2 p3 : V3 R) : quadC4 p3 p2 p1 p0 = - quadC4 p0 p1 p2 p3 := by
  have hp : add (add p3 p2) (add p1 p0) = add (add p0 p1) (add p2 p3) := by
    simp only [V3.add]; congr 1 <;> ring
  simp only [quadC4, hp]
  rw [det_swap _ p2 p3, det_swap _ p1 p2, det_swap _ p0 p1, det_swap _ p3 p0]; ring

theorem quadC4_tri (a b c : V3 R) : quadC4 a b c c = 4 * det a b c := by
  rw [quadC4_eq, det_self_right, det_self_left, det_rot]; ring

theorem quadC4_seg (a b : V3 R) : quadC4 a a b b = 0 := by
  rw [quadC4_eq, det_self_left, det_self_right, det_self_left, det_self_right]; ring

theorem quadC4_smul (s : R) (a b c d : V3 R) :
    quadC4 (smul s a) (smul s b) (smul s c) (smul s d) = s ^ 3 * quadC4 a b c d := by
  simp only [quadC4_eq, det_smul]; ring

theorem quadC4_parallelogram (a b e : V3 R) : quadC4 a (add a e) (add b e) b = 8 * det a e b := by
  geom_unfold; ring

theorem quadC4_eq_dot (p0 p1 p2 p3 : V3 R) :
    quadC4 p0 p1 p2 p3 = dot (cross (sub p2 p0) (sub p3 p1)) (add (add p0 p1) (add p2 p3)) := by
  geom_unfold; ring

theorem quadC4_translate (t p0 p1 p2 p3 : V3 R) :
    quadC4 (add p0 t) (add p1 t) (add p2 t) (add p3 t)
      = quadC4 p0 p1 p2 p3 + 4 * dot (cross (sub p2 p0) (sub p3 p1)) t := by
  simp only [quadC4_eq_dot, sub_add_add]
  simp only [V3.dot, V3.add]; ring

/-- the un-normalised quad normal of `_calculate_quad_normals_centroid` is `f²` (16) × the doubled vector area:
    the cross products of a closed quadrilateral about any centre `s`, the corners scaled by `f` -/
theorem quadCrossC_eq (a b c d : V3 R) (f : R) : quadCrossC a b c d f = smul (f * f) (cross (sub c a) (sub d b)) := by
  simp only [quadCrossC]
  generalize add (add a b) (add c d) = s
  simp only [V3.cross, V3.sub, V3.add, V3.smul]; congr 1 <;> ring

theorem triCross_dot_sum (a b c : V3 R) : dot (triCross a b c) (add (add a b) c) = 3 * det a b c := by
  geom_unfold; ring

/-- the vertices of a quadrilateral deviate from its mean plane (through the vertex mean, normal to the vector area)
    by the same amount, alternately to one side and the other: `S · (Σ − 4v) = ±2 det(b−a, c−a, d−a)` -/
theorem quad_mean_plane (a b c d : V3 R) :
    dot (cross (sub c a) (sub d b)) (sub (add (add a b) (add c d)) (smul 4 a)) = 2 * det (sub b a) (sub c a) (sub d a) ∧
    dot (cross (sub c a) (sub d b)) (sub (add (add a b) (add c d)) (smul 4 b)) = -2 * det (sub b a) (sub c a) (sub d a) ∧
    dot (cross (sub c a) (sub d b)) (sub (add (add a b) (add c d)) (smul 4 c)) = 2 * det (sub b a) (sub c a) (sub d a) ∧
    dot (cross (sub c a) (sub d b)) (sub (add (add a b) (add c d)) (smul 4 d)) = -2 * det (sub b a) (sub c a) (sub d a) := by
  geom_unfold
  refine ⟨?_, ?_, ?_, ?_⟩ <;> ring

/-! The fan volume of femio's face table is the common reference.  A linear kernel (tets on fixed diagonals) differs from
  it by the tetrahedra on the four corners of some quad faces (`twist`); the centroid kernel is, face by face, four times
  the fan plus twice the twist (`quadC4_fan`).  Hence `4·linear − centroid` is a signed sum of face twists; and since the
  linear kernels and the twists only see differences of nodes, the centroid kernels are translation invariant. -/

theorem hexLin6_linear (m : M3 R) (p0 p1 p2 p3 p4 p5 p6 p7 : V3 R) :
    hexLin6 (m.app p0) (m.app p1) (m.app p2) (m.app p3) (m.app p4) (m.app p5) (m.app p6) (m.app p7)
      = m.det * hexLin6 p0 p1 p2 p3 p4 p5 p6 p7 := by
  simp only [hexLin6, ← M3.app_sub, M3.det_app]; ring

theorem hexLin6_translate (t p0 p1 p2 p3 p4 p5 p6 p7 : V3 R) :
    hexLin6 (add p0 t) (add p1 t) (add p2 t) (add p3 t) (add p4 t) (add p5 t) (add p6 t) (add p7 t)
      = hexLin6 p0 p1 p2 p3 p4 p5 p6 p7 := by
  simp only [hexLin6, sub_add_add]

theorem pyrLin6_translate (t p0 p1 p2 p3 p4 : V3 R) :
    pyrLin6 (add p0 t) (add p1 t) (add p2 t) (add p3 t) (add p4 t) = pyrLin6 p0 p1 p2 p3 p4 := by
  simp only [pyrLin6, tet6_translate]

theorem prismLin6_translate (t p0 p1 p2 p3 p4 p5 : V3 R) :
    prismLin6 (add p0 t) (add p1 t) (add p2 t) (add p3 t) (add p4 t) (add p5 t) = prismLin6 p0 p1 p2 p3 p4 p5 := by
  simp only [prismLin6, tet6_translate]

theorem twist_translate (t a b c d : V3 R) : twist (add a t) (add b t) (add c t) (add d t) = twist a b c d := by
  simp only [twist, sub_add_add]

theorem quadC4_fan (a b c d : V3 R) : quadC4 a b c d = 4 * (det a b c + det a c d) + 2 * twist a b c d := by
  simp only [quadC4_eq, twist, det_sub_eq]
  linear_combination - 2 * det_swap a b c - 2 * det_rot d a b - 2 * det_swap a c d + 2 * det_rot a c d

/-- hex: `linear − (fan volume of the six faces of the face table)`, each face `a b c d` fanned from `a`.  Each
    tetrahedron of the linear kernel, and each twist, is the sum of its four faces (`det_sub_eq`); the inner faces
    cancel and the outer ones are the fan triangles, up to the order in which `det` is given its arguments. -/
theorem hex_lin_fan (p0 p1 p2 p3 p4 p5 p6 p7 : V3 R) :
    hexLin6 p0 p1 p2 p3 p4 p5 p6 p7
      = (det p0 p1 p5 + det p0 p5 p4) + (det p0 p3 p2 + det p0 p2 p1) + (det p1 p2 p6 + det p1 p6 p5)
        + (det p2 p3 p7 + det p2 p7 p6) + (det p3 p0 p4 + det p3 p4 p7) + (det p4 p5 p6 + det p4 p6 p7)
        + (twist p0 p1 p5 p4 + twist p0 p3 p2 p1 + twist p2 p3 p7 p6) := by
  simp only [hexLin6, twist, det_sub_eq]
  linear_combination - det_swap p0 p1 p2 - det_rot p1 p0 p3 - det_rot p4 p0 p1 - det_swap p0 p1 p5 - det_swap p0 p2 p3
    - det_rot p4 p3 p0 - det_swap p0 p4 p5 + det_rot p3 p2 p1 - det_rot p6 p1 p2 - det_rot p4 p1 p3 + det_swap p1 p3 p4
    + det_swap p6 p1 p3 + det_rot p1 p5 p4 + det_swap p6 p1 p4 + det_rot p6 p1 p4 - det_rot p5 p1 p6 - det_rot p6 p2 p3
    - det_swap p2 p3 p7 - det_swap p2 p6 p7 - det_rot p6 p3 p4 + det_swap p3 p4 p6 + det_rot p4 p5 p6 - det_rot p7 p4 p6

theorem prism_lin_fan (p0 p1 p2 p3 p4 p5 : V3 R) :
    prismLin6 p0 p1 p2 p3 p4 p5
      = det p0 p1 p2 + det p3 p5 p4 + (det p0 p3 p4 + det p0 p4 p1) + (det p1 p4 p5 + det p1 p5 p2)
        + (det p0 p2 p5 + det p0 p5 p3) + (twist p0 p3 p4 p1 + twist p1 p4 p5 p2 + twist p0 p2 p5 p3) := by
  simp only [prismLin6, tet6, twist, det_sub_eq]
  linear_combination - det_swap p0 p1 p4 - det_swap p0 p2 p5 - det_swap p0 p3 p4 - det_swap p0 p3 p5 + det_swap p2 p3 p1
    - det_rot p1 p2 p3 - det_swap p1 p2 p5 - det_rot p1 p3 p4 - det_swap p1 p4 p5 + det_swap p3 p4 p2 - det_rot p2 p3 p4
    - det_rot p2 p4 p5 - det_rot p4 p3 p5

/-- the pyramid's linear kernel IS the fan volume of its face table (same diagonal of the base) -/
theorem pyr_lin_fan (p0 p1 p2 p3 p4 : V3 R) :
    pyrLin6 p0 p1 p2 p3 p4
      = det p0 p1 p4 + det p1 p2 p4 + det p2 p3 p4 + det p3 p0 p4 + (det p0 p3 p2 + det p0 p2 p1) := by
  simp only [pyrLin6, tet6, det_sub_eq]
  linear_combination det_swap p0 p2 p4 + det_rot p3 p0 p4

/-- hex: `4·linear − centroid` in terms of the six face twists (faces in the order of femio's face table) -/
theorem hex_lin_centroid_defect (p0 p1 p2 p3 p4 p5 p6 p7 : V3 R) :
    4 * hexLin6 p0 p1 p2 p3 p4 p5 p6 p7 = hexC24 p0 p1 p2 p3 p4 p5 p6 p7
      + 2 * (twist p0 p1 p5 p4 + twist p0 p3 p2 p1 - twist p1 p2 p6 p5 + twist p2 p3 p7 p6
             - twist p3 p0 p4 p7 - twist p4 p5 p6 p7) := by
  simp only [hexC24]
  -- the faces as `hexC24` lists them, turned to the listing of the face table
  rw [quadC4_rot p0 p3 p2 p1, quadC4_rot2 p0 p1 p5 p4, quadC4_rot2 p4 p5 p6 p7, ← quadC4_rot p5 p1 p2 p6,
    quadC4_rot2 p3 p0 p4 p7]
  simp only [quadC4_fan]
  linear_combination 4 * hex_lin_fan p0 p1 p2 p3 p4 p5 p6 p7

theorem prism_lin_centroid_defect (p0 p1 p2 p3 p4 p5 : V3 R) :
    4 * prismLin6 p0 p1 p2 p3 p4 p5 = prismC24 4 p0 p1 p2 p3 p4 p5
      + 2 * (twist p0 p3 p4 p1 + twist p1 p4 p5 p2 + twist p0 p2 p5 p3) := by
  simp only [prismC24]
  rw [quadC4_rot p0 p2 p5 p3, det_rot p3 p5 p4]
  simp only [quadC4_fan]
  linear_combination 4 * prism_lin_fan p0 p1 p2 p3 p4 p5

theorem pyr_lin_centroid_defect (p0 p1 p2 p3 p4 : V3 R) :
    4 * pyrLin6 p0 p1 p2 p3 p4 = pyrC24 4 p0 p1 p2 p3 p4 - 2 * twist p0 p3 p2 p1 := by
  simp only [pyrC24]
  rw [← quadC4_rot p1 p0 p3 p2]
  simp only [quadC4_fan]
  linear_combination 4 * pyr_lin_fan p0 p1 p2 p3 p4

theorem hexC24_linear (m : M3 R) (p0 p1 p2 p3 p4 p5 p6 p7 : V3 R) :
    hexC24 (m.app p0) (m.app p1) (m.app p2) (m.app p3) (m.app p4) (m.app p5) (m.app p6) (m.app p7)
      = m.det * hexC24 p0 p1 p2 p3 p4 p5 p6 p7 := by
  simp only [hexC24, quadC4_linear, mul_add]

theorem hexC24_translate (t p0 p1 p2 p3 p4 p5 p6 p7 : V3 R) :
    hexC24 (add p0 t) (add p1 t) (add p2 t) (add p3 t) (add p4 t) (add p5 t) (add p6 t) (add p7 t)
      = hexC24 p0 p1 p2 p3 p4 p5 p6 p7 := by
  have h := hex_lin_centroid_defect (add p0 t) (add p1 t) (add p2 t) (add p3 t) (add p4 t) (add p5 t) (add p6 t)
    (add p7 t)
  simp only [hexLin6_translate, twist_translate, hex_lin_centroid_defect p0 p1 p2 p3 p4 p5 p6 p7] at h
  exact (add_right_cancel h).symm

theorem prismC24_linear (m : M3 R) (p0 p1 p2 p3 p4 p5 : V3 R) :
    prismC24 4 (m.app p0) (m.app p1) (m.app p2) (m.app p3) (m.app p4) (m.app p5)
      = m.det * prismC24 4 p0 p1 p2 p3 p4 p5 := by
  simp only [prismC24, quadC4_linear, M3.det_app]; ring

/-- modes agree on affine prisms: p3 = p0 + e, p4 = p1 + e, p5 = p2 + e -/
theorem prism_modes_affine (p0 p1 p2 e : V3 R) :
    prismC24 4 p0 p1 p2 (add p0 e) (add p1 e) (add p2 e) = 4 * prismLin6 p0 p1 p2 (add p0 e) (add p1 e) (add p2 e) := by
  simp only [prismC24, quadC4_parallelogram]
  simp only [prismLin6, tet6, V3.det, V3.sub, V3.add]; ring

/-- degenerate hex (nodes 0=1, 4=5) equals the prism [0,3,2,4,7,6] chosen by resolve_degeneracy: two faces collapse
    to triangles, one to a segment -/
theorem degenerate01 (p0 p2 p3 p4 p6 p7 : V3 R) :
    hexC24 p0 p0 p2 p3 p4 p4 p6 p7 = prismC24 4 p0 p3 p2 p4 p7 p6 := by
  simp only [hexC24, prismC24]
  linear_combination quadC4_tri p3 p2 p0 + 4 * det_rot p0 p3 p2 + quadC4_seg p4 p0 + quadC4_tri p6 p7 p4
    - quadC4_rot p2 p3 p7 p6 + quadC4_rot p0 p4 p7 p3 + quadC4_rot p6 p4 p0 p2 + quadC4_rot p2 p6 p4 p0

/-- the hexahedron turned by a quarter about the axis through its bottom and top face -/
theorem hexC24_rot (p0 p1 p2 p3 p4 p5 p6 p7 : V3 R) :
    hexC24 p1 p2 p3 p0 p5 p6 p7 p4 = hexC24 p0 p1 p2 p3 p4 p5 p6 p7 := by
  simp only [hexC24]
  linear_combination - quadC4_rot p0 p3 p2 p1 - quadC4_rot p6 p5 p1 p2 + quadC4_rot p6 p7 p4 p5 + quadC4_rot2 p4 p7 p3 p0
    - quadC4_rot p6 p2 p3 p7

/-- the prism turned by a third about its axis -/
theorem prismC24_rot (four : R) (p0 p1 p2 p3 p4 p5 : V3 R) :
    prismC24 four p1 p2 p0 p4 p5 p3 = prismC24 four p0 p1 p2 p3 p4 p5 := by
  simp only [prismC24]
  linear_combination four * det_rot p0 p1 p2 - four * det_rot p3 p5 p4

/-- a pyramid is a hexahedron whose top face is collapsed to the apex: the bottom is the base, the four sides are the
    triangles through the apex, the top has no area -/
theorem pyr_eq_hex (p0 p1 p2 p3 a : V3 R) : pyrC24 4 p0 p1 p2 p3 a = hexC24 p0 p1 p2 p3 a a a a := by
  rw [hexC24, pyrC24]
  linear_combination quadC4_rot2 p3 p2 p1 p0 - quadC4_rot2 p0 p1 a a - quadC4_tri p0 p1 a - quadC4_seg a a
    - quadC4_tri p2 p3 a + quadC4_rot a p1 p2 a - quadC4_tri p1 p2 a - quadC4_rot2 p3 p0 a a - quadC4_tri p3 p0 a

theorem pyrC24_translate (t p0 p1 p2 p3 p4 : V3 R) :
    pyrC24 4 (add p0 t) (add p1 t) (add p2 t) (add p3 t) (add p4 t) = pyrC24 4 p0 p1 p2 p3 p4 := by
  rw [pyr_eq_hex, pyr_eq_hex, hexC24_translate]

/-- a prism is a hexahedron with two collapsed edges -/
theorem prismC24_translate (t p0 p1 p2 p3 p4 p5 : V3 R) :
    prismC24 4 (add p0 t) (add p1 t) (add p2 t) (add p3 t) (add p4 t) (add p5 t) = prismC24 4 p0 p1 p2 p3 p4 p5 := by
  rw [← degenerate01, ← degenerate01, hexC24_translate]
