import Femio.Model.Geom2
import Femio.Lemmas.GeomProps

open V3 Geom
variable {R : Type} [CommRing R]

/-- the remaining three collapse patterns of `resolve_degeneracy` are pattern 01 (GeomProps) on the hexahedron turned about
    its axis, the prism turned back -/
theorem degenerate12 (p0 p1 p3 p4 p5 p7 : V3 R) : hexC24 p0 p1 p1 p3 p4 p5 p5 p7 = prismC24 4 p0 p3 p1 p4 p7 p5 := by
  rw [← hexC24_rot p0 p1 p1 p3 p4 p5 p5 p7, degenerate01, prismC24_rot 4 p1 p0 p3 p5 p4 p7]
theorem degenerate23 (p0 p1 p2 p4 p5 p6 : V3 R) : hexC24 p0 p1 p2 p2 p4 p5 p6 p6 = prismC24 4 p0 p2 p1 p4 p6 p5 := by
  rw [← hexC24_rot p0 p1 p2 p2 p4 p5 p6 p6, ← hexC24_rot p1 p2 p2 p0 p5 p6 p6 p4, degenerate01,
    prismC24_rot 4 p1 p0 p2 p5 p4 p6, prismC24_rot 4 p2 p1 p0 p6 p5 p4]
theorem degenerate30 (p0 p1 p2 p4 p5 p6 : V3 R) : hexC24 p0 p1 p2 p0 p4 p5 p6 p4 = prismC24 4 p0 p2 p1 p4 p6 p5 := by
  rw [hexC24_rot p0 p0 p1 p2 p4 p4 p5 p6, degenerate01]

/-- C18_positive: the permutation negates the signed volume -/
theorem tet_permute_neg (p0 p1 p2 p3 : V3 R) : tetPermuted6 p0 p1 p2 p3 = - tet6 p0 p1 p2 p3 := by
  rw [tetPermuted6, tet6, tet6, ← det_rot, det_swap]

/-- at every evaluation point the four weights of a Jacobian column add up to 4 -/
theorem gauss_weights (y z : R) : (1 - y) * (1 - z) + (1 - y) * (1 + z) + (1 + y) * (1 - z) + (1 + y) * (1 + z) = 4 := by
  ring

/-- Gaussian hex mode on an affine hex, for ANY abscissa `p` (so the truncated literal is harmless there): the four
    parallel edges that enter a Jacobian column are equal, so the column is `4 eₖ` at every point -/
theorem hexGauss_affine (p : R) (o e1 e2 e3 : V3 R) :
    hexGauss512 1 p o (add o e1) (add (add o e1) e2) (add o e2) (add o e3) (add (add o e1) e3)
      (add (add (add o e1) e2) e3) (add (add o e2) e3) = 512 * V3.det e1 e2 e3 := by
  simp only [hexGauss512, sub_add_add, sub_add_left, smul_add4, gauss_weights]
  simp only [V3.smul, V3.det]; ring

/-- parallelepiped: linear, centroid and Gaussian mode (any abscissa) all give `det(e1,e2,e3)`; the centroid mode through
    `4·linear − centroid = ` twists of the faces, which are parallelograms -/
theorem hex_modes_affine (g : R) (o e1 e2 e3 : V3 R) :
    hexLin6 o (add o e1) (add (add o e1) e2) (add o e2) (add o e3) (add (add o e1) e3)
      (add (add (add o e1) e2) e3) (add (add o e2) e3) = 6 * V3.det e1 e2 e3 ∧
    hexC24 o (add o e1) (add (add o e1) e2) (add o e2) (add o e3) (add (add o e1) e3)
      (add (add (add o e1) e2) e3) (add (add o e2) e3) = 24 * V3.det e1 e2 e3 ∧
    hexGauss512 1 g o (add o e1) (add (add o e1) e2) (add o e2) (add o e3) (add (add o e1) e3)
      (add (add (add o e1) e2) e3) (add (add o e2) e3) = 512 * V3.det e1 e2 e3 := by
  have hl : hexLin6 o (add o e1) (add (add o e1) e2) (add o e2) (add o e3) (add (add o e1) e3)
      (add (add (add o e1) e2) e3) (add (add o e2) e3) = 6 * V3.det e1 e2 e3 := by
    geom_unfold; ring
  refine ⟨hl, ?_, hexGauss_affine g o e1 e2 e3⟩
  have h := hex_lin_centroid_defect o (add o e1) (add (add o e1) e2) (add o e2) (add o e3)
    (add (add o e1) e3) (add (add (add o e1) e2) e3) (add (add o e2) e3)
  rw [hl] at h
  simp only [Femio.C11.twist, V3.det, V3.sub, V3.add] at h ⊢
  linear_combination -h

/-- on a parallelogram the integrand of the Gaussian quad mode is `4 e1 × e2` at every point, and each of the two cross
    products of the linear mode is `e1 × e2` -/
theorem quad_modes_affine (xi eta : R) (o e1 e2 : V3 R) :
    quadGaussCross 1 xi eta o (add o e1) (add (add o e1) e2) (add o e2) = smul 4 (cross e1 e2) ∧
    quadLinCross1 o (add o e1) (add (add o e1) e2) (add o e2) = cross e1 e2 ∧
    quadLinCross2 o (add o e1) (add (add o e1) e2) (add o e2) = cross e1 e2 := by
  refine ⟨?_, ?_, ?_⟩
  · simp only [quadGaussCross, sub_add_add, sub_add_left]
    simp only [V3.cross, V3.add, V3.smul]; congr 1 <;> ring
  · simp only [quadLinCross1, V3.add, V3.sub, V3.cross]; congr 1 <;> ring
  · simp only [quadLinCross2, V3.add, V3.sub, V3.cross]; congr 1 <;> ring
