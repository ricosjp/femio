import Femio.Model.Gradient
import Mathlib.Tactic.Ring
import Mathlib.Tactic.FieldSimp
import Mathlib.LinearAlgebra.Matrix.Determinant.Basic

/-! Helper lemmas for C15.  Exactness on affine fields comes from the additivity of the list sums (`map_foldr_add`), the
    bilinearity of `mulVec` and the adjugate inverse; a row of the COO matrices applied with `dotCoo` is the operator row
    applied with `applyRow`; `toMatrix` states the determinant hypothesis in Mathlib's terms.  In `Femio.C15`: the row forms of
    the two exactness clauses, the translated / row-wise rescaled input, which leave `offRow` as it is, numpy's truncating
    assignment (`truncQ`) and the call model in which every call returns a fresh array (`callFresh`). -/
namespace Femio.Gradient
open V3

variable {K : Type} [Field K]

omit [Field K] in
theorem v3_ext {a b : V3 K} (hx : a.x = b.x) (hy : a.y = b.y) (hz : a.z = b.z) : a = b := by
  cases a; cases b; simp_all

@[simp] theorem sumV_nil : sumV ([] : List (V3 K)) = vzero := rfl
@[simp] theorem sumV_cons (a : V3 K) (l : List (V3 K)) : sumV (a :: l) = V3.add a (sumV l) := rfl
@[simp] theorem sumM_nil : sumM ([] : List (M3 K)) = mzero := rfl
@[simp] theorem sumM_cons (a : M3 K) (l : List (M3 K)) : sumM (a :: l) = madd a (sumM l) := rfl
@[simp] theorem sumR_nil : sumR ([] : List K) = 0 := rfl
@[simp] theorem sumR_cons (a : K) (l : List K) : sumR (a :: l) = a + sumR l := rfl

/-- `sumV`, `sumM` and `sumR` are `foldr`s of an addition, so an additive map commutes with each of them -/
theorem map_foldr_add {ι α β : Type} {f : α → α → α} {z : α} {g : β → β → β} {w : β} (φ : α → β)
    (h0 : φ z = w) (hadd : ∀ a b, φ (f a b) = g (φ a) (φ b)) (F : ι → α) (l : List ι) :
    φ ((l.map F).foldr f z) = (l.map fun e => φ (F e)).foldr g w := by
  induction l with
  | nil => exact h0
  | cons a t ih => rw [List.map_cons, List.foldr_cons, hadd, ih, List.map_cons, List.foldr_cons]

theorem sumV_append (a b : List (V3 K)) : sumV (a ++ b) = V3.add (sumV a) (sumV b) := by
  induction a with
  | nil => simp only [List.nil_append, sumV_nil, V3.add, vzero, zero_add]
  | cons h t ih => simp only [List.cons_append, sumV_cons, ih, V3.add, add_assoc]

theorem smul_vzero (c : K) : smul c (vzero : V3 K) = vzero := by
  simp only [smul, vzero, mul_zero]

theorem smul_vadd (c : K) (a b : V3 K) : smul c (V3.add a b) = V3.add (smul c a) (smul c b) := by
  simp only [smul, V3.add, mul_add]

theorem smul_vsmul (a b : K) (v : V3 K) : smul a (smul b v) = smul (a * b) v := by
  simp only [smul, mul_assoc]

theorem one_vsmul (v : V3 K) : smul 1 v = v := v3_ext (one_mul _) (one_mul _) (one_mul _)

theorem sumV_smul {α : Type} (c : K) (g : α → V3 K) (l : List α) :
    sumV (l.map fun e => smul c (g e)) = smul c (sumV (l.map g)) :=
  (map_foldr_add (smul c) (smul_vzero c) (smul_vadd c) g l).symm

theorem sumR_mul {α : Type} (c : K) (g : α → K) (l : List α) :
    sumR (l.map fun e => c * g e) = c * sumR (l.map g) :=
  (map_foldr_add (c * ·) (mul_zero c) (mul_add c) g l).symm

/-- subtracting a constant from the field = adding the diagonal entry `−Σ g` times the constant -/
theorem sumV_shift {α : Type} (f : α → K) (g : α → V3 K) (c : K) (l : List α) :
    sumV (l.map fun e => smul (f e - c) (g e))
      = V3.add (sumV (l.map fun e => smul (f e) (g e))) (smul c (vneg (sumV (l.map g)))) := by
  induction l with
  | nil => simp only [List.map_nil, sumV_nil, smul, vzero, vneg, V3.add, neg_zero, mul_zero, add_zero]
  | cons h t ih =>
    simp only [List.map_cons, sumV_cons, ih]
    apply v3_ext <;> simp only [V3.add, smul, vneg] <;> ring

theorem dot_add (r u v : V3 K) : dot r (V3.add u v) = dot r u + dot r v := by
  simp only [dot, V3.add]; ring

theorem add_dot (r r' v : V3 K) : dot (V3.add r r') v = dot r v + dot r' v := by
  simp only [dot, V3.add]; ring

theorem dot_smul (r : V3 K) (c : K) (v : V3 K) : dot r (smul c v) = c * dot r v := by
  simp only [dot, smul, mul_add, mul_left_comm]

theorem smul_dot (c : K) (r v : V3 K) : dot (smul c r) v = c * dot r v := by
  simp only [dot, smul, mul_add, mul_assoc]

theorem mulVec_vzero (B : M3 K) : mulVec B vzero = vzero := by
  simp only [mulVec, dot, vzero, mul_zero, add_zero]

theorem mulVec_add (B : M3 K) (u v : V3 K) : mulVec B (V3.add u v) = V3.add (mulVec B u) (mulVec B v) := by
  simp only [mulVec, dot_add]; rfl

theorem mulVec_smul (B : M3 K) (c : K) (v : V3 K) : mulVec B (smul c v) = smul c (mulVec B v) := by
  simp only [mulVec, dot_smul]; rfl

theorem mzero_mulVec (v : V3 K) : mulVec mzero v = vzero := by
  simp only [mulVec, dot, mzero, vzero, zero_mul, add_zero]

theorem madd_mulVec (A B : M3 K) (v : V3 K) : mulVec (madd A B) v = V3.add (mulVec A v) (mulVec B v) := by
  simp only [mulVec, madd, add_dot]; rfl

theorem msmul_mulVec (c : K) (A : M3 K) (v : V3 K) : mulVec (msmul c A) v = smul c (mulVec A v) := by
  simp only [mulVec, msmul, smul_dot]; rfl

theorem outer_mulVec (d e a : V3 K) : mulVec (outer d e) a = smul (dot e a) d := by
  simp only [mulVec, outer, smul_dot]
  exact v3_ext (mul_comm _ _) (mul_comm _ _) (mul_comm _ _)

/-- the heart of the moment-matrix correction: `Σ_j (d_j·a) B (s_j d_j) = B ((Σ_j s_j d_j d_jᵀ) a)`, since both
    `B` and `M ↦ M a` are additive and `(s d dᵀ) a = s (d·a) d` -/
theorem sum_moment (B : M3 K) (a : V3 K) (s : Nat → K) (d : Nat → V3 K) (l : List Nat) :
    sumV (l.map fun j => smul (dot (d j) a) (mulVec B (smul (s j) (d j))))
      = mulVec B (mulVec (sumM (l.map fun j => msmul (s j) (outer (d j) (d j)))) a) := by
  refine Eq.trans ?_ (map_foldr_add (fun M => mulVec B (mulVec M a))
    (by rw [mzero_mulVec, mulVec_vzero]) (fun M N => by rw [madd_mulVec, mulVec_add]) _ l).symm
  refine congrArg sumV (List.map_congr_left fun j _ => ?_)
  simp only [msmul_mulVec, outer_mulVec, mulVec_smul, smul_vsmul, mul_comm]

theorem adj3_mulVec (M : M3 K) (a : V3 K) : mulVec (adj3 M) (mulVec M a) = smul (det3 M) a := by
  apply v3_ext <;> simp only [adj3, mulVec, dot, cross, det3, V3.det, smul] <;> ring

theorem inv3_eq (M : M3 K) : inv3 M = msmul (det3 M)⁻¹ (adj3 M) := by
  simp only [inv3, vdiv, msmul, smul, div_eq_inv_mul]

theorem inv3_mulVec (M : M3 K) (a : V3 K) (h : det3 M ≠ 0) : mulVec (inv3 M) (mulVec M a) = a := by
  rw [inv3_eq, msmul_mulVec, adj3_mulVec, smul_vsmul, inv_mul_cancel₀ h, one_vsmul]

theorem msmul_mzero (k : K) : msmul k (mzero : M3 K) = mzero := by
  simp only [msmul, mzero, smul_vzero]

theorem msmul_madd (k : K) (A B : M3 K) : msmul k (madd A B) = madd (msmul k A) (msmul k B) := by
  simp only [msmul, madd, smul_vadd]

theorem msmul_msmul (a b : K) (M : M3 K) : msmul a (msmul b M) = msmul (a * b) M := by
  simp only [msmul, smul_vsmul]

theorem sumM_msmul {α : Type} (k : K) (g : α → M3 K) (l : List α) :
    sumM (l.map fun e => msmul k (g e)) = msmul k (sumM (l.map g)) :=
  (map_foldr_add (msmul k) (msmul_mzero k) (msmul_madd k) g l).symm

theorem cross_smul (k : K) (a b : V3 K) : cross (smul k a) (smul k b) = smul (k ^ 2) (cross a b) := by
  apply v3_ext <;> simp only [cross, smul] <;> ring

theorem adj3_msmul (k : K) (M : M3 K) : adj3 (msmul k M) = msmul (k ^ 2) (adj3 M) := by
  simp only [adj3, msmul, cross_smul]
  rfl

theorem det3_msmul (k : K) (M : M3 K) : det3 (msmul k M) = k ^ 3 * det3 M := by
  simp only [det3, V3.det, msmul, smul]
  ring

/-- `inv (k M) = k⁻¹ inv M` for the adjugate / determinant inverse, `k ≠ 0` (also when `M` is singular: both sides are
    the totalised `adj / 0 = 0`) -/
theorem inv3_msmul (k : K) (hk : k ≠ 0) (M : M3 K) : inv3 (msmul k M) = msmul k⁻¹ (inv3 M) := by
  rw [inv3_eq, inv3_eq, adj3_msmul, det3_msmul, msmul_msmul, msmul_msmul, mul_inv]
  congr 1
  field_simp

theorem comp_sumV {α : Type} (k : Nat) (g : α → V3 K) (l : List α) :
    comp k (sumV (l.map g)) = sumR (l.map fun e => comp k (g e)) :=
  map_foldr_add (comp k) (by rcases k with _ | _ | k <;> rfl) (fun a b => by rcases k with _ | _ | k <;> rfl) g l

/-- the scalar on the right, as `dotCoo` multiplies `e.2.2 * data e.2.1` -/
theorem comp_smul (k : Nat) (c : K) (v : V3 K) : comp k (smul c v) = comp k v * c := by
  rcases k with _ | _ | k <;> exact mul_comm _ _

theorem filter_fst_map {α β : Type} (i i' : Nat) (g : α → β) (l : List α) :
    (l.map fun e => (i', g e)).filter (fun e => e.1 == i) = if i' = i then l.map (fun e => (i', g e)) else [] := by
  rw [List.filter_map]
  show (l.filter fun _ => i' == i).map _ = _
  by_cases h : i' = i
  · rw [if_pos h, List.filter_eq_self.2 fun _ _ => beq_iff_eq.2 h]
  · rw [if_neg h, List.filter_eq_nil_iff.2 fun _ _ hh => h (beq_iff_eq.1 hh), List.map_nil]

/-- the entries of row `i` of a COO matrix assembled row block by row block are exactly block `i` -/
theorem flatMap_pick {α : Type} (F : Nat → List α) (i n : Nat) :
    (List.range n).flatMap (fun i' => if i' = i then F i' else []) = if i < n then F i else [] := by
  induction n with
  | zero => rfl
  | succ n ih =>
    rw [List.range_succ, List.flatMap_append, ih, List.flatMap_singleton]
    rcases Nat.lt_trichotomy i n with h | rfl | h
    · rw [if_pos h, if_neg (Nat.ne_of_gt h), if_pos (Nat.lt_succ_of_lt h), List.append_nil]
    · rw [if_neg (Nat.lt_irrefl i), if_pos rfl, if_pos (Nat.lt_succ_self i), List.nil_append]
    · rw [if_neg (Nat.lt_asymm h), if_neg (Nat.ne_of_lt h), if_neg (by omega), List.append_nil]

theorem dotCoo_gradAdj (I : Inp K) (k : Nat) (data : Nat → K) (i : Nat) (hi : i < I.n) :
    dotCoo (gradAdj I k) data i = comp k (applyRow (opRow I i) data) := by
  unfold dotCoo gradAdj applyRow
  rw [List.filter_flatMap]
  simp only [filter_fst_map]
  rw [flatMap_pick (fun i' => (opRow I i').map fun e => (i', e.1, comp k e.2)) i I.n, if_pos hi,
    comp_sumV, List.map_map]
  refine congrArg sumR (List.map_congr_left fun e _ => ?_)
  exact (comp_smul k _ _).symm

theorem spatialGradients_eq (I : Inp K) (data : Nat → K) (i : Nat) (hi : i < I.n) :
    spatialGradients I data i = applyRow (opRow I i) data := by
  unfold spatialGradients
  rw [dotCoo_gradAdj I 0 data i hi, dotCoo_gradAdj I 1 data i hi, dotCoo_gradAdj I 2 data i hi]
  rfl

theorem applyRow_opRow (I : Inp K) (i : Nat) (f : Nat → K) :
    applyRow (opRow I i) f = sumV ((offRow I i).map fun e => smul (f e.1 - f i) e.2) := by
  unfold applyRow opRow
  rw [List.map_append, sumV_append, sumV_shift]
  simp only [List.map_cons, List.map_nil, sumV_cons, sumV_nil, V3.add, vzero, add_zero]

theorem opRow_congr {I J : Inp K} (h : ∀ i, offRow J i = offRow I i) (i : Nat) : opRow J i = opRow I i := by
  unfold opRow; rw [h]

theorem spatialGradients_congr {I J : Inp K} (h : ∀ i, offRow J i = offRow I i) (hn : J.n = I.n)
    (data : Nat → K) (i : Nat) : spatialGradients J data i = spatialGradients I data i := by
  have hg : ∀ k, gradAdj J k = gradAdj I k := fun k => by unfold gradAdj; simp only [opRow_congr h, hn]
  unfold spatialGradients; simp only [hg]

/-- the model's row-wise 3×3 matrix as a Mathlib matrix -/
def toMatrix (M : M3 K) : Matrix (Fin 3) (Fin 3) K :=
  !![M.r0.x, M.r0.y, M.r0.z; M.r1.x, M.r1.y, M.r1.z; M.r2.x, M.r2.y, M.r2.z]

theorem det3_eq_det (M : M3 K) : det3 M = (toMatrix M).det := by
  obtain ⟨⟨m00, m01, m02⟩, ⟨m10, m11, m12⟩, ⟨m20, m21, m22⟩⟩ := M
  rw [Matrix.det_fin_three]
  show _ = m00 * m11 * m22 - m00 * m12 * m21 - m01 * m10 * m22 + m01 * m12 * m20 + m02 * m10 * m21 - m02 * m11 * m20
  simp only [det3, V3.det]
  ring

end Femio.Gradient

namespace Femio.C15
open Femio.Gradient V3

variable {K : Type} [Field K]

/-- row form: off-diagonal entries plus the diagonal `−row sum` annihilate constants -/
theorem const_zero_row (I : Inp K) (i : Nat) (c : K) : applyRow (opRow I i) (fun _ => c) = vzero := by
  rw [applyRow_opRow, sub_self, sumV_smul 0 fun e : Nat × V3 K => e.2]
  exact v3_ext (zero_mul _) (zero_mul _) (zero_mul _)

theorem affine_exact_row (I : Inp K) (hm : I.moment = true) (i : Nat) (hdet : det3 (momentAt I i) ≠ 0)
    (a : V3 K) (b : K) : applyRow (opRow I i) (fun j => dot a (I.pos j) + b) = a := by
  have hd : ∀ j, dot a (I.pos j) + b - (dot a (I.pos i) + b) = dot (dvec I i j) a := by
    intro j; simp only [dvec, dot, V3.sub]; ring
  rw [applyRow_opRow, offRow]
  simp only [hm, if_true, List.map_map, Function.comp_def, hd]
  rw [sum_moment (inv3 (momentAt I i)) a (sq I i) (dvec I i) (I.nbrs i)]
  exact inv3_mulVec _ _ hdet

/-- the same input with every vertex position translated by `t` (same graph, same weights: the weights of the real
    code are functions of distances and of translation-invariant volumes) -/
def translate (I : Inp K) (t : V3 K) : Inp K := { I with pos := fun j => V3.add (I.pos j) t }

theorem dvec_translate (I : Inp K) (t : V3 K) (i j : Nat) : dvec (translate I t) i j = dvec I i j := by
  simp only [dvec, translate, V3.sub, V3.add, add_sub_add_right_eq_sub]

theorem offRow_translate (I : Inp K) (t : V3 K) (i : Nat) : offRow (translate I t) i = offRow I i := by
  unfold offRow momentAt Gradient.sq sumW
  simp only [dvec_translate]
  rfl

/-- the same input with the weights of every row `i` multiplied by `c i` (volume weighting on a graded mesh: the
    neighbour volumes of a vertex of the fine region are `(h_fine / h_coarse)³` times those of a vertex of the coarse
    region) -/
def scaleW (I : Inp K) (c : Nat → K) : Inp K := { I with w := fun i j => c i * I.w i j }

theorem sq_scaleW (I : Inp K) (c : Nat → K) (i j : Nat) : Gradient.sq (scaleW I c) i j = c i * Gradient.sq I i j := by
  simp only [Gradient.sq, scaleW, dvec, mul_div_assoc]

theorem momentAt_scaleW (I : Inp K) (c : Nat → K) (i : Nat) :
    momentAt (scaleW I c) i = msmul (c i) (momentAt I i) := by
  unfold momentAt
  rw [← sumM_msmul]
  refine congrArg sumM (List.map_congr_left fun j _ => ?_)
  rw [sq_scaleW, msmul_msmul]
  rfl

theorem sumW_scaleW (I : Inp K) (c : Nat → K) (i : Nat) : sumW (scaleW I c) i = c i * sumW I i :=
  sumR_mul (c i) (I.w i) (I.nbrs i)

theorem offRow_scaleW (I : Inp K) (c : Nat → K) (hc : ∀ i, c i ≠ 0) (i : Nat) :
    offRow (scaleW I c) i = offRow I i := by
  unfold offRow
  show (if I.moment = true then _ else _) = _
  by_cases hmo : I.moment = true
  · -- `(c M)⁻¹ (c s d) = M⁻¹ (s d)`
    rw [if_pos hmo, if_pos hmo]
    refine List.map_congr_left fun j _ => congrArg (Prod.mk j) ?_
    rw [momentAt_scaleW, inv3_msmul _ (hc i), sq_scaleW, msmul_mulVec, ← smul_vsmul, mulVec_smul, smul_vsmul,
      inv_mul_cancel₀ (hc i), one_vsmul]
    rfl
  · -- `c w / (c Σw) = w / Σw`
    rw [if_neg hmo, if_neg hmo]
    refine List.map_congr_left fun j _ => congrArg (Prod.mk j) ?_
    rw [sumW_scaleW]
    show V3.smul (_ * (c i * I.w i j) / _) _ = _
    rw [mul_left_comm, mul_div_mul_left _ _ (hc i)]
    rfl

/-- numpy's conversion of a float to an integer dtype on assignment: truncation toward zero -/
def truncQ (q : ℚ) : ℚ := ((Int.tdiv q.num q.den : ℤ) : ℚ)

theorem truncQ_int (n : ℤ) : truncQ (n : ℚ) = n := by
  simp [truncQ]

/-- what a caller holds after some calls of a convenience function: the arrays returned so far (a call returns the index of
    its array).  femio as it is: every call allocates a new array (`np.stack`). -/
def callFresh {α : Type} (held : List α) (v : α) : List α × Nat := (held ++ [v], held.length)

def callsFresh {α : Type} (held : List α) (vs : List α) : List α := vs.foldl (fun h v => (callFresh h v).1) held

theorem callsFresh_eq_append {α : Type} (held vs : List α) : callsFresh held vs = held ++ vs := by
  induction vs generalizing held with
  | nil => exact (List.append_nil held).symm
  | cons w ws ih => exact (ih (held ++ [w])).trans (List.append_assoc held [w] ws)

end Femio.C15
