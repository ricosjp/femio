import Femio.Model.GraphOps
import Femio.Lemmas.ListLemmas
import Mathlib.Algebra.BigOperators.Group.List.Basic
import Mathlib.Data.List.Nodup
import Mathlib.Tactic.Ring

/-! C13 — walks in a Boolean adjacency matrix: `nHop` is reachability within `hops` steps (`nHop_reach`); walks are split,
    joined and, with self loops, padded.  Then what the matrix theorems unfold to: the materialised n-hop refines the
    function-level one, sums of a row with one entry changed and of an indicator, membership in `entries`, memo lookup. -/
open Graph

/-- walks of exact length `k ≥ 1` inside `{0..n-1}` -/
inductive Walk (n : Nat) (A : BMat) : Nat → Nat → Nat → Prop
  | one {i j} : A i j = true → Walk n A 1 i j
  | snoc {k i m j} : Walk n A k i m → m < n → A m j = true → Walk n A (k + 1) i j

theorem mul_true (n : Nat) (A B : BMat) (i j : Nat) :
    mul n A B i j = true ↔ ∃ k, k < n ∧ A i k = true ∧ B k j = true := by
  simp [mul, List.any_eq_true, List.mem_range]

theorem pow_walk (n : Nat) (A : BMat) (h : Nat) (i j : Nat) :
    (nHopAux n A h).2 i j = true ↔ Walk n A (h + 1) i j := by
  induction h generalizing j with
  | zero =>
    simp only [nHopAux]
    constructor
    · intro hA; exact Walk.one hA
    · intro w; cases w with
      | one hA => exact hA
      | snoc w' _ _ => cases w'
  | succ h ih =>
    simp only [nHopAux]
    rw [mul_true]
    constructor
    · rintro ⟨m, hm, hp, ha⟩
      exact Walk.snoc ((ih m).mp hp) hm ha
    · intro w
      cases w with
      | snoc w' hm ha => exact ⟨_, hm, (ih _).mpr w', ha⟩

theorem ret_walk (n : Nat) (A : BMat) (h : Nat) (i j : Nat) :
    (nHopAux n A h).1 i j = true ↔ ∃ k, 1 ≤ k ∧ k ≤ h + 1 ∧ Walk n A k i j := by
  induction h with
  | zero =>
    rw [show (nHopAux n A 0).1 = (nHopAux n A 0).2 from rfl, pow_walk]
    exact ⟨fun w => ⟨1, Nat.le_refl 1, Nat.le_refl 1, w⟩, fun ⟨k, h1, h2, w⟩ => Nat.le_antisymm h2 h1 ▸ w⟩
  | succ h ih =>
    rw [show (nHopAux n A (h + 1)).1 i j = ((nHopAux n A h).1 i j || (nHopAux n A (h + 1)).2 i j) from rfl,
      Bool.or_eq_true, ih, pow_walk]
    constructor
    · rintro (⟨k, h1, h2, w⟩ | w)
      · exact ⟨k, h1, Nat.le_succ_of_le h2, w⟩
      · exact ⟨h + 2, Nat.le_add_left 1 _, Nat.le_refl _, w⟩
    · rintro ⟨k, h1, h2, w⟩
      rcases Nat.lt_or_eq_of_le h2 with hk | rfl
      · exact Or.inl ⟨k, h1, Nat.le_of_lt_succ hk, w⟩
      · exact Or.inr w

theorem nHop_reach (n : Nat) (A : BMat) (hops : Nat) (hh : 1 ≤ hops) (i j : Nat) :
    nHop n A hops i j = true ↔ ∃ k, 1 ≤ k ∧ k ≤ hops ∧ Walk n A k i j := by
  rw [nHop, ret_walk, Nat.sub_add_cancel hh]

#print axioms nHop_reach

namespace Femio.C13

theorem mul_congr (n : Nat) (A A' B B' : BMat) (hA : ∀ i k, i < n → k < n → A i k = A' i k)
    (hB : ∀ k j, k < n → j < n → B k j = B' k j) (i j : Nat) (hi : i < n) (hj : j < n) :
    mul n A B i j = mul n A' B' i j := by
  apply Bool.eq_iff_iff.mpr
  rw [mul_true, mul_true]
  exact exists_congr fun k => and_congr_right fun hk => by rw [hA i k hi hk, hB k j hk hj]

theorem walk_succ_inv {n : Nat} {A : BMat} {k i j : Nat} (hk : 1 ≤ k) (w : Walk n A (k + 1) i j) :
    ∃ m, m < n ∧ Walk n A k i m ∧ A m j = true := by
  cases w with
  | one _ => cases hk
  | snoc w' hm ha => exact ⟨_, hm, w', ha⟩

theorem walk_append {n : Nat} {A : BMat} {k1 k2 i m j : Nat} (w1 : Walk n A k1 i m) (hm : m < n)
    (w2 : Walk n A k2 m j) : Walk n A (k1 + k2) i j := by
  induction w2 with
  | one ha => exact Walk.snoc w1 hm ha
  | snoc _ hm' ha ih => exact Walk.snoc (ih w1 hm) hm' ha

theorem walk_split {n : Nat} {A : BMat} (k1 : Nat) (h1 : 1 ≤ k1) :
    ∀ (k2 : Nat), 1 ≤ k2 → ∀ {i j : Nat}, Walk n A (k1 + k2) i j → ∃ m, m < n ∧ Walk n A k1 i m ∧ Walk n A k2 m j := by
  intro k2 h2
  obtain ⟨k, rfl⟩ := Nat.exists_eq_add_of_le' h2
  induction k with
  | zero =>
    intro i j w
    obtain ⟨m, hm, w', ha⟩ := walk_succ_inv h1 w
    exact ⟨m, hm, w', Walk.one ha⟩
  | succ k ih =>
    intro i j w
    obtain ⟨m', hm', w', ha⟩ := walk_succ_inv (Nat.le_add_right_of_le h1) w
    obtain ⟨m, hm, wa, wb⟩ := ih (Nat.le_add_left 1 k) w'
    exact ⟨m, hm, wa, Walk.snoc wb hm' ha⟩

theorem walk_pad {n : Nat} {A : BMat} (hdiag : ∀ i, i < n → A i i = true) {k i j : Nat} (w : Walk n A k i j) (hj : j < n)
    {k' : Nat} (hk : k ≤ k') : Walk n A k' i j := by
  induction hk with
  | refl => exact w
  | step _ ih => exact Walk.snoc ih hj (hdiag j hj)

open Core

theorem order1Blocks_ids (blocks : List (List Elem)) :
    (order1Blocks blocks).flatten.map Elem.id = blocks.flatten.map Elem.id := by
  simp [order1Blocks, List.map_flatten, Function.comp_def]

theorem incB_iff (inc : List (Nat × Nat)) (i j : Nat) : incB inc i j = true ↔ (i, j) ∈ inc := by
  simp [incB]

theorem M.get_ofFn (n : Nat) (f : BMat) (i j : Nat) (hi : i < n) (hj : j < n) : (M.ofFn n f).get i j = f i j := by
  simp [M.get, M.ofFn, hi, hj]

theorem nHopAuxM_refines (n : Nat) (A : BMat) (h : Nat) :
    ∀ i j, i < n → j < n →
      (nHopAuxM n (M.ofFn n A) h).1.get i j = (nHopAux n A h).1 i j ∧
      (nHopAuxM n (M.ofFn n A) h).2.get i j = (nHopAux n A h).2 i j := by
  induction h with
  | zero => exact fun i j hi hj => ⟨M.get_ofFn n A i j hi hj, M.get_ofFn n A i j hi hj⟩
  | succ h ih =>
    have hpw : ∀ i j, i < n → j < n →
        (nHopAuxM n (M.ofFn n A) (h + 1)).2.get i j = (nHopAux n A (h + 1)).2 i j := fun i j hi hj =>
      (M.get_ofFn _ _ _ _ hi hj).trans
        (mul_congr n _ _ _ _ (fun a b ha hb => (ih a b ha hb).2) (M.get_ofFn n A) i j hi hj)
    exact fun i j hi hj =>
      ⟨(M.get_ofFn _ _ _ _ hi hj).trans (congrArg₂ or (ih i j hi hj).1 (hpw i j hi hj)), hpw i j hi hj⟩

theorem sum_sub_single (f : Nat → Int) (i : Nat) (s : Int) (n : Nat) :
    ((List.range n).map fun j => f j - if i = j then s else 0).sum =
      ((List.range n).map f).sum - if i < n then s else 0 := by
  induction n with
  | zero => simp
  | succ n ih =>
    simp only [List.range_succ, List.map_append, List.sum_append, ih, List.map_cons, List.map_nil, List.sum_cons,
      List.sum_nil]
    rcases Nat.lt_trichotomy i n with h | h | h
    · rw [if_pos h, if_neg (Nat.ne_of_lt h), if_pos (Nat.lt_succ_of_lt h)]; ring
    · subst h; rw [if_neg (Nat.lt_irrefl _), if_pos rfl, if_pos (Nat.lt_succ_self _)]; ring
    · rw [if_neg (Nat.lt_asymm h), if_neg (Nat.ne_of_gt h), if_neg (Nat.not_lt.mpr h)]; ring

theorem sum_indicator (l : List Nat) (p : Nat → Prop) [DecidablePred p] :
    (l.map fun j => if p j then (1 : Int) else 0).sum = ((l.filter fun j => p j).length : Int) := by
  induction l with
  | nil => rfl
  | cons a t ih =>
    by_cases h : p a
    · simp [h, ih, Int.add_comm]
    · simp [h, ih]

/-- `gradEdges` and `e2vNonzeros` unfold to `entries n p`, each with a test `p` of its own -/
theorem mem_entries (n : Nat) (p : BMat) (i j : Nat) : (i, j) ∈ entries n p ↔ i < n ∧ j < n ∧ p i j = true := by
  simp only [entries, List.mem_flatMap, List.mem_range, List.mem_filterMap]
  constructor
  · rintro ⟨i', hi', j', hj', h⟩
    split at h
    · cases h; exact ⟨hi', hj', ‹_›⟩
    · cases h
  · rintro ⟨hi, hj, hp⟩
    exact ⟨i, hi, j, hj, if_pos hp⟩

theorem nodup_entries (n : Nat) (p : BMat) : (entries n p).Nodup := by
  have hrow : ∀ i j (x : Nat × Nat), (x ∈ if p i j then some (i, j) else none) → x = (i, j) := by
    intro i j x hx
    split at hx
    · exact (Option.mem_some_iff.mp hx).symm
    · cases hx
  rw [entries, List.nodup_flatMap]
  refine ⟨fun i _ => List.nodup_range.filterMap fun j j' x hx hx' => ?_, List.pairwise_lt_range.imp fun hlt x hx hx' => ?_⟩
  · exact congrArg Prod.snd ((hrow i j x hx).symm.trans (hrow i j' x hx'))
  · obtain ⟨j, _, hj⟩ := List.mem_filterMap.mp hx
    obtain ⟨j', _, hj'⟩ := List.mem_filterMap.mp hx'
    exact Nat.ne_of_lt hlt (congrArg Prod.fst ((hrow _ j x hj).symm.trans (hrow _ j' x hj')))

theorem memoLookup_mem {κ' ν : Type} [DecidableEq κ'] (k : κ') (tbl : List (κ' × ν)) (v : ν)
    (h : memoLookup k tbl = some v) : (k, v) ∈ tbl :=
  mem_of_lookup_eq_some ((eq_lookup memoLookup (fun _ => rfl) (fun _ _ _ _ => rfl) k tbl).symm.trans h)

end Femio.C13
