import Femio.Model.Incidence
import Femio.Lemmas.GeomProps
import Mathlib.Tactic.Ring
import Mathlib.Algebra.Order.Field.Basic

/-! # The sign quantity of the cell–facet incidence, as algebra

`signDot` written as a difference of sums and as a double sum over (cell vertex, facet vertex) pairs; how it, the normal and the
doubled area vector behave under rotation and reversal of a facet and under affine maps; its value on the table faces of a tet. -/
namespace Femio.C12
open Core Faces V3 Geom Femio.Gen Femio.C10

theorem count_eq_of_distinct (ks : List (List Nat)) (h : ks.all (fun k => ks.count k == 1) = true) (k : List Nat) :
    ks.count k = if k ∈ ks then 1 else 0 := by
  by_cases hk : k ∈ ks
  · simp only [List.all_eq_true, beq_iff_eq] at h
    simp [hk, h k hk]
  · simp [hk, List.count_eq_zero.mpr hk]

section Vectors
variable {R : Type} [CommRing R]

theorem dot_vsum (l : List (V3 R)) (n : V3 R) : dot (vsum l) n = (l.map fun q => dot q n).sum := by
  induction l with
  | nil => simp [vsum, V3.dot]
  | cons a t ih =>
    have : vsum (a :: t) = V3.add a (vsum t) := rfl
    rw [this, List.map_cons, List.sum_cons, ← ih]
    simp only [V3.dot, V3.add]; ring

theorem signDot_eq (cellPts facetPts : List (V3 R)) (n : V3 R) :
    signDot cellPts facetPts n =
      (cellPts.length : R) * (facetPts.map fun q => dot q n).sum - (facetPts.length : R) * (cellPts.map fun p => dot p n).sum := by
  unfold signDot
  rw [← dot_vsum, ← dot_vsum]
  simp only [V3.dot, V3.sub, V3.smul]; ring

theorem sum_dot_map (g : V3 R → V3 R) (n n' : V3 R) (k c : R) (h : ∀ q, dot (g q) n' = k * dot q n + c)
    (l : List (V3 R)) :
    ((l.map g).map fun q => dot q n').sum = k * (l.map fun q => dot q n).sum + (l.length : R) * c := by
  induction l with
  | nil => simp
  | cons a l ih =>
    simp only [List.map_cons, List.sum_cons, List.length_cons, ih, h, Nat.cast_succ]; ring

theorem inner_side (f : List (V3 R)) (p n : V3 R) :
    (f.map fun q => dot (sub q p) n).sum = (f.map fun q => dot q n).sum - (f.length : R) * dot p n := by
  induction f with
  | nil => simp
  | cons a t ih =>
    simp only [List.map_cons, List.sum_cons, List.length_cons, Nat.cast_add, Nat.cast_one, ih]
    simp only [V3.dot, V3.sub]; ring

theorem signDot_eq_sum (cellPts facetPts : List (V3 R)) (n : V3 R) :
    signDot cellPts facetPts n = (cellPts.map fun p => (facetPts.map fun q => dot (sub q p) n).sum).sum := by
  rw [signDot_eq]
  induction cellPts with
  | nil => simp
  | cons a t ih =>
    simp only [List.map_cons, List.sum_cons, List.length_cons, Nat.cast_add, Nat.cast_one]
    rw [← ih, inner_side]; ring

theorem areaVec2_rot3 (a b c : V3 R) : areaVec2 [b, c, a] = areaVec2 [a, b, c] := by
  simp only [areaVec2, triCross, V3.cross, V3.sub]; congr 1 <;> ring

theorem areaVec2_rev3 (a b c : V3 R) : areaVec2 [c, b, a] = smul (-1) (areaVec2 [a, b, c]) := by
  simp only [areaVec2, triCross, V3.cross, V3.sub, V3.smul]; congr 1 <;> ring

theorem areaVec2_rot4 (a b c d : V3 R) : areaVec2 [b, c, d, a] = areaVec2 [a, b, c, d] := by
  simp only [areaVec2, V3.cross, V3.sub]; congr 1 <;> ring

theorem areaVec2_rev4 (a b c d : V3 R) : areaVec2 [d, c, b, a] = smul (-1) (areaVec2 [a, b, c, d]) := by
  simp only [areaVec2, V3.cross, V3.sub, V3.smul]; congr 1 <;> ring

theorem signDot_mirror (cellPts l l' : List (V3 R)) (hs : vsum l' = vsum l) (hl : l'.length = l.length)
    (hn : normalDir l' = smul (-1) (normalDir l)) :
    signDot cellPts l' (normalDir l') = - signDot cellPts l (normalDir l) := by
  simp only [signDot, hs, hl, hn, V3.dot, V3.smul]; ring

theorem normalDir_quad (a b c d : V3 R) : normalDir [a, b, c, d] = smul 16 (areaVec2 [a, b, c, d]) := by
  simp only [normalDir, areaVec2, Nat.cast_ofNat]
  rw [quadCrossC_eq]; norm_num

theorem areaVec2_affine (m : M3 R) (t : V3 R) (l : List (V3 R)) :
    areaVec2 (l.map fun p => add (m.app p) t) = (Femio.C11.cof m).app (areaVec2 l) := by
  match l with
  | [a, b, c] => simp only [List.map, areaVec2, triCross, sub_add_add, ← M3.app_sub, M3.cross_app]
  | [a, b, c, d] => simp only [List.map, areaVec2, sub_add_add, ← M3.app_sub, M3.cross_app]
  | [] | [_] | [_, _] | _ :: _ :: _ :: _ :: _ :: _ =>
    simp only [List.map, areaVec2, M3.app, Nat.cast_zero, mul_zero, add_zero]

theorem normalDir_affine (m : M3 R) (t : V3 R) (l : List (V3 R)) :
    normalDir (l.map fun p => add (m.app p) t) = (Femio.C11.cof m).app (normalDir l) := by
  match l with
  | [a, b, c] => exact areaVec2_affine m t [a, b, c]
  | [a, b, c, d] =>
    have h := areaVec2_affine m t [a, b, c, d]
    simp only [List.map] at h ⊢
    rw [normalDir_quad, normalDir_quad, h, M3.app_smul]
  | [] | [_] | [_, _] | _ :: _ :: _ :: _ :: _ :: _ =>
    simp only [List.map, normalDir, M3.app, Nat.cast_zero, mul_zero, add_zero]

theorem signDot_affine (m : M3 R) (t n : V3 R) (cellPts facetPts : List (V3 R)) :
    signDot (cellPts.map fun p => add (m.app p) t) (facetPts.map fun p => add (m.app p) t) ((Femio.C11.cof m).app n)
      = m.det * signDot cellPts facetPts n := by
  have h : ∀ q, dot (add (m.app q) t) ((Femio.C11.cof m).app n) = m.det * dot q n + dot t ((Femio.C11.cof m).app n) :=
    fun q => by rw [dot_add_left, M3.dot_app_cof]
  -- the shift `t · cof m n` drops out: it is the same for the facet centre and the cell centre
  rw [signDot_eq, signDot_eq, sum_dot_map _ n _ _ _ h, sum_dot_map _ n _ _ _ h, List.length_map, List.length_map]
  ring

end Vectors

section Signs
variable {R : Type} [Field R] [LinearOrder R] [IsStrictOrderedRing R]

/-- coordinates of the vertices of a face given by local vertex numbers -/
def ptsOf (pts : List (V3 R)) (f : List Nat) : List (V3 R) := f.filterMap fun i => pts[i]?

omit [LinearOrder R] [IsStrictOrderedRing R] in
/-- the quantity whose sign the code takes, for the four table faces of a tet:
    `12·(facet centre − cell centre)·(doubled area vector) = 3·(6V)` -/
theorem tet_signDot (p0 p1 p2 p3 : V3 R) :
    ∀ g ∈ faces_tet,
      signDot [p0, p1, p2, p3] (ptsOf [p0, p1, p2, p3] g) (normalDir (ptsOf [p0, p1, p2, p3] g)) = 3 * tet6 p0 p1 p2 p3 := by
  intro g hg
  simp only [faces_tet, List.mem_cons, List.mem_nil_iff, or_false] at hg
  rcases hg with rfl | rfl | rfl | rfl <;>
    simp only [signDot, normalDir, vsum, ptsOf, List.filterMap_cons, List.filterMap_nil, List.getElem?_cons_zero,
      List.getElem?_cons_succ, List.foldr_cons, List.foldr_nil, List.length_cons, List.length_nil, triCross, tet6,
      V3.cross, V3.sub, V3.add, V3.smul, V3.dot, V3.det, Nat.cast_zero, zero_add] <;>
    ring

theorem sum_map_nonneg {α : Type} (l : List α) (f : α → R) (h : ∀ x ∈ l, 0 ≤ f x) : 0 ≤ (l.map f).sum := by
  induction l with
  | nil => simp
  | cons a t ih =>
    rw [List.map_cons, List.sum_cons]
    exact add_nonneg (h a List.mem_cons_self) (ih fun x hx => h x (List.mem_cons_of_mem a hx))

theorem sum_map_pos {α : Type} (l : List α) (f : α → R) (h : ∀ x ∈ l, 0 ≤ f x) (hs : ∃ x ∈ l, 0 < f x) :
    0 < (l.map f).sum := by
  induction l with
  | nil => obtain ⟨x, hx, _⟩ := hs; cases hx
  | cons a t ih =>
    have ht : ∀ x ∈ t, 0 ≤ f x := fun x hx => h x (List.mem_cons_of_mem a hx)
    rw [List.map_cons, List.sum_cons]
    obtain ⟨x, hx, hlt⟩ := hs
    rcases List.mem_cons.mp hx with rfl | hxt
    · exact add_pos_of_pos_of_nonneg hlt (sum_map_nonneg t f ht)
    · exact add_pos_of_nonneg_of_pos (h a List.mem_cons_self) (ih ht ⟨x, hxt, hlt⟩)

/-- for `det A > 0` the computed sign of any (cell, facet) pair is unchanged by `x ↦ A·x + t`: normal and sign quantity
    are mapped by `cof A` and multiplied by `det A` -/
theorem signOf_affine (m : M3 R) (hdet : 0 < m.det) (t : V3 R) (cellPts facetPts : List (V3 R)) :
    signOf (cellPts.map fun p => add (m.app p) t) (facetPts.map fun p => add (m.app p) t) = signOf cellPts facetPts := by
  have key : ∀ x : R, m.det * x < 0 ↔ x < 0 := fun x =>
    ⟨fun h => lt_of_not_ge fun hx => absurd h (not_lt.mpr (mul_nonneg hdet.le hx)), mul_neg_of_pos_of_neg hdet⟩
  unfold signOf
  rw [normalDir_affine, signDot_affine]
  simp only [Nat.cast_zero, key]

/-- the similarity `x ↦ s·x + t` -/
def simil (s : R) (t p : V3 R) : V3 R := V3.add (V3.smul s p) t

omit [LinearOrder R] [IsStrictOrderedRing R] in
theorem simil_eq (s : R) (t : V3 R) : simil s t = fun p => add ((Femio.C11.scaleM s).app p) t := by
  funext p; rw [Femio.C11.scaleM_app]; rfl

end Signs

section Metric
variable {R : Type} [Field R]

/-- the model's `vsum` with the zero written `0` (the model writes `((0 : Nat) : R)`, to run over `NatCast` types) -/
def vzero : V3 R := ⟨0, 0, 0⟩
def vsumL (l : List (V3 R)) : V3 R := l.foldr V3.add vzero

theorem vsumL_tri (a b c : V3 R) : vsumL [a, b, c] = add (add a b) c := by
  simp only [vsumL, vzero, List.foldr, V3.add]; congr 1 <;> ring

theorem vsumL_quad (a b c d : V3 R) : vsumL [a, b, c, d] = add (add a b) (add c d) := by
  simp only [vsumL, vzero, List.foldr, V3.add]; congr 1 <;> ring

end Metric
end Femio.C12
