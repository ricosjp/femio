import Femio.Lemmas.SurfaceProps

/-! C12_structure: which cells a facet is incident to, in `calculate_relative_incidence_metrix_element`
    (cell ⊇ all nodes of the facet), for the facet list `to_facets(remove_duplicates=True)`.  A `Cell` is what the argument
    uses of an element `e`: its nodes `e.conn` and its faces `elemFaces e`; `C12_structure` instantiates it so. -/
open Faces

structure Cell where
  nodes : List Nat           -- node ids of the cell
  faces : List Face          -- its own faces (from the per-type table)

/-- the code's incidence test: every node of the facet is a node of the cell -/
def incident (c : Cell) (f : Face) : Bool := f.all fun n => c.nodes.contains n

/-- a facet whose nodes all lie in a cell is one of that cell's faces (as a node set) — true for
    non-overlapping meshes; an explicit, decidable hypothesis here -/
def faceDeterminedB (cells : List Cell) (facets : List Face) : Bool :=
  cells.all fun c => facets.all fun f => !incident c f || c.faces.any fun g => key g == key f

/-- each face of a cell uses only nodes of the cell -/
def ownNodesB (cells : List Cell) : Bool :=
  cells.all fun c => c.faces.all fun g => g.all fun n => c.nodes.contains n

theorem incident_of_key_eq (c : Cell) (f g : Face) (hk : key g = key f) (hg : incident c g = true) :
    incident c f = true := by
  simp only [incident, List.all_eq_true] at hg ⊢
  intro n hn
  have : n ∈ key g := hk ▸ (key_perm f).symm.subset hn
  exact hg n ((key_perm g).subset this)

/-- **C12_structure (incidence)**: under the two Boolean hypotheses, a cell is incident to a facet iff the
    facet is (as a node set) one of the cell's own faces. -/
theorem incident_iff_own_face (cells : List Cell) (facets : List Face)
    (hfd : faceDeterminedB cells facets = true) (hown : ownNodesB cells = true)
    (c : Cell) (hc : c ∈ cells) (f : Face) (hf : f ∈ facets) :
    incident c f = true ↔ ∃ g ∈ c.faces, key g = key f := by
  constructor
  · intro hinc
    simp only [faceDeterminedB, List.all_eq_true, Bool.or_eq_true, Bool.not_eq_true', List.any_eq_true, beq_iff_eq] at hfd
    rcases hfd c hc f hf with h | h
    · rw [hinc] at h; cases h
    · exact h
  · rintro ⟨g, hg, hk⟩
    simp only [ownNodesB, List.all_eq_true] at hown
    have hgc : incident c g = true := by
      simp only [incident, List.all_eq_true]; exact hown c hc g hg
    exact incident_of_key_eq c f g hk hgc

#print axioms incident_iff_own_face
