import Mathlib.Data.List.Sort

/-! The model's sorts are structural insertions under a `foldr`; each is `List.insertionSort`, which is by definition
`foldr (orderedInsert r) []`.  The test inserted by need not be the order sorted by: femio's two sorts by id test `≤` on
element ids and `<` on row ids, and both leave the ids ascending (`≤`). -/

theorem eq_orderedInsert {α : Type} (r : α → α → Prop) [DecidableRel r] (ins : α → List α → List α)
    (h0 : ∀ x, ins x [] = [x]) (hc : ∀ x y t, ins x (y :: t) = if r x y then x :: y :: t else y :: ins x t) :
    ins = List.orderedInsert r := by
  funext x l
  induction l with
  | nil => exact h0 x
  | cons y t ih => rw [hc, ih, List.orderedInsert_cons]

theorem foldr_eq_insertionSort {α : Type} (r : α → α → Prop) [DecidableRel r] (ins : α → List α → List α)
    (h0 : ∀ x, ins x [] = [x]) (hc : ∀ x y t, ins x (y :: t) = if r x y then x :: y :: t else y :: ins x t)
    (l : List α) : l.foldr ins [] = l.insertionSort r :=
  congrArg (fun ins => l.foldr ins []) (eq_orderedInsert r ins h0 hc)

theorem pairwise_orderedInsert_of_test {α : Type} {test R : α → α → Prop} [DecidableRel test]
    (htr : ∀ a b c, R a b → R b c → R a c) (h1 : ∀ a b, test a b → R a b) (h2 : ∀ a b, ¬ test a b → R b a) (x : α) :
    ∀ l : List α, l.Pairwise R → (l.orderedInsert test x).Pairwise R
  | [], _ => List.pairwise_singleton _ _
  | b :: l, h => by
    rw [List.orderedInsert_cons]
    split
    · rename_i hx
      exact List.pairwise_cons.mpr ⟨fun y hy => (List.mem_cons.mp hy).elim (fun e => e ▸ h1 _ _ hx)
        fun hy => htr _ _ _ (h1 _ _ hx) (List.rel_of_pairwise_cons h hy), h⟩
    · rename_i hx
      refine List.pairwise_cons.mpr ⟨fun y hy => ?_, pairwise_orderedInsert_of_test htr h1 h2 x l h.of_cons⟩
      rcases List.mem_cons.mp ((List.perm_orderedInsert test x l).subset hy) with rfl | hy
      · exact h2 _ _ hx
      · exact List.rel_of_pairwise_cons h hy

theorem pairwise_insertionSort_of_test {α : Type} {test R : α → α → Prop} [DecidableRel test]
    (htr : ∀ a b c, R a b → R b c → R a c) (h1 : ∀ a b, test a b → R a b) (h2 : ∀ a b, ¬ test a b → R b a) :
    ∀ l : List α, (l.insertionSort test).Pairwise R
  | [] => List.Pairwise.nil
  | a :: l => pairwise_orderedInsert_of_test htr h1 h2 a _ (pairwise_insertionSort_of_test htr h1 h2 l)

/-! insertion that drops a value already present: `np.unique`, `np.intersect1d` -/

section Dedup
variable {ins : Nat → List Nat → List Nat} (h0 : ∀ x, ins x [] = [x])
  (hc : ∀ x y t, ins x (y :: t) = if x < y then x :: y :: t else if x = y then y :: t else y :: ins x t)
include h0 hc

theorem mem_insertDedup {x y : Nat} {l : List Nat} : y ∈ ins x l ↔ y = x ∨ y ∈ l := by
  induction l with
  | nil => rw [h0, List.mem_singleton, or_iff_left List.not_mem_nil]
  | cons z t ih =>
    rw [hc]
    split
    · exact List.mem_cons
    · split
      · rename_i hxz
        rw [hxz, List.mem_cons, ← or_assoc, or_self]
      · rw [List.mem_cons, List.mem_cons, ih, or_left_comm]

theorem pairwise_insertDedup {x : Nat} {l : List Nat} (h : l.Pairwise (· < ·)) : (ins x l).Pairwise (· < ·) := by
  induction l with
  | nil => rw [h0]; exact List.pairwise_singleton _ _
  | cons z t ih =>
    rw [hc]
    rw [List.pairwise_cons] at h
    split
    · rename_i hxz
      exact List.pairwise_cons.mpr ⟨List.forall_mem_cons.mpr ⟨hxz, fun a ha => Nat.lt_trans hxz (h.1 a ha)⟩,
        List.pairwise_cons.mpr h⟩
    · split
      · exact List.pairwise_cons.mpr h
      · rename_i hge hne
        exact List.pairwise_cons.mpr ⟨fun a ha => ((mem_insertDedup h0 hc).mp ha).elim
          (fun e => e ▸ Nat.lt_of_le_of_ne (Nat.le_of_not_lt hge) (Ne.symm hne)) (h.1 a), ih h.2⟩

theorem mem_foldr_insertDedup {y : Nat} {l : List Nat} : y ∈ l.foldr ins [] ↔ y ∈ l := by
  induction l with
  | nil => rfl
  | cons x t ih => rw [List.foldr_cons, mem_insertDedup h0 hc, ih, List.mem_cons]

theorem pairwise_foldr_insertDedup (l : List Nat) : (l.foldr ins []).Pairwise (· < ·) := by
  induction l with
  | nil => exact List.Pairwise.nil
  | cons x t ih => exact pairwise_insertDedup h0 hc ih

end Dedup
