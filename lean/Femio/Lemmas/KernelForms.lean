import Femio.Model.GeomKernels
import Femio.Lemmas.GeomProps
/-! Closed forms of the centroid kernels of `Model/GeomKernels.lean` (those of `Model/Geom.lean`, `quadC4_eq` and
`quadCrossC_eq`, are in `GeomProps`).

A centroid kernel sums, around the closed boundary of a face, terms taken relative to the centre of the face.  In the
area vector (`polyCentroidCross`) whatever depends on the centre cancels around the boundary: the proof keeps the
centre a variable, and the kernel is a square multiple of the fan kernel on the same points.  In the volume
(`faceCentroidK`) the centre is the sum of the corners and the determinants with a repeated corner drop out. -/
open V3 Geom
namespace Femio.C11

theorem zip_dropLast {α : Type} (z : α) (l : List α) : List.zip (z :: l.dropLast) l = List.zip (z :: l) l := by
  induction l generalizing z with
  | nil => rfl
  | cons a t ih =>
    cases t with
    | nil => rfl
    | cons b t => simp only [List.dropLast_cons_cons, List.zip_cons_cons, ih]

variable {R : Type} [CommRing R]

theorem faceCentroidK_three (a b c : V3 R) : faceCentroidK [a, b, c] = 3 * det a b c := by
  simp only [faceCentroidK, cycPairs, vsum, vzero, List.getLast?_cons_cons, List.getLast?_singleton, List.dropLast,
    List.zip_cons_cons, List.zip_nil_right, List.map_cons, List.map_nil, List.foldr_cons, List.foldr_nil, List.sum_cons,
    List.sum_nil, V3.det, V3.add]
  ring

/-- the same determinants about the same centre, summed in another order -/
theorem faceCentroidK_four (a b c d : V3 R) : faceCentroidK [a, b, c, d] = quadC4 a b c d := by
  have h : vsum [a, b, c, d] = V3.add (V3.add a b) (V3.add c d) := by
    simp only [vsum, vzero, List.foldr_cons, List.foldr_nil, V3.add]
    congr 1 <;> ring
  simp only [faceCentroidK, h, quadC4, cycPairs, List.getLast?_cons_cons, List.getLast?_singleton, List.dropLast,
    List.zip_cons_cons, List.zip_nil_right, List.map_cons, List.map_nil, List.sum_cons, List.sum_nil]
  ring

/-- a sum of terms `k · (u × v) + (g u − g v)` along the chain `z, l₀, l₁, …` telescopes -/
theorem vsum_chain (F : V3 R → V3 R → V3 R) (k : R) (g : V3 R → V3 R)
    (hF : ∀ u v, F u v = V3.add (smul k (cross u v)) (V3.sub (g u) (g v))) (z : V3 R) (l : List (V3 R)) :
    vsum ((List.zip (z :: l) l).map fun (u, v) => F u v)
      = V3.add (smul k (vsum ((List.zip (z :: l) l).map fun (u, v) => cross u v))) (V3.sub (g z) (g (l.getLastD z))) := by
  induction l generalizing z with
  | nil =>
    simp only [List.zip_nil_right, List.map_nil, vsum, List.foldr_nil, vzero, List.getLastD_nil, V3.add, V3.sub, V3.smul]
    congr 1 <;> ring
  | cons a t ih =>
    simp only [List.zip_cons_cons, List.map_cons, vsum, List.foldr_cons, List.getLastD_cons] at ih ⊢
    rw [ih a, hF]
    generalize List.foldr V3.add (vzero : V3 R) (List.map _ ((a :: t).zip t)) = d
    generalize g (t.getLastD a) = e
    simp only [V3.add, V3.sub, V3.smul]
    congr 1 <;> ring

/-- the centroid kernel of a polygon is `n²` times its fan kernel, for every number of corners and every `n`: both are
    sums along the closed chain of corners (`cycPairs l` is the chain that starts at the last corner), and what the
    centre `s`, resp. the apex `a` of the fan, contributes telescopes to zero -/
theorem polyCentroidCross_eq (n : R) (l : List (V3 R)) :
    polyCentroidCross n l = smul (n * n) (polyFanCross l) := by
  match l with
  | [] | [a] =>
    simp only [polyCentroidCross, polyFanCross, cycPairs, consecPairs, List.getLast?_nil, List.getLast?_singleton,
      List.dropLast, List.tail_nil, List.zip_cons_cons, List.zip_nil_right, List.map_cons, List.map_nil, vsum,
      List.foldr_cons, List.foldr_nil, vzero, V3.cross, V3.sub, V3.add, V3.smul]
    congr 1 <;> ring
  | a :: b :: t =>
    have hz : (a :: b :: t).getLast? = some (t.getLastD b) := by
      rw [List.getLast?_cons_cons, List.getLast?_cons, List.getLastD_eq_getLast?]
    simp only [polyCentroidCross, polyFanCross, consecPairs, List.tail_cons, cycPairs, hz, zip_dropLast]
    generalize vsum (a :: b :: t) = s
    rw [vsum_chain (fun u v => cross (V3.sub (smul n u) s) (V3.sub (smul n v) s)) (n * n) (fun u => smul n (cross s u)),
      vsum_chain (fun u v => triCross a u v) 1 (fun u => cross a u)]
    · simp only [List.zip_cons_cons, List.map_cons, vsum, List.foldr_cons, List.getLastD_cons]
      generalize List.foldr V3.add (vzero : V3 R) (List.map _ ((b :: t).zip t)) = d
      generalize t.getLastD b = z
      simp only [V3.cross, V3.sub, V3.add, V3.smul]
      congr 1 <;> ring
    -- the two identities per pair that `vsum_chain` asks for
    all_goals
      intro u v
      simp only [triCross, V3.cross, V3.sub, V3.add, V3.smul]
      congr 1 <;> ring

end Femio.C11
