import Femio.Model.GeomKernels
import Femio.Model.Geom2
import Femio.Lemmas.GeomProps
import Mathlib.Algebra.BigOperators.Group.List.Basic
/-! C11: orthogonal matrices, and what the kernels of `Model/Geom2.lean` and `Model/GeomKernels.lean` (area vectors, list
    kernels) do under linear maps and translations.  The vector and matrix algebra and the kernels of `Model/Geom.lean`
    are in `GeomProps`. -/
open V3 Geom
namespace Femio.C11
variable {R : Type} [CommRing R]

/-- `AᵀA = I` (the six equations) -/
structure Orthogonal (m : M3 R) : Prop where
  c11 : m.a*m.a + m.d*m.d + m.g*m.g = 1
  c22 : m.b*m.b + m.e*m.e + m.h*m.h = 1
  c33 : m.c*m.c + m.f*m.f + m.i*m.i = 1
  c12 : m.a*m.b + m.d*m.e + m.g*m.h = 0
  c13 : m.a*m.c + m.d*m.f + m.g*m.i = 0
  c23 : m.b*m.c + m.e*m.f + m.h*m.i = 0

/-- `AᵀA` -/
def gram (m : M3 R) : M3 R :=
  ⟨m.a*m.a + m.d*m.d + m.g*m.g, m.a*m.b + m.d*m.e + m.g*m.h, m.a*m.c + m.d*m.f + m.g*m.i,
   m.a*m.b + m.d*m.e + m.g*m.h, m.b*m.b + m.e*m.e + m.h*m.h, m.b*m.c + m.e*m.f + m.h*m.i,
   m.a*m.c + m.d*m.f + m.g*m.i, m.b*m.c + m.e*m.f + m.h*m.i, m.c*m.c + m.f*m.f + m.i*m.i⟩

theorem gram_of_orthogonal (m : M3 R) (h : Orthogonal m) : gram m = scaleM 1 := by
  simp only [gram, h.c11, h.c22, h.c33, h.c12, h.c13, h.c23, scaleM]

theorem det_gram (m : M3 R) : (gram m).det = m.det * m.det := by
  simp only [gram, M3.det]; ring

/-- `cof A · Aᵀ = det A · I`, applied to `A v` -/
theorem cof_app_gram (m : M3 R) (v : V3 R) : (cof m).app ((gram m).app v) = smul m.det (m.app v) := by
  simp only [gram, cof, M3.app, M3.det, V3.smul]; congr 1 <;> ring

theorem normSq_app (m : M3 R) (v : V3 R) : normSq (m.app v) = dot v ((gram m).app v) := by
  simp only [gram, M3.app, V3.normSq, V3.dot]; ring

/-- `det A · det A = 1` for an orthogonal matrix -/
theorem det_sq_of_orthogonal (m : M3 R) (h : Orthogonal m) : m.det * m.det = 1 := by
  rw [← det_gram, gram_of_orthogonal m h, scaleM_det]; ring

/-- for an orthogonal matrix the cofactor matrix is `det A · A`: area vectors (normals) rotate with the body -/
theorem cof_app_of_orthogonal (m : M3 R) (h : Orthogonal m) (v : V3 R) :
    (cof m).app v = smul m.det (m.app v) := by
  rw [← cof_app_gram, gram_of_orthogonal m h, scaleM_app, one_smul_v3]

theorem normSq_orthogonal (m : M3 R) (h : Orthogonal m) (v : V3 R) : normSq (m.app v) = normSq v := by
  rw [normSq_app, gram_of_orthogonal m h, scaleM_app, one_smul_v3]; rfl

/-- rigid motions preserve the squared length of area vectors: the radicands of the areas are invariant -/
theorem normSq_cof_of_orthogonal (m : M3 R) (h : Orthogonal m) (v : V3 R) :
    normSq ((cof m).app v) = normSq v := by
  rw [cof_app_of_orthogonal m h, normSq_smul, det_sq_of_orthogonal m h, one_mul, normSq_orthogonal m h]

theorem sub_add_add' (a b t : V3 R) : V3.sub (V3.add a t) (V3.add b t) = V3.sub a b := sub_add_add a b t

/-! ### the 8-point Gaussian hex kernel, structurally: every Jacobian column is linear in the nodes -/

/-- the determinant as it is written in `_calculate_element_volumes_hex_gaussian` -/
def det6 (a b c : V3 R) : R :=
  a.x * b.y * c.z + a.y * b.z * c.x + a.z * b.x * c.y - (a.x * b.z * c.y + a.y * b.x * c.z + a.z * b.y * c.x)

theorem det6_eq_det (a b c : V3 R) : det6 a b c = V3.det a b c := by
  simp only [det6, V3.det]; ring

/-- `M3.det_app` with the determinants spelt as `hexGauss512` spells them, so that `simp` finds them there -/
theorem det6_app (m : M3 R) (a b c : V3 R) :
    (m.app a).x * (m.app b).y * (m.app c).z + (m.app a).y * (m.app b).z * (m.app c).x
        + (m.app a).z * (m.app b).x * (m.app c).y
      - ((m.app a).x * (m.app b).z * (m.app c).y + (m.app a).y * (m.app b).x * (m.app c).z
        + (m.app a).z * (m.app b).y * (m.app c).x)
    = m.det * (a.x * b.y * c.z + a.y * b.z * c.x + a.z * b.x * c.y
      - (a.x * b.z * c.y + a.y * b.x * c.z + a.z * b.y * c.x)) := by
  show det6 (m.app a) (m.app b) (m.app c) = m.det * det6 a b c
  rw [det6_eq_det, det6_eq_det, M3.det_app]

/-- a "quad prism" `b0 b1 b2 b3` + `e`: `hexLin6 = 3 · ((b2−b0) × (b3−b1)) · e` minus the twist `det(b1−b0, b2−b0, b3−b0)` of the base, which vanishes for a planar base -/
theorem hexLin6_extruded (b0 b1 b2 b3 e : V3 R) :
    hexLin6 b0 b1 b2 b3 (V3.add b0 e) (V3.add b1 e) (V3.add b2 e) (V3.add b3 e)
      = 3 * dot (cross (V3.sub b2 b0) (V3.sub b3 b1)) e - V3.det (V3.sub b1 b0) (V3.sub b2 b0) (V3.sub b3 b0) := by
  geom_unfold; ring

/-! ### area vectors: translation invariant, transformed by the cofactor matrix -/

theorem triCross_app (m : M3 R) (p0 p1 p2 : V3 R) :
    triCross (m.app p0) (m.app p1) (m.app p2) = (cof m).app (triCross p0 p1 p2) := by
  simp only [triCross, ← M3.app_sub, M3.cross_app]
theorem triCross_add (t p0 p1 p2 : V3 R) :
    triCross (V3.add p0 t) (V3.add p1 t) (V3.add p2 t) = triCross p0 p1 p2 := by
  simp only [triCross, sub_add_add]

theorem quadLinCross1_app (m : M3 R) (p0 p1 p2 p3 : V3 R) :
    quadLinCross1 (m.app p0) (m.app p1) (m.app p2) (m.app p3) = (cof m).app (quadLinCross1 p0 p1 p2 p3) := by
  simp only [quadLinCross1, ← M3.app_sub, M3.cross_app]
theorem quadLinCross2_app (m : M3 R) (p0 p1 p2 p3 : V3 R) :
    quadLinCross2 (m.app p0) (m.app p1) (m.app p2) (m.app p3) = (cof m).app (quadLinCross2 p0 p1 p2 p3) := by
  simp only [quadLinCross2, ← M3.app_sub, M3.cross_app]
theorem quadLinCross1_add (t p0 p1 p2 p3 : V3 R) :
    quadLinCross1 (V3.add p0 t) (V3.add p1 t) (V3.add p2 t) (V3.add p3 t) = quadLinCross1 p0 p1 p2 p3 := by
  simp only [quadLinCross1, sub_add_add]
theorem quadLinCross2_add (t p0 p1 p2 p3 : V3 R) :
    quadLinCross2 (V3.add p0 t) (V3.add p1 t) (V3.add p2 t) (V3.add p3 t) = quadLinCross2 p0 p1 p2 p3 := by
  simp only [quadLinCross2, sub_add_add]

theorem quadGaussCross_app (m : M3 R) (xi eta : R) (p0 p1 p2 p3 : V3 R) :
    quadGaussCross 1 xi eta (m.app p0) (m.app p1) (m.app p2) (m.app p3)
      = (cof m).app (quadGaussCross 1 xi eta p0 p1 p2 p3) := by
  simp only [quadGaussCross, ← M3.app_sub, ← M3.app_smul, ← M3.app_add, M3.cross_app]
theorem quadGaussCross_add (t : V3 R) (xi eta : R) (p0 p1 p2 p3 : V3 R) :
    quadGaussCross 1 xi eta (V3.add p0 t) (V3.add p1 t) (V3.add p2 t) (V3.add p3 t)
      = quadGaussCross 1 xi eta p0 p1 p2 p3 := by
  simp only [quadGaussCross, sub_add_add]

theorem quadCrossC_app (m : M3 R) (p0 p1 p2 p3 : V3 R) :
    quadCrossC (m.app p0) (m.app p1) (m.app p2) (m.app p3) 4 = (cof m).app (quadCrossC p0 p1 p2 p3 4) := by
  simp only [quadCrossC, ← M3.app_smul, ← M3.app_add, ← M3.app_sub, M3.cross_app]
theorem quadCrossC_add (t p0 p1 p2 p3 : V3 R) :
    quadCrossC (V3.add p0 t) (V3.add p1 t) (V3.add p2 t) (V3.add p3 t) 4 = quadCrossC p0 p1 p2 p3 4 := by
  simp only [quadCrossC_eq, sub_add_add]

/-! Kernels over lists of points (polygon, polyhedron).  Each is a sum over a list of pairs; a fact about one summand lifts to the sum by one of the three lemmas
  `sum_map_eq_mul`, `vsum_map_eq_app`, `sum_map_eq_add_dot`. -/

theorem sum_map_eq_mul {α : Type} {c : R} {f g : α → R} {l : List α} (h : ∀ x ∈ l, f x = c * g x) :
    (l.map f).sum = c * (l.map g).sum := by
  induction l with
  | nil => simp
  | cons a t ih =>
    rw [List.map_cons, List.sum_cons, h a List.mem_cons_self, ih fun x hx => h x (List.mem_cons_of_mem a hx),
      List.map_cons, List.sum_cons, mul_add]

theorem app_vzero (m : M3 R) : m.app (vzero : V3 R) = vzero := by
  simp only [vzero, M3.app]; congr 1 <;> ring

theorem vsum_cons (a : V3 R) (l : List (V3 R)) : vsum (a :: l) = V3.add a (vsum l) := rfl

theorem vsum_map_eq_app {α : Type} {m : M3 R} {f g : α → V3 R} {l : List α} (h : ∀ x ∈ l, f x = m.app (g x)) :
    vsum (l.map f) = m.app (vsum (l.map g)) := by
  induction l with
  | nil => exact (app_vzero m).symm
  | cons a t ih =>
    rw [List.map_cons, vsum_cons, h a List.mem_cons_self, ih fun x hx => h x (List.mem_cons_of_mem a hx),
      List.map_cons, vsum_cons, M3.app_add]

theorem vsum_app (m : M3 R) (l : List (V3 R)) : vsum (l.map m.app) = m.app (vsum l) := by
  simpa using vsum_map_eq_app (g := id) (l := l) fun x _ => (rfl : m.app x = m.app (id x))

theorem consecPairs_map {α β : Type} (g : α → β) (l : List α) :
    consecPairs (l.map g) = (consecPairs l).map (Prod.map g g) := by
  simp only [consecPairs, ← List.map_tail, List.zip_map]

theorem cycPairs_map {α β : Type} (g : α → β) (l : List α) :
    cycPairs (l.map g) = (cycPairs l).map (Prod.map g g) := by
  unfold cycPairs
  rw [List.getLast?_map]
  cases h : l.getLast? with
  | none => simp
  | some z => simp only [Option.map_some, ← List.map_dropLast, ← List.map_cons, List.zip_map]

theorem faceFan6_tri (a b c : V3 R) : faceFan6 [a, b, c] = V3.det a b c := by
  simp [faceFan6, consecPairs]
theorem faceFan6_quad (a b c d : V3 R) : faceFan6 [a, b, c, d] = V3.det a b c + V3.det a c d := by
  simp [faceFan6, consecPairs]
theorem polyFan6_cons (f : List (V3 R)) (fs : List (List (V3 R))) : polyFan6 (f :: fs) = faceFan6 f + polyFan6 fs := by
  simp only [polyFan6, List.map_cons, List.sum_cons]
theorem polyFan6_nil : polyFan6 ([] : List (List (V3 R))) = 0 := rfl

theorem faceFan6_app (m : M3 R) (l : List (V3 R)) : faceFan6 (l.map m.app) = m.det * faceFan6 l := by
  cases l with
  | nil => simp [faceFan6]
  | cons a t =>
    simp only [List.map_cons, faceFan6, consecPairs_map, List.map_map]
    exact sum_map_eq_mul fun ⟨b, c⟩ _ => M3.det_app m a b c

theorem faceCentroidK_app (m : M3 R) (l : List (V3 R)) :
    faceCentroidK (l.map m.app) = m.det * faceCentroidK l := by
  simp only [faceCentroidK, cycPairs_map, List.map_map, vsum_app]
  exact sum_map_eq_mul fun ⟨u, v⟩ _ => M3.det_app m (vsum l) u v

/-! translation of the face-list kernels: each face contributes `t · (its doubled area vector)`, so the volume of a
    *closed* polyhedron (area vectors sum to zero) is translation invariant -/

theorem det_add_add_add (t a b c : V3 R) :
    V3.det (V3.add a t) (V3.add b t) (V3.add c t) = V3.det a b c + dot t (triCross a b c) := by
  simp only [V3.det, V3.add, V3.dot, triCross, V3.cross, V3.sub]; ring

theorem dot_vzero (t : V3 R) : dot t (vzero : V3 R) = 0 := by simp only [V3.dot, vzero]; ring
theorem sum_map_eq_add_dot {α : Type} {t : V3 R} {f g : α → R} {h : α → V3 R} {l : List α}
    (hx : ∀ x ∈ l, f x = g x + dot t (h x)) :
    (l.map f).sum = (l.map g).sum + dot t (vsum (l.map h)) := by
  induction l with
  | nil => simp [vsum, dot_vzero]
  | cons a r ih =>
    rw [List.map_cons, List.sum_cons, hx a List.mem_cons_self, ih fun x h' => hx x (List.mem_cons_of_mem a h')]
    simp only [List.map_cons, List.sum_cons, vsum_cons, dot_add]; ring

theorem faceFan6_add (t : V3 R) (l : List (V3 R)) :
    faceFan6 (l.map (V3.add · t)) = faceFan6 l + dot t (polyFanCross l) := by
  cases l with
  | nil => simp [faceFan6, polyFanCross, dot_vzero]
  | cons a r =>
    simp only [List.map_cons, faceFan6, polyFanCross, consecPairs_map, List.map_map]
    exact sum_map_eq_add_dot fun ⟨b, c⟩ _ => det_add_add_add t a b c

theorem polyFan6_add (t : V3 R) (faces : List (List (V3 R))) :
    polyFan6 (faces.map (·.map (V3.add · t))) = polyFan6 faces + dot t (vsum (faces.map polyFanCross)) := by
  simp only [polyFan6, List.map_map]
  exact sum_map_eq_add_dot fun f _ => faceFan6_add t f

/-! translation of the polygon centroid kernel: `n·(p + t) − Σ(p + t) = n·p − Σp` when `n` is the number of nodes -/

theorem vsum_map_add (t : V3 R) (l : List (V3 R)) :
    vsum (l.map (V3.add · t)) = V3.add (vsum l) (smul (l.length : R) t) := by
  induction l with
  | nil => simp only [List.map_nil, vsum, List.foldr_nil, List.length_nil, Nat.cast_zero, vzero, V3.add, V3.smul]; congr 1 <;> ring
  | cons a r ih =>
    rw [List.map_cons, vsum_cons, ih, vsum_cons, List.length_cons, Nat.cast_succ]
    simp only [V3.add, V3.smul]; congr 1 <;> ring

theorem sub_smul_add (n : R) (u s t : V3 R) :
    V3.sub (smul n (V3.add u t)) (V3.add s (smul n t)) = V3.sub (smul n u) s := by
  simp only [V3.sub, V3.add, V3.smul]; congr 1 <;> ring

end Femio.C11
