import Femio.Model.Knn
import Femio.Lemmas.Axis

/-! Geometry of boxes and children for the octree model `Model/Knn.lean` (the search without distance bound). -/

open Knn

theorem inBox_iff (b : Box) (p : P3) : inBox b p = true ↔
    (b.c.x - b.w ≤ p.x ∧ p.x ≤ b.c.x + b.w) ∧ (b.c.y - b.w ≤ p.y ∧ p.y ≤ b.c.y + b.w) ∧
    (b.c.z - b.w ≤ p.z ∧ p.z ≤ b.c.z + b.w) := by
  simp only [inBox, Bool.and_eq_true, decide_eq_true_eq, and_assoc]

/-- the eight children cover the parent (exact arithmetic) -/
theorem children_cover (b : Box) (p : P3) (hw : 0 ≤ b.w) (h : inBox b p = true) :
    ∃ r, r < 8 ∧ inBox (child b r) p = true := by
  rw [inBox_iff] at h
  -- each bit: minus side iff the coordinate is ≤ the centre
  refine ⟨Axis.digit (p.x ≤ b.c.x) (p.y ≤ b.c.y) (p.z ≤ b.c.z), Axis.digit_lt, (inBox_iff _ _).mpr ?_⟩
  simp only [child]
  exact ⟨Axis.half _ Axis.digit_bit4 h.1, Axis.half _ Axis.digit_bit2 h.2.1, Axis.half _ Axis.digit_bit1 h.2.2⟩

theorem child_sub (b : Box) (r : Nat) (p : P3) (h : inBox (child b r) p = true) : inBox b p = true := by
  rw [inBox_iff] at h ⊢
  exact ⟨Axis.of_half _ h.1, Axis.of_half _ h.2.1, Axis.of_half _ h.2.2⟩

theorem pick_lt (b : Box) (p : P3) : pick b p < 8 := by
  unfold pick
  cases hf : (List.range 8).find? (fun r => inBox (child b r) p) with
  | none => simp
  | some r => simpa using List.mem_range.mp (List.mem_of_find?_eq_some hf)

theorem pick_spec (b : Box) (p : P3) (hw : 0 ≤ b.w) (h : inBox b p = true) :
    pick b p < 8 ∧ inBox (child b (pick b p)) p = true := by
  refine ⟨pick_lt b p, ?_⟩
  obtain ⟨r, hr, hin⟩ := children_cover b p hw h
  unfold pick
  cases hf : (List.range 8).find? (fun r => inBox (child b r) p) with
  | none => exact absurd hin (by simpa using List.find?_eq_none.mp hf r (List.mem_range.mpr hr))
  | some r' => simpa using List.find?_some hf

theorem child_w_nonneg (b : Box) (r : Nat) (hw : 0 ≤ b.w) : 0 ≤ (child b r).w :=
  div_nonneg hw (by norm_num)

/-- third clause of C16_leaf_contains: a point of the root box lies in every box along its assigned path -/
theorem in_prefix_box (b : Box) (p : P3) (hw : 0 ≤ b.w) (h : inBox b p = true) (d : Nat) :
    ∀ pre, pre <+: assign b p d → inBox (boxOf b pre) p = true := by
  induction d generalizing b with
  | zero => intro pre hpre; rw [List.prefix_nil.mp hpre]; exact h
  | succ d ih =>
    rintro (_ | ⟨r, rs⟩) hpre
    · exact h
    · obtain ⟨rfl, hrs⟩ := List.cons_prefix_cons.mp hpre
      exact ih _ (child_w_nonneg b _ hw) (pick_spec b p hw h).2 rs hrs

theorem clamp_le (lo hi v : Rat) (h : lo ≤ hi) : lo ≤ Knn.clamp lo hi v ∧ Knn.clamp lo hi v ≤ hi :=
  Axis.clamp_mem v h

/-- C16_lb_sound -/
theorem lb2_le (b : Box) (q p : P3) (h : inBox b p = true) : lb2 b q ≤ dist2 q p := by
  rw [inBox_iff] at h
  -- `lb2` and `dist2` unfold to sums of three `sq`, i.e. products, and the model's `clamp` has the body of `Axis.clamp`
  exact add_le_add (add_le_add (Axis.sq_sub_clamp_le q.x h.1.1 h.1.2) (Axis.sq_sub_clamp_le q.y h.2.1.1 h.2.1.2))
    (Axis.sq_sub_clamp_le q.z h.2.2.1 h.2.2.2)

theorem lb2_nonneg (b : Box) (q : P3) : 0 ≤ lb2 b q :=
  add_nonneg (add_nonneg (mul_self_nonneg _) (mul_self_nonneg _)) (mul_self_nonneg _)

#print axioms in_prefix_box
#print axioms lb2_le
