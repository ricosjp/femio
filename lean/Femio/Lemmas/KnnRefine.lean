import Femio.Lemmas.KnnGeom
import Femio.Lemmas.BnB
import Femio.Lemmas.InsertionSort
import Mathlib.Data.Prod.Lex

/-! The best-first loop of `Model/Knn.lean` refines the abstract branch and bound of `BnB.lean`. -/

open Knn

/-! ### the order on keys is the heap order of the code -/
def keyEmb (k : Key) : ℚ ×ₗ ℕᵒᵈ := toLex (k.d, OrderDual.toDual k.idx)
theorem keyEmb_inj : Function.Injective keyEmb := by
  rintro ⟨d, i⟩ ⟨d', i'⟩ h
  cases h
  rfl
instance : LinearOrder Key := LinearOrder.lift' keyEmb keyEmb_inj

theorem key_le_iff (a b : Key) : a ≤ b ↔ a.d < b.d ∨ (a.d = b.d ∧ b.idx ≤ a.idx) := by
  show keyEmb a ≤ keyEmb b ↔ _
  simp only [keyEmb, Prod.Lex.le_iff, ofLex_toLex, OrderDual.toDual_le_toDual]

/-- on constructors, so that the conclusion unifies with any `x ≤ y` in `ℚ`: against `a.d ≤ b.d` the unifier unfolds
    `x` looking for a projection, which is slow when `x` is a `dist2` -/
theorem d_le_of_le {d d' : Rat} {i i' : Nat} (h : (⟨d, i⟩ : Key) ≤ ⟨d', i'⟩) : d ≤ d' :=
  ((key_le_iff _ _).mp h).elim le_of_lt fun h => le_of_eq h.1

theorem keyLe_iff (a b : Key) : keyLe a b = true ↔ a ≤ b := by
  rw [key_le_iff]; simp [keyLe]

theorem insKey_eq (k : Nat) (x : Key) (r : List Key) : insKey k x r = ins k x r := by
  rw [insKey, ins,
    eq_orderedInsert (· ≤ ·) insKeySorted (fun _ => rfl) fun x y _ => if_congr (keyLe_iff x y) rfl rfl]

variable (pt : Nat → P3) (q : P3)

theorem idxs_of_isEmpty (t : Oct) (h : t.isEmpty = true) : t.idxs = [] := by
  cases t with
  | empty => rfl
  | leaf is => cases h
  | node kids => cases h

/-- what `kidList` lists: the non-empty children of an inner node, each with its own box (`empty` counts as an inner
    node without children) -/
theorem mem_kidList {b : Box} {t : Oct} {kids : List (Box × Oct)} (h : kidList b t = some kids) {bt : Box × Oct}
    (hbt : bt ∈ kids) : ∃ ks r, t = .node ks ∧ bt = (child b (r : Fin 8).val, ks r) ∧ (ks r).isEmpty = false := by
  cases t with
  | empty => cases h; cases hbt
  | leaf is => cases h
  | node ks =>
    cases h
    simp only [List.mem_filter, List.mem_map] at hbt
    obtain ⟨⟨r, _, rfl⟩, hne⟩ := hbt
    exact ⟨ks, r, rfl, rfl, by simpa using hne⟩

theorem idxs_kidList (b : Box) (t : Oct) (cs : List (Box × Oct)) (h : kidList b t = some cs) :
    t.idxs = cs.flatMap fun bt => bt.2.idxs := by
  cases t with
  | empty => cases h; rfl
  | leaf is => cases h
  | node kids =>
    cases h
    -- dropping the empty children does not change the concatenation
    rw [Axis.flatMap_filter _ _ (fun bt h => idxs_of_isEmpty bt.2 (by simpa using h)), List.flatMap_map]
    rfl

def octTree : SearchTree (Box × Oct) Key where
  pts := fun bt => keysOf pt q bt.2.idxs
  children := fun bt => kidList bt.1 bt.2
  children_pts := by
    rintro ⟨b, t⟩ cs h
    simp only [keysOf]
    rw [idxs_kidList b t cs h, List.map_flatMap]

/-! ### every point stored under a box lies in the box -/
def WB : Box → Oct → Prop
  | _, .empty => True
  | b, .leaf is => ∀ i ∈ is, inBox b (pt i) = true
  | b, .node kids => ∀ r : Fin 8, WB (child b r.val) (kids r)

theorem WB_idxs (b : Box) (t : Oct) (h : WB pt b t) : ∀ i ∈ t.idxs, inBox b (pt i) = true := by
  induction t generalizing b with
  | empty => intro i hi; cases hi
  | leaf is => exact h
  | node kids ih =>
    intro i hi
    simp only [Oct.idxs, List.mem_flatMap] at hi
    obtain ⟨r, _, hir⟩ := hi
    exact child_sub b r.val (pt i) (ih r (child b r.val) (h r) i hir)

theorem WB_kids {b : Box} {t : Oct} {kids : List (Box × Oct)} (hw : 0 ≤ b.w) (h : WB pt b t)
    (hk : kidList b t = some kids) {bt : Box × Oct} (hbt : bt ∈ kids) : 0 ≤ bt.1.w ∧ WB pt bt.1 bt.2 := by
  obtain ⟨ks, r, rfl, rfl, _⟩ := mem_kidList hk hbt
  exact ⟨child_w_nonneg b _ hw, h r⟩

theorem WB_build (d : Nat) (b : Box) (is : List Nat) (hw : 0 ≤ b.w) (h : ∀ i ∈ is, inBox b (pt i) = true) :
    WB pt b (build pt d b is) := by
  induction d generalizing b is with
  | zero => exact h
  | succ d ih =>
    intro r
    show WB pt _ (if _ then Oct.empty else _)
    split
    · trivial
    · refine ih _ _ (child_w_nonneg b _ hw) fun i hi => ?_
      have hmem := List.mem_filter.mp hi
      exact of_decide_eq_true hmem.2 ▸ (pick_spec b (pt i) hw (h i hmem.1)).2

#print axioms WB_build

/-! ### the root holds every target: `build` only redistributes indices -/
theorem build_idxs_perm (d : Nat) (b : Box) (is : List Nat) : (build pt d b is).idxs.Perm is := by
  induction d generalizing b is with
  | zero => exact List.Perm.refl _
  | succ d ih =>
    refine (List.Perm.flatMap_left _ fun r _ => ?_).trans
      (Axis.classes_perm is (fun i => pick b (pt i)) fun i => pick_lt b (pt i))
    show (if _ then Oct.empty else _).idxs.Perm _
    split
    · rename_i he
      rw [List.isEmpty_iff.mp he]
      exact List.Perm.refl _
    · exact ih _ _

/-- the pruning test: once it fires, every entry of the (ascending) result heap is nearer than `d` -/
theorem lt_of_kthLt {res : List Key} (hs : res.Pairwise (· ≤ ·)) {d : Rat} (hk : kthLt res d = true) :
    ∀ y ∈ res, y.d < d := by
  intro y hy
  unfold kthLt at hk
  split at hk
  · rename_i m hm
    exact lt_of_le_of_lt (d_le_of_le (Femio.C16.le_of_getLast? hs hm y hy)) (of_decide_eq_true hk)
  · cases hk

theorem insQ_perm (e : QEntry) (l : List QEntry) : (insQ e l).Perm (e :: l) :=
  eq_orderedInsert (fun e f : QEntry => e.1 ≤ f.1) insQ (fun _ => rfl) (fun _ _ _ => rfl) ▸ List.perm_orderedInsert _ e l

theorem foldr_insQ_perm (f : Box × Oct → Rat) (kids : List (Box × Oct)) (rest : List QEntry) :
    (kids.foldr (fun bt acc => insQ (f bt, bt) acc) rest).Perm ((kids.map fun bt => (f bt, bt)) ++ rest) := by
  induction kids with
  | nil => exact List.Perm.refl _
  | cons a t ih => exact (insQ_perm _ _).trans (List.Perm.cons _ ih)

/-- a property of queue entries that the entries made for the listed children inherit holds for the whole queue
    after an iteration -/
theorem step_queue_all (P : QEntry → Prop)
    (hP : ∀ d b t kids, P (d, (b, t)) → kidList b t = some kids → ∀ bt ∈ kids, P (lb2 bt.1 q, bt))
    (k : Nat) (s : CSt) (h : ∀ e ∈ s.queue, P e) : ∀ e ∈ (step pt k q s).queue, P e := by
  obtain ⟨queue, res⟩ := s
  cases queue with
  | nil => exact h
  | cons e0 rest =>
    obtain ⟨d, b, t⟩ := e0
    have hrest : ∀ e ∈ rest, P e := fun e he => h e (List.mem_cons_of_mem _ he)
    simp only [step]
    split
    · exact hrest
    · cases hkl : kidList b t with
      | some kids =>
        intro e he
        rcases List.mem_append.mp ((foldr_insQ_perm (fun bt => lb2 bt.1 q) kids rest).subset he) with he | he
        · obtain ⟨bt, hbt, rfl⟩ := List.mem_map.mp he
          exact hP d b t kids (h _ List.mem_cons_self) hkl bt hbt
        · exact hrest e he
      | none => exact hrest

/-- the concrete state, with the keys of its queue entries dropped and suitable ghost lists `seen` and `disc`,
    satisfies the invariant of the abstract search (`abs`); every queued box has non-negative width, holds the points
    stored under it, and is queued with a key that is at most its lower bound (`wb`) -/
structure Sim (k : Nat) (all : List Key) (s : CSt) : Prop where
  abs : ∃ seen disc, SInv (octTree pt q) k all ⟨s.queue.map Prod.snd, s.res, seen, disc⟩
  wb : ∀ e ∈ s.queue, 0 ≤ e.2.1.w ∧ WB pt e.2.1 e.2.2 ∧ e.1 ≤ lb2 e.2.1 q

theorem sim_step (k : Nat) (all : List Key) (s : CSt) (h : Sim pt q k all s) : Sim pt q k all (step pt k q s) := by
  obtain ⟨⟨seen, disc, hinv⟩, hwb⟩ := h
  refine ⟨?_, step_queue_all pt q _ (fun d b t kids h hk bt hbt => ?_) k s hwb⟩
  · obtain ⟨queue, res⟩ := s
    cases queue with
    | nil => exact ⟨seen, disc, hinv⟩
    | cons e rest =>
      obtain ⟨d, b, t⟩ := e
      obtain ⟨hw, hWB, hd⟩ := hwb (d, (b, t)) List.mem_cons_self
      simp only [step]
      split
      · -- prune against the k-th best: every key under (b, t) is at least as far as the queued lower bound
        rename_i hcond
        obtain ⟨hfull, hk⟩ := hcond
        refine ⟨seen, _, step_inv hinv (Step.skip (b, t) (rest.map Prod.snd) res seen disc hfull ?_)⟩
        intro x hx y hy
        obtain ⟨i, hi, rfl⟩ := List.mem_map.mp hx
        have hfar := le_trans hd (lb2_le b q (pt i) (WB_idxs pt b t hWB i hi))
        exact (key_le_iff y _).mpr (Or.inl (lt_of_lt_of_le (lt_of_kthLt hinv.best.sorted hk y hy) hfar))
      · cases hkl : kidList b t with
        | some kids =>
          -- expand, then account for the sorted insertion by a reordering of the multiset queue
          have hexp := step_inv hinv (Step.expand (b, t) kids (rest.map Prod.snd) res seen disc hkl)
          have hre : (kids ++ rest.map Prod.snd).Perm
              ((kids.foldr (fun bt acc => insQ (lb2 bt.1 q, bt) acc) rest).map Prod.snd) := by
            have := ((foldr_insQ_perm (fun bt => lb2 bt.1 q) kids rest).map Prod.snd).symm
            simpa [List.map_append, List.map_map, Function.comp_def] using this
          exact ⟨seen, disc, step_inv hexp (Step.reorder _ _ res seen disc hre)⟩
        | none =>
          have hscan := step_inv hinv (Step.scan (b, t) (rest.map Prod.snd) res seen disc hkl)
          have hfun : (fun r x => insKey k x r) = (fun r x => ins k x r) := by
            funext r x; exact insKey_eq k x r
          refine ⟨((octTree pt q).pts (b, t)).reverse ++ seen, disc, ?_⟩
          simpa [octTree, hfun] using hscan
  · obtain ⟨hw', hWB'⟩ := WB_kids pt h.1 h.2.1 hk hbt
    exact ⟨hw', hWB', le_refl _⟩

theorem sim_iter (k : Nat) (all : List Key) (fuel : Nat) (s : CSt) (h : Sim pt q k all s) :
    Sim pt q k all (iter (step pt k q) fuel s) := by
  induction fuel generalizing s with
  | zero => exact h
  | succ n ih => exact ih _ (sim_step pt q k all s h)

/-- C16_knn_refines for the search without distance bound of `Model/Knn.lean`: whenever the concrete best-first loop
    over the octree has emptied its queue, its result heap holds the `k` nearest targets in the heap's own order
    (distance ascending, larger index first on ties) — for every point set inside the root box, every depth and
    every `k`. -/
theorem knn_correct (n depth k : Nat) (root : Box) (hw : 0 ≤ root.w)
    (hall : ∀ i, i < n → inBox root (pt i) = true) (fuel : Nat)
    (hq : (run pt n depth k root q fuel).queue = []) :
    IsBest k (keysOf pt q (List.range n)) (run pt n depth k root q fuel).res := by
  have hinit : Sim pt q k (keysOf pt q (List.range n)) ⟨[(0, (root, build pt depth root (List.range n)))], []⟩ := by
    refine ⟨⟨[], [], ⟨?_, isBest_nil k, by simp⟩⟩, ?_⟩
    · simp only [List.map_cons, List.map_nil, List.flatMap_cons, List.flatMap_nil, List.append_nil, List.nil_append,
        octTree, keysOf]
      exact ((build_idxs_perm pt depth root (List.range n)).map _).symm
    · intro e he
      cases List.mem_singleton.mp he
      exact ⟨hw, WB_build pt depth root _ hw (fun i hi => hall i (List.mem_range.mp hi)), lb2_nonneg root q⟩
  obtain ⟨⟨seen, disc, hinv⟩, _⟩ := sim_iter pt q k _ fuel _ hinit
  exact final_best hinv (congrArg (List.map Prod.snd) hq)

#print axioms knn_correct
