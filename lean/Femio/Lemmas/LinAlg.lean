import Mathlib.LinearAlgebra.Matrix.NonsingularInverse
import Mathlib.Tactic.Ring
import Mathlib.Algebra.BigOperators.Field
import Mathlib.Tactic.FieldSimp

open Matrix

variable {K : Type} [Field K]

/-! ### C17: reconstruction from an orthonormal eigen-system, and `invert_strain` -/

/-- `A V = V Λ`, `V Vᵀ = 1` ⇒ `V Λ Vᵀ = A` (`calculate_symmetric_matrices_from_eigens`) -/
theorem reconstruct (A V : Matrix (Fin 3) (Fin 3) K) (lam : Fin 3 → K)
    (hev : A * V = V * diagonal lam) (horth : V * Vᵀ = 1) :
    V * diagonal lam * Vᵀ = A := by
  rw [← hev, Matrix.mul_assoc, horth, Matrix.mul_one]

/-- matrix function via the eigen-system: `V f(Λ) Vᵀ` -/
def mfun (V : Matrix (Fin 3) (Fin 3) K) (lam : Fin 3 → K) (f : K → K) : Matrix (Fin 3) (Fin 3) K :=
  V * diagonal (fun i => f (lam i)) * Vᵀ

theorem conj_add_one (V : Matrix (Fin 3) (Fin 3) K) (d : Fin 3 → K) (horth : V * Vᵀ = 1) :
    V * diagonal d * Vᵀ + 1 = V * diagonal (fun i => d i + 1) * Vᵀ := by
  rw [← diagonal_add, diagonal_one, Matrix.mul_add, Matrix.add_mul, Matrix.mul_one, horth]

/-- `invert_strain A = V (1/(1+λ) − 1) Vᵀ` equals `(1 + A)⁻¹ − 1`, whatever eigen-system `eigh` returned -/
theorem invert_strain_eq (A V : Matrix (Fin 3) (Fin 3) K) (lam : Fin 3 → K)
    (hev : A * V = V * diagonal lam) (horth : V * Vᵀ = 1) (horth' : Vᵀ * V = 1)
    (hne : ∀ i, 1 + lam i ≠ 0) :
    (1 + A) * (mfun V lam (fun x => 1 / (1 + x) - 1) + 1) = 1 := by
  have hd : (fun i => (lam i + 1) * (1 / (1 + lam i) - 1 + 1)) = fun _ => (1 : K) := by
    funext i
    have := hne i
    field_simp
    ring
  rw [add_comm 1 A, ← reconstruct A V lam hev horth, mfun, conj_add_one V _ horth, conj_add_one V _ horth]
  calc V * diagonal (fun i => lam i + 1) * Vᵀ * (V * diagonal (fun i => 1 / (1 + lam i) - 1 + 1) * Vᵀ)
      = V * (diagonal (fun i => lam i + 1) * (Vᵀ * V) * diagonal (fun i => 1 / (1 + lam i) - 1 + 1)) * Vᵀ := by
        simp only [Matrix.mul_assoc]
    _ = 1 := by rw [horth', Matrix.mul_one, diagonal_mul_diagonal, hd, diagonal_one, Matrix.mul_one, horth]

/-- if `1 + B` has a left inverse `X`, no eigenvalue of `B` is `−1`: `Vᵀ X V · diag(1 + λ) = 1` -/
theorem one_add_eig_ne_zero (X B V : Matrix (Fin 3) (Fin 3) K) (lam : Fin 3 → K)
    (hev : B * V = V * diagonal lam) (horth' : Vᵀ * V = 1) (hX : X * (1 + B) = 1) (i : Fin 3) : 1 + lam i ≠ 0 := by
  have e : Vᵀ * X * V * diagonal (fun i => 1 + lam i) = 1 := by
    calc Vᵀ * X * V * diagonal (fun i => 1 + lam i)
        = Vᵀ * (X * (V + V * diagonal lam)) := by
          rw [← diagonal_add, diagonal_one, Matrix.mul_add, Matrix.mul_one]
          simp only [Matrix.mul_assoc, Matrix.mul_add]
      _ = Vᵀ * (X * (1 + B) * V) := by rw [← hev, Matrix.mul_assoc X, Matrix.add_mul, Matrix.one_mul]
      _ = 1 := by rw [hX, Matrix.one_mul, horth']
  have hii := congrFun (congrFun e i) i
  rw [Matrix.mul_diagonal, Matrix.one_apply_eq] at hii
  intro hi
  rw [hi, mul_zero] at hii
  exact zero_ne_one hii

/-- scalar law behind "inverting a strain twice": g (g x) = x for g x = 1/(1+x) − 1 -/
theorem g_involutive (x : K) (h : 1 + x ≠ 0) : 1 / (1 + (1 / (1 + x) - 1)) - 1 = x := by
  have : 1 + (1 / (1 + x) - 1) = 1 / (1 + x) := by ring
  rw [this, one_div_one_div]; ring

/-! ### C15: moment-corrected gradient is exact on affine fields -/

/-- `M = Σ_j s_j d_j d_jᵀ`, `b = Σ_j s_j d_j (d_j · a)` ⇒ `b = M a`; with `M` invertible `M⁻¹ b = a` -/
theorem affine_exact {ι : Type} (nb : Finset ι) (s : ι → K) (d : ι → Fin 3 → K) (a : Fin 3 → K)
    (M : Matrix (Fin 3) (Fin 3) K) (hM : M = ∑ j ∈ nb, s j • vecMulVec (d j) (d j)) (hdet : IsUnit M.det) :
    M⁻¹ *ᵥ (∑ j ∈ nb, (s j * (d j ⬝ᵥ a)) • d j) = a := by
  have hb : (∑ j ∈ nb, (s j * (d j ⬝ᵥ a)) • d j) = M *ᵥ a := by
    rw [hM, Matrix.sum_mulVec]
    apply Finset.sum_congr rfl
    intro j _
    rw [Matrix.smul_mulVec, vecMulVec_mulVec]
    ext i
    simp only [Pi.smul_apply, smul_eq_mul, MulOpposite.smul_eq_mul_unop, MulOpposite.unop_op]
    ring
  rw [hb, Matrix.mulVec_mulVec, Matrix.nonsing_inv_mul _ hdet, Matrix.one_mulVec]

/-- rows built as "off-diagonal entries, diagonal = −row sum" annihilate constants -/
theorem const_zero {ι : Type} [DecidableEq ι] (nb : Finset ι) (i : ι) (g : ι → K) (c : K) :
    (∑ j ∈ nb.erase i, g j * c) + (-(∑ j ∈ nb.erase i, g j)) * c = 0 := by
  rw [← Finset.sum_mul]; ring

/-! ### C14: effective mode conserves the grand total; mean mode is a convex combination -/

theorem effective_total {N E : Type} (nodes : Finset N) (elems : Finset E) (I : N → E → K) (x : E → K)
    (hcol : ∀ e ∈ elems, (∑ n ∈ nodes, I n e) ≠ 0) :
    ∑ n ∈ nodes, ∑ e ∈ elems, (I n e / ∑ m ∈ nodes, I m e) * x e = ∑ e ∈ elems, x e := by
  rw [Finset.sum_comm]
  apply Finset.sum_congr rfl
  intro e he
  rw [← Finset.sum_mul, ← Finset.sum_div, div_self (hcol e he), one_mul]

theorem mean_constants {N E : Type} (elems : Finset E) (I : N → E → K) (m : E → K) (n : N) (c : K)
    (hrow : (∑ e ∈ elems, I n e * m e) ≠ 0) :
    ∑ e ∈ elems, (I n e * m e / ∑ e' ∈ elems, I n e' * m e') * c = c := by
  rw [← Finset.sum_mul, ← Finset.sum_div, div_self hrow, one_mul]

#print axioms invert_strain_eq
#print axioms affine_exact
#print axioms effective_total
