import Femio.Model.GeomKernels
import Femio.Lemmas.InsertionSort
import Femio.Lemmas.ListLemmas
import Mathlib.Data.List.Perm.Basic
import Mathlib.Data.List.Nodup
/-! C11: `collect_node_positions_by_ids` is a lookup by id — invariant under storage permutations and injective
    relabelling; assembly of per-type results on mixed meshes. -/
namespace Femio.C11
open Core

section Lookup
variable {α : Type}

theorem nodePos_nil (i : Nat) : nodePos ([] : List (Nat × α)) i = none := rfl

theorem nodePos_cons (a : Nat) (v : α) (t : List (Nat × α)) (i : Nat) :
    nodePos ((a, v) :: t) i = if a = i then some v else nodePos t i := by
  unfold nodePos
  rw [List.map_cons, idPos]
  split
  · rfl
  · cases idPos (t.map (·.1)) i <;> rfl

theorem nodePos_eq_lookup (nodes : List (Nat × α)) (i : Nat) : nodePos nodes i = nodes.lookup i :=
  eq_lookup (fun i l => nodePos l i) nodePos_nil (fun i a v t => nodePos_cons a v t i) i nodes

/-- with distinct ids, the lookup finds exactly the stored pair -/
theorem nodePos_eq_some_iff (nodes : List (Nat × α)) (hn : (nodes.map (·.1)).Nodup) (i : Nat) (v : α) :
    nodePos nodes i = some v ↔ (i, v) ∈ nodes := by
  rw [nodePos_eq_lookup]
  exact ⟨mem_of_lookup_eq_some, lookup_eq_some_of_mem hn⟩

/-- storage order of the nodes is immaterial -/
theorem nodePos_perm {nodes nodes' : List (Nat × α)} (hp : nodes.Perm nodes')
    (hn : (nodes.map (·.1)).Nodup) (i : Nat) : nodePos nodes' i = nodePos nodes i := by
  have hn' : (nodes'.map (·.1)).Nodup := (hp.map _).nodup_iff.mp hn
  apply Option.ext
  intro v
  rw [nodePos_eq_some_iff nodes' hn', nodePos_eq_some_iff nodes hn, hp.mem_iff]

/-- an injective relabelling of the node ids is immaterial -/
theorem nodePos_relabel (σ : Nat → Nat) (hσ : Function.Injective σ) (nodes : List (Nat × α)) (i : Nat) :
    nodePos (nodes.map fun p => (σ p.1, p.2)) (σ i) = nodePos nodes i := by
  induction nodes with
  | nil => rfl
  | cons p t ih =>
    obtain ⟨a, w⟩ := p
    simp only [List.map_cons, nodePos_cons, ih]
    by_cases h : a = i
    · simp [h]
    · have : σ a ≠ σ i := fun h' => h (hσ h')
      simp [h, this]

theorem gather_perm {nodes nodes' : List (Nat × α)} (hp : nodes.Perm nodes')
    (hn : (nodes.map (·.1)).Nodup) (conn : List Nat) : gather nodes' conn = gather nodes conn := by
  unfold gather
  congr 1
  funext i
  exact nodePos_perm hp hn i

theorem gather_relabel (σ : Nat → Nat) (hσ : Function.Injective σ) (nodes : List (Nat × α)) (conn : List Nat) :
    gather (nodes.map fun p => (σ p.1, p.2)) (conn.map σ) = gather nodes conn := by
  unfold gather
  rw [List.mapM_map]
  congr 1
  funext i
  exact nodePos_relabel σ hσ nodes i

end Lookup

section Assemble
variable {β : Type}

theorem sortKey_perm (l : List (Nat × β)) : (sortKey l).Perm l :=
  (show sortKey l = _ from foldr_eq_insertionSort (fun a b => a.1 ≤ b.1) insertKey (fun _ => rfl) (fun _ _ _ => rfl) l) ▸
    List.perm_insertionSort _ l

/-- repaired configuration: the assembled result is a permutation of the blocks' own (id, value) pairs -/
theorem assemble_fixed_perm (blocks : List (List (Nat × β))) :
    (assemble Cfg.fixed blocks).Perm blocks.flatten := by
  unfold assemble
  split
  · simp
  · have h : ∀ bs : List (List (Nat × β)), bs.flatMap (assembleBlock Cfg.fixed) = bs.flatten := by
      intro bs
      induction bs with
      | nil => rfl
      | cons b t ih =>
        rw [List.flatMap_cons, List.flatten_cons, ih]
        simp only [assembleBlock, Cfg.fixed, if_true]
    rw [h]
    exact sortKey_perm _

end Assemble

end Femio.C11
