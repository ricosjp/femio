import Femio.Model.MeshioHist
import Femio.Lemmas.SubMeshProps
/-! The meshio export block by block: what `cellBlock` / `cellBlocks` return and when they succeed, and the cached
id table of a live object (`mkTable`, `Coherent`) under the steps of a history. -/
namespace Femio.C06
open Core Femio.SubMesh Femio.Meshio

variable {α : Type}

theorem cellBlocks_cons {typeName : Nat → Option (List Char)} {perm : List Nat} {ids : List Id}
    {b : List (Ent (List Id))} {bs : EBlocks (List Id)} {cs : List CellBlock} :
    cellBlocks typeName perm ids (b :: bs) = .ok cs ↔
      ∃ c cs', cellBlock typeName perm ids b = .ok c ∧ cellBlocks typeName perm ids bs = .ok cs' ∧ cs = c :: cs' := by
  constructor
  · intro h
    rw [cellBlocks] at h
    split at h
    · cases h
      exact ⟨_, _, ‹_›, ‹_›, rfl⟩
    · cases h
    · cases h
  · rintro ⟨c, cs', hc, hcs, rfl⟩
    rw [cellBlocks, hc, hcs]

theorem cellBlocks_ok {typeName : Nat → Option (List Char)} {perm : List Nat} {ids : List Id}
    {bs : EBlocks (List Id)} {cs : List CellBlock} (h : cellBlocks typeName perm ids bs = .ok cs) :
    ∃ hl : cs.length = bs.length, ∀ j (hj : j < bs.length), cellBlock typeName perm ids bs[j] = .ok (cs[j]'(hl ▸ hj)) := by
  induction bs generalizing cs with
  | nil => cases h; exact ⟨rfl, fun j hj => absurd hj (Nat.not_lt_zero j)⟩
  | cons b t ih =>
    obtain ⟨c, cs', hc, hcs, rfl⟩ := cellBlocks_cons.mp h
    obtain ⟨hl, hall⟩ := ih hcs
    refine ⟨congrArg (· + 1) hl, fun j hj => ?_⟩
    cases j with
    | zero => exact hc
    | succ k => exact hall k (Nat.lt_of_succ_lt_succ hj)

theorem cellBlocks_succeeds {typeName : Nat → Option (List Char)} {perm : List Nat} {ids : List Id}
    {bs : EBlocks (List Id)} (h : ∀ b ∈ bs, ∃ c, cellBlock typeName perm ids b = .ok c) :
    ∃ cs, cellBlocks typeName perm ids bs = .ok cs := by
  induction bs with
  | nil => exact ⟨[], rfl⟩
  | cons b t ih =>
    obtain ⟨c, hc⟩ := h b List.mem_cons_self
    obtain ⟨cs, hcs⟩ := ih fun b' hb' => h b' (List.mem_cons_of_mem _ hb')
    exact ⟨c :: cs, cellBlocks_cons.mpr ⟨c, cs, hc, hcs, rfl⟩⟩

/-- what one exported block is: the block's type and meshio name, one row per element in block order, and every row
    entry is a storage position holding the node id that VTK order asks for -/
def BlockTranslated (typeName : Nat → Option (List Char)) (perm : List Nat) (ids : List Id)
    (b : List (Ent (List Id))) (c : CellBlock) : Prop :=
  (∃ e0, b.head? = some e0 ∧ c.ty = e0.ty ∧ typeName e0.ty = some c.name) ∧
  c.rows.length = b.length ∧
  ∀ j (hj : j < b.length), ∃ v row, vtkOrder perm c.ty b[j].val = some v ∧ c.rows[j]? = some row ∧
    row.length = v.length ∧ ∀ l (hl : l < v.length), ∃ k, row[l]? = some k ∧ ids[k]? = some v[l]

theorem cellBlock_ok {typeName : Nat → Option (List Char)} {perm : List Nat} {ids : List Id}
    {b : List (Ent (List Id))} {c : CellBlock} (h : cellBlock typeName perm ids b = .ok c) :
    BlockTranslated typeName perm ids b c := by
  unfold cellBlock at h
  cases b with
  | nil => simp at h
  | cons e0 t =>
    simp only at h
    split at h
    · cases h
    · rename_i rows hrows
      split at h
      · cases h
      · rename_i idx hidx
        split at h
        · cases h
        · rename_i nm hnm
          cases h
          refine ⟨⟨e0, rfl, rfl, hnm⟩, ?_, fun j hj => ?_⟩
          · rw [gather_length hidx, gather_length hrows]
          · have hjr : j < rows.length := by rw [gather_length hrows]; exact hj
            have hji : j < idx.length := by rw [gather_length hidx]; exact hjr
            have e1 := gather_getElem hrows j hj
            have e2 := gather_getElem hidx j hjr
            refine ⟨rows[j], idx[j], e1, List.getElem?_eq_getElem hji, gather_length e2, fun l hl => ?_⟩
            have e3 := gather_getElem e2 l hl
            obtain ⟨hkl, hki⟩ := idPos_some e3
            exact ⟨_, List.getElem?_eq_getElem _, by rw [List.getElem?_eq_getElem hkl, hki]⟩

/-- the position is the only one: with pairwise distinct node ids a zero-based position determines the node id and
    vice versa, so the translation of `C06_index_translation` is the storage position of the id (`idPos`). -/
theorem position_unique {ids : List Id} (hn : ids.Nodup) {k k' : Nat} {n : Id} (h : ids[k]? = some n) (h' : ids[k']? = some n) :
    k = k' :=
  (List.getElem?_inj (List.getElem?_eq_some_iff.mp h).1 hn).mp (h.trans h'.symm)

theorem vtkOrder_mem {perm : List Nat} {ty : Nat} {conn v : List Id} (h : vtkOrder perm ty conn = some v) :
    ∀ n ∈ v, n ∈ conn := by
  unfold vtkOrder at h
  split at h
  · intro n hn
    obtain ⟨p, _, hp⟩ := gather_mem h hn
    exact List.mem_of_getElem? hp
  · cases h; exact fun _ h => h

open Femio.MeshioHist

theorem tableLookup_mkTableFrom (n : Nat) (ids : List Id) (i : Id) :
    tableLookup (mkTableFrom n ids) i = (idPos ids i).map (· + n) := by
  induction ids generalizing n with
  | nil => simp [mkTableFrom, tableLookup, idPos]
  | cons a t ih =>
    simp only [mkTableFrom, tableLookup, idPos]
    split
    · simp
    · rw [ih]
      cases idPos t i with
      | none => rfl
      | some k => simp only [Option.map_some]; congr 1; omega

theorem tableLookup_mkTable (ids : List Id) : tableLookup (mkTable ids) = idPos ids := by
  funext i
  rw [mkTable, tableLookup_mkTableFrom]
  cases idPos ids i <;> simp

theorem cellBlocksWith_idPos (typeName : Nat → Option (List Char)) (perm : List Nat) (ids : List Id)
    (bs : EBlocks (List Id)) : cellBlocksWith typeName perm (idPos ids) bs = cellBlocks typeName perm ids bs := by
  induction bs with
  | nil => rfl
  | cons b t ih =>
    have hb : cellBlockWith typeName perm (idPos ids) b = cellBlock typeName perm ids b := rfl
    simp only [cellBlocksWith, cellBlocks, ih, hb]
    rfl

/-- the lookup table of the nodes is `enumerate(nodes.ids)` -/
def Coherent (o : Obj α) : Prop := o.id2index = mkTable o.pub.nodes.ids

theorem step_coherent {cfg : Cfg} {o : Obj α} (op : Op α) (hc : cfg.idsSetterRefreshes = true ∨ op.isSetNodeIds = false)
    (h : Coherent o) : Coherent (step cfg o op) := by
  unfold Coherent at *
  cases op with
  | editNodeData f => exact h
  | setNodeFrame ids d => rfl
  | setNodeIds ids =>
    rcases hc with hc | hc
    · simp [step, hc]
    · simp [Op.isSetNodeIds] at hc
  | editElems f => exact h
  | editNodal f => exact h
  | doExport => exact h

end Femio.C06
