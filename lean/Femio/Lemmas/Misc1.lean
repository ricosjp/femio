import Mathlib.Algebra.Order.BigOperators.Group.Finset
import Mathlib.Algebra.BigOperators.Field

/-! clamp lower bound, per coordinate, squared distances (no sqrt) -/
section LB
variable {K : Type} [Field K] [LinearOrder K] [IsStrictOrderedRing K]

/-- `min(hi, max(lo, x))` -/
def clamp (lo hi x : K) : K := min hi (max lo x)

theorem clamp_sq_le (lo hi x p : K) (h1 : lo ≤ p) (h2 : p ≤ hi) :
    (x - clamp lo hi x) ^ 2 ≤ (x - p) ^ 2 := by
  unfold clamp
  rcases le_total x lo with hx | hx
  · -- x ≤ lo ≤ p: the clamp is lo and 0 ≤ lo - x ≤ p - x
    rw [max_eq_left hx, min_eq_right (h1.trans h2), sub_sq_comm x lo, sub_sq_comm x p]
    exact pow_le_pow_left₀ (sub_nonneg.2 hx) (sub_le_sub_right h1 x) 2
  · rw [max_eq_right hx]
    rcases le_total x hi with hx2 | hx2
    · rw [min_eq_right hx2, sub_self, zero_pow two_ne_zero]
      exact sq_nonneg _
    · rw [min_eq_left hx2]
      exact pow_le_pow_left₀ (sub_nonneg.2 hx2) (sub_le_sub_left h2 x) 2

/-- box lower bound in 3-D -/
theorem lb_sound (cx cy cz w x y z px py pz : K)
    (hx : cx - w ≤ px ∧ px ≤ cx + w) (hy : cy - w ≤ py ∧ py ≤ cy + w) (hz : cz - w ≤ pz ∧ pz ≤ cz + w) :
    (x - clamp (cx - w) (cx + w) x) ^ 2 + (y - clamp (cy - w) (cy + w) y) ^ 2 + (z - clamp (cz - w) (cz + w) z) ^ 2
      ≤ (x - px) ^ 2 + (y - py) ^ 2 + (z - pz) ^ 2 :=
  add_le_add (add_le_add (clamp_sq_le _ _ x px hx.1 hx.2) (clamp_sq_le _ _ y py hy.1 hy.2))
    (clamp_sq_le _ _ z pz hz.1 hz.2)

/-- pruned maximum (Hausdorff): skipping terms known to be ≤ the running maximum changes nothing -/
theorem foldl_max_skip (f : ℕ → K) (skip : ℕ → Bool) (l : List ℕ) (acc : K)
    (hskip : ∀ a ∈ l, skip a = true → f a ≤ acc) :
    l.foldl (fun m a => if skip a then m else max m (f a)) acc = l.foldl (fun m a => max m (f a)) acc := by
  induction l generalizing acc with
  | nil => rfl
  | cons a t ih =>
    rw [List.foldl_cons, List.foldl_cons]
    by_cases hs : skip a = true
    · rw [if_pos hs, max_eq_left (hskip a List.mem_cons_self hs)]
      exact ih acc fun b hb => hskip b (List.mem_cons_of_mem _ hb)
    · rw [if_neg hs]
      exact ih _ fun b hb h => (hskip b (List.mem_cons_of_mem _ hb) h).trans (le_max_left _ _)
end LB

/-! the two-pointer sweep of remove_useless_nodes -/
section Sweep
def sweep : List Nat → List Nat → List Bool
  | [], _ => []
  | _ :: os, [] => false :: sweep os []
  | o :: os, u :: us => if o ≠ u then false :: sweep os (u :: us) else true :: sweep os us

theorem sweep_nil (os : List Nat) : sweep os [] = os.map (fun _ => false) := by
  induction os with
  | nil => rfl
  | cons o t ih => simp [sweep, ih]

theorem sweep_correct (orig useful : List Nat)
    (ho : orig.Pairwise (· < ·)) (hu : useful.Pairwise (· < ·)) (hsub : ∀ u ∈ useful, u ∈ orig) :
    sweep orig useful = orig.map (fun o => decide (o ∈ useful)) := by
  induction orig generalizing useful with
  | nil => simp [sweep]
  | cons o os ih =>
    cases useful with
    | nil => simp [sweep, sweep_nil]
    | cons u us =>
      rw [List.pairwise_cons] at ho hu
      -- every useful id other than `o` lies in `os`, hence above `o`
      have hgt : ∀ v ∈ u :: us, v ≠ o → v ∈ os ∧ o < v := fun v hv hne =>
        have h := (List.mem_cons.1 (hsub v hv)).resolve_left hne
        ⟨h, ho.1 v h⟩
      by_cases hou : o = u
      · subst hou
        have hus : ∀ v ∈ us, v ∈ os := fun v hv => (hgt v (List.mem_cons_of_mem _ hv) (ne_of_gt (hu.1 v hv))).1
        rw [sweep, if_neg (not_not.2 rfl), ih us ho.2 hu.2 hus, List.map_cons, decide_eq_true List.mem_cons_self]
        refine congrArg _ (List.map_congr_left fun x hx => decide_eq_decide.2 ?_)
        rw [List.mem_cons, or_iff_right (ne_of_gt (ho.1 x hx))]
      · have hnot : o ∉ u :: us := fun hmem =>
          have h1 := (hgt u List.mem_cons_self (Ne.symm hou)).2
          (List.mem_cons.1 hmem).elim hou fun h => Nat.lt_asymm h1 (hu.1 o h)
        rw [sweep, if_pos hou, List.map_cons, decide_eq_false hnot,
          ih (u :: us) ho.2 (List.pairwise_cons.2 hu) fun v hv => (hgt v hv fun h => hnot (h ▸ hv)).1]
end Sweep

/-! a convex combination stays within the range of its inputs (used by `C14_bounds`) -/
section Convex
variable {K : Type} [Field K] [LinearOrder K] [IsStrictOrderedRing K] {ι : Type}
theorem sum_mul_le_sum_mul (s : Finset ι) (w x y : ι → K) (hw : ∀ i ∈ s, 0 ≤ w i)
    (h : ∀ i ∈ s, w i ≠ 0 → x i ≤ y i) : ∑ i ∈ s, w i * x i ≤ ∑ i ∈ s, w i * y i := by
  apply Finset.sum_le_sum
  intro i hi
  by_cases h0 : w i = 0
  · rw [h0, zero_mul, zero_mul]
  · exact mul_le_mul_of_nonneg_left (h i hi h0) (hw i hi)

theorem convex_bounds (s : Finset ι) (w x : ι → K) (lo hi : K)
    (hw : ∀ i ∈ s, 0 ≤ w i) (hsum : ∑ i ∈ s, w i = 1)
    (hlo : ∀ i ∈ s, w i ≠ 0 → lo ≤ x i) (hhi : ∀ i ∈ s, w i ≠ 0 → x i ≤ hi) :
    lo ≤ ∑ i ∈ s, w i * x i ∧ ∑ i ∈ s, w i * x i ≤ hi := by
  have hc : ∀ c : K, ∑ i ∈ s, w i * c = c := fun c => by rw [← Finset.sum_mul, hsum, one_mul]
  constructor
  · rw [← hc lo]; exact sum_mul_le_sum_mul s w _ x hw hlo
  · rw [← hc hi]; exact sum_mul_le_sum_mul s w x _ hw hhi
end Convex
#print axioms lb_sound
#print axioms sweep_correct
#print axioms convex_bounds
