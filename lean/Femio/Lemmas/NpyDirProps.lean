import Femio.Model.NpyDir

/-! The invariant of the cache directory (`DInv`: a sentinel promises a coherent cache) and what the C05 theorems use
about step lists: a list leaves a file alone or determines it, by its last step on that file; a crash strictly inside a
wrapped plan, and any clean-up `safeUnwind` accepts after it, leave no sentinel; the order of effects of the current
code (`mid`) is a good plan. -/
namespace Femio.C05

/-- all cache files stem from one finished `save` of one object into a clean directory -/
def Coherent (d : Dir) : Prop := ∃ (x : Obj) (mo : Bool), d = expected x mo

/-- the sentinel promises a complete, coherent cache -/
def DInv (d : Dir) : Prop := (d .sentinel).isSome → Coherent d

theorem DInv_of_none {d : Dir} (h : d .sentinel = none) : DInv d := fun hs => by simp [h] at hs

theorem DInv_expected (x : Obj) (mo : Bool) : DInv (expected x mo) := fun _ => ⟨x, mo, rfl⟩

/-! A step either targets a file, and then what it leaves there does not depend on what was there, or leaves it alone.  So
a step list leaves a file alone or determines it: by its last step that targets the file. -/

def targets (f : File) : Step → Bool
  | .write g _ => decide (g = f)
  | .remove g => decide (g = f)

theorem apply_write (d : Dir) (f : File) (t : Nat) (g : File) :
    Step.apply d (.write f t) g = if g = f then some (.ok t) else d g := rfl

theorem apply_remove (d : Dir) (f g : File) : Step.apply d (.remove f) g = if g = f then none else d g := rfl

theorem apply_other (s : Step) (d : Dir) (f : File) (h : targets f s = false) : (s.apply d) f = d f := by
  cases s <;> simp_all [Step.apply, targets, eq_comm]

theorem apply_same (s : Step) (d d' : Dir) (f : File) (h : targets f s = true) : (s.apply d) f = (s.apply d') f := by
  cases s <;> simp_all [Step.apply, targets]

theorem foldl_other (l : List Step) (f : File) (h : ∀ s ∈ l, targets f s = false) (d : Dir) :
    (l.foldl Step.apply d) f = d f := by
  induction l generalizing d with
  | nil => rfl
  | cons s t ih =>
    rw [List.foldl_cons, ih (fun s' hs' => h s' (List.mem_cons_of_mem _ hs')), apply_other s d f (h s List.mem_cons_self)]

theorem foldl_touched (l : List Step) (f : File) :
    (∀ d, (l.foldl Step.apply d) f = d f) ∨ (∀ d d', (l.foldl Step.apply d) f = (l.foldl Step.apply d') f) := by
  induction l with
  | nil => exact .inl fun _ => rfl
  | cons s t ih =>
    simp only [List.foldl_cons]
    rcases ih with h | h
    · cases hs : targets f s
      · exact .inl fun d => (h _).trans (apply_other s d f hs)
      · exact .inr fun d d' => by rw [h, h]; exact apply_same s d d' f hs
    · exact .inr fun d d' => h _ _

theorem touchesSentinel_eq (s : Step) : touchesSentinel s = targets .sentinel s := by
  cases s with
  | write f t => cases f <;> rfl
  | remove f => cases f <;> rfl

theorem tear_sentinel (s : Step) (d : Dir) : (s.tear d) .sentinel = d .sentinel := by
  cases s with
  | write f t => cases f <;> rfl
  | remove f => rfl

theorem forall_mem_optWrite {P : Step → Prop} (has : Bool) (f : File) (t : Nat) :
    (∀ s ∈ optWrite has f t, P s) ↔ (has = true → P (.write f t)) := by
  cases has <;> simp [optWrite]

theorem foldl_optWrite (has : Bool) (f : File) (t : Nat) (d : Dir) (g : File) :
    ((optWrite has f t).foldl Step.apply d) g = if has = true ∧ g = f then some (.ok t) else d g := by
  cases has <;> simp [optWrite, apply_write]

theorem goodMid_iff (m : List Step) (x : Obj) (mo : Bool) :
    GoodMid m x mo = true ↔ (∀ s ∈ m, touchesSentinel s = false) ∧
      ∀ f ∈ dataFiles, (m.foldl Step.apply allTorn) f = expected x mo f := by
  simp [GoodMid]

theorem mem_dataFiles (f : File) : f ∈ dataFiles ↔ f ≠ .sentinel := by
  cases f <;> decide

theorem expected_ne_torn (x : Obj) (mo : Bool) (f : File) : expected x mo f ≠ some .torn := by
  cases f <;> simp [expected]

/-- a good plan determines every data file: tested on `allTorn` it left no file torn, so it did not leave it alone -/
theorem good_data (m : List Step) (x : Obj) (mo : Bool) (hg : GoodMid m x mo = true) (f : File) (hf : f ≠ .sentinel)
    (d : Dir) : (m.foldl Step.apply d) f = expected x mo f := by
  have hall := ((goodMid_iff m x mo).mp hg).2 f ((mem_dataFiles f).mpr hf)
  rcases foldl_touched m f with h | h
  · exact absurd ((h allTorn).symm.trans hall).symm (expected_ne_torn x mo f)
  · rw [h d allTorn, hall]

theorem crashSteps_sentinel (steps : List Step) (d : Dir) (k : Nat) (torn : Bool) :
    (crashSteps steps d k torn) .sentinel = ((steps.take k).foldl Step.apply d) .sentinel := by
  unfold crashSteps
  cases torn
  · rfl
  · cases steps[k]? with
    | none => rfl
    | some s => exact tear_sentinel s _

theorem crashSteps_of_length_le (steps : List Step) (d : Dir) (k : Nat) (torn : Bool) (h : steps.length ≤ k) :
    crashSteps steps d k torn = steps.foldl Step.apply d := by
  unfold crashSteps
  rw [List.take_of_length_le h, List.getElem?_eq_none h]
  cases torn <;> rfl

theorem crash_inside_no_sentinel (m : List Step) (hm : ∀ s ∈ m, touchesSentinel s = false) (t : Nat) (d : Dir)
    (k : Nat) (torn : Bool) (hk : 0 < k) (hk' : k < m.length + 2) :
    (crashSteps (wrap m t) d k torn) .sentinel = none := by
  obtain ⟨j, rfl⟩ : ∃ j, k = j + 1 := ⟨k - 1, by omega⟩
  rw [crashSteps_sentinel, wrap, List.take_succ_cons, List.take_append_of_le_length (by omega), List.foldl_cons,
    foldl_other _ .sentinel (fun s hs => touchesSentinel_eq s ▸ hm s (List.mem_of_mem_take hs))]
  rfl

theorem readDirG_coherent (d : Dir) (src : Obj) (m : List Step) (h : DInv d) : Coherent (readDirG d src m).1 := by
  unfold readDirG
  split
  · rename_i hs; exact h hs
  · exact ⟨src, false, rfl⟩

theorem safeUnwind_true_cons (s : Step) (r : List Step) (h : safeUnwind true (s :: r) = true) :
    s = .remove .sentinel ∧ safeUnwind false r = true := by
  cases s with
  | write f t => cases f <;> simp [safeUnwind] at h
  | remove f => cases f <;> simp_all [safeUnwind]

theorem safeUnwind_false_cons (s : Step) (r : List Step) (d : Dir) (hd : d .sentinel = none)
    (h : safeUnwind false (s :: r) = true) : (s.apply d) .sentinel = none ∧ safeUnwind false r = true := by
  cases s with
  | write f t => cases f <;> simp_all [safeUnwind, apply_write]
  | remove f => cases f <;> simp_all [safeUnwind, apply_remove]

theorem safeUnwind_mono (unw : List Step) (h : safeUnwind true unw = true) : safeUnwind false unw = true := by
  cases unw with
  | nil => rfl
  | cons s r =>
    obtain ⟨rfl, hr⟩ := safeUnwind_true_cons s r h
    exact hr

theorem unwind_no_sentinel (unw : List Step) (d : Dir) (hd : d .sentinel = none) (h : safeUnwind false unw = true) :
    (unw.foldl Step.apply d) .sentinel = none := by
  induction unw generalizing d with
  | nil => exact hd
  | cons s r ih =>
    obtain ⟨hd', hr⟩ := safeUnwind_false_cons s r d hd h
    exact ih _ hd' hr

theorem unwind_inv (unw : List Step) (d : Dir) (h : DInv d) (hs : safeUnwind true unw = true) :
    DInv (unw.foldl Step.apply d) := by
  cases unw with
  | nil => exact h
  | cons s r =>
    obtain ⟨rfl, hr⟩ := safeUnwind_true_cons s r hs
    exact DInv_of_none (unwind_no_sentinel r _ rfl hr)

theorem interrupt_inside_no_sentinel (m : List Step) (hm : ∀ s ∈ m, touchesSentinel s = false) (t : Nat) (d : Dir)
    (k : Nat) (torn : Bool) (unw : List Step) (hk : 0 < k) (hk' : k < m.length + 2)
    (hu : GoodUnwind (m.length + 2) k unw = true) : (interruptSteps (wrap m t) d k torn unw) .sentinel = none := by
  unfold GoodUnwind at hu
  rw [decide_eq_false (by omega)] at hu
  exact unwind_no_sentinel unw _ (crash_inside_no_sentinel m hm t d k torn hk hk') hu

/-- the effects of the repaired `save` between the first (remove sentinel) and the last (touch sentinel) -/
def mid (x : Obj) (meshOnly : Bool) : List Step :=
  [.remove .nodal, .remove .elemental, .remove .constraints, .remove .settings,
   .write .nodes x.tag, .write .elements x.tag] ++
  (if meshOnly then [] else
    optWrite x.hasNodal .nodal x.tag ++ optWrite x.hasElemental .elemental x.tag ++
    optWrite x.hasConstraints .constraints x.tag ++ [.write .settings x.tag])

theorem saveSteps_fixed (x : Obj) (mo : Bool) : saveSteps Cfg.fixed x mo = wrap (mid x mo) x.tag := by
  simp [saveSteps, Cfg.fixed, mid, wrap]

theorem mid_no_sentinel (x : Obj) (mo : Bool) : ∀ s ∈ mid x mo, touchesSentinel s = false := by
  unfold mid
  cases mo <;>
    simp only [List.forall_mem_append, forall_mem_optWrite, List.forall_mem_cons, touchesSentinel, Bool.false_eq_true,
      if_false, if_true] <;>
    simp

theorem mid_data (x : Obj) (mo : Bool) (d : Dir) (f : File) (hf : f ≠ .sentinel) :
    ((mid x mo).foldl Step.apply d) f = expected x mo f := by
  cases mo <;> cases f <;> simp [mid, foldl_optWrite, apply_write, apply_remove, expected] at hf ⊢

/-- the order of the current code is one good plan -/
theorem mid_good (x : Obj) (mo : Bool) : GoodMid (mid x mo) x mo = true :=
  (goodMid_iff _ x mo).mpr ⟨mid_no_sentinel x mo, fun f hf => mid_data x mo allTorn f ((mem_dataFiles f).mp hf)⟩

theorem readDir_fixed (d : Dir) (src : Obj) : readDir Cfg.fixed d src = readDirG d src (mid src false) := by
  rw [readDir, readDirG, fullSave, saveSteps_fixed]

/-- the node and the element table come from ONE object -/
def MeshCoherent (r : Dir) : Prop := ∃ t : Nat, r .nodes = some (.ok t) ∧ r .elements = some (.ok t)

theorem coherent_mesh (d : Dir) (h : Coherent d) : MeshCoherent (meshPart d) := by
  obtain ⟨x, mo, rfl⟩ := h
  exact ⟨x.tag, rfl, rfl⟩

end Femio.C05
