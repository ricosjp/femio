import Femio.Model.NpyKeys

/-! Splitting a joined key gives back its fields; the last component of a key `attrToDict` writes is one of `kinds` and
identifies it by suffix; the first component and the element type can be read off each key of a group; filtering a dict
of one group per distinct name by that name returns the group. -/
namespace Femio.C05K

theorem splitOn_noSep (sep : Char) (f : Str) (h : sep ∉ f) : splitOn sep f = [f] := by
  induction f with
  | nil => rfl
  | cons c t ih =>
    have hc : c ≠ sep := fun e => h (e ▸ List.mem_cons_self)
    have ht : sep ∉ t := fun m => h (List.mem_cons_of_mem _ m)
    simp [splitOn, hc, ih ht]

theorem splitOn_append (sep : Char) (f rest : Str) (h : sep ∉ f) :
    splitOn sep (f ++ sep :: rest) = f :: splitOn sep rest := by
  induction f with
  | nil => simp [splitOn]
  | cons c t ih =>
    have hc : c ≠ sep := fun e => h (e ▸ List.mem_cons_self)
    have ht : sep ∉ t := fun m => h (List.mem_cons_of_mem _ m)
    simp [splitOn, hc, ih ht]

/-- `sep.join(fields).split(sep) = fields` for fields that do not contain the separator -/
theorem split_join (sep : Char) (fs : List Str) (hne : fs ≠ []) (h : ∀ f ∈ fs, sep ∉ f) :
    splitOn sep (joinSep sep fs) = fs := by
  induction fs with
  | nil => exact absurd rfl hne
  | cons f t ih =>
    cases t with
    | nil => simpa [joinSep] using splitOn_noSep sep f (h f (by simp))
    | cons g t =>
      have := ih (by simp) (fun x hx => h x (List.mem_cons_of_mem _ hx))
      simp only [joinSep]
      rw [splitOn_append sep f _ (h f (by simp)), this]

theorem suffix_joinSep_snoc (pre : List Str) (x : Str) : x <:+ joinSep '/' (pre ++ [x]) := by
  induction pre with
  | nil => exact List.suffix_refl x
  | cons f t ih =>
    cases t with
    | nil => exact (List.suffix_cons '/' x).trans (List.suffix_append f _)
    | cons g t => exact ih.trans ((List.suffix_cons '/' _).trans (List.suffix_append f _))

/-- the last component of every key `to_dict` writes -/
def kinds : List Str := [sIds, sData, sTs]

theorem not_slash_ids : '/' ∉ sIds := by decide
theorem not_slash_data : '/' ∉ sData := by decide
theorem not_slash_ts : '/' ∉ sTs := by decide

theorem kinds_no_slash : ∀ x ∈ kinds, '/' ∉ x := by
  simp [kinds, not_slash_ids, not_slash_data, not_slash_ts]

theorem kinds_suffix : ∀ x ∈ kinds, ∀ y ∈ kinds, x <:+ y → x = y := by decide

theorem suffix_key (pre : List Str) {x y : Str} (hx : x ∈ kinds) (hy : y ∈ kinds) :
    x <:+ joinSep '/' (pre ++ [y]) ↔ x = y := by
  constructor
  · intro h
    rcases List.suffix_or_suffix_of_suffix h (suffix_joinSep_snoc pre y) with h' | h'
    · exact kinds_suffix x hx y hy h'
    · exact (kinds_suffix y hy x hx h').symm
  · rintro rfl; exact suffix_joinSep_snoc pre x

theorem attrToDict_keys (pre : List Str) (a : Attr) :
    (attrToDict pre a).map Prod.fst ⊆ kinds.map fun x => joinSep '/' (pre ++ [x]) := by
  cases h : a.ts <;> simp [attrToDict, kinds, h]

theorem attrToDict_split (pre : List Str) (a : Attr) (hp : ∀ f ∈ pre, '/' ∉ f) (e : Str × Nat)
    (he : e ∈ attrToDict pre a) : ∃ x, splitOn '/' e.1 = pre ++ [x] := by
  obtain ⟨x, hx, hk⟩ := List.mem_map.mp (attrToDict_keys pre a (List.mem_map_of_mem he))
  refine ⟨x, ?_⟩
  rw [← hk, split_join '/' _ (by simp)]
  exact List.forall_mem_append.mpr ⟨hp, List.forall_mem_singleton.mpr (kinds_no_slash x hx)⟩

theorem firstComp_attrToDict (n : Str) (pre : List Str) (a : Attr) (hn : '/' ∉ n) (hp : ∀ f ∈ pre, '/' ∉ f)
    (e : Str × Nat) (he : e ∈ attrToDict (n :: pre) a) : firstComp e.1 = n := by
  obtain ⟨x, hx⟩ := attrToDict_split (n :: pre) a (List.forall_mem_cons.mpr ⟨hn, hp⟩) e he
  rw [firstComp, hx]; rfl

/-- `extractType` reads the type off keys of two or three components only: `type/kind` and `name/type/kind` -/
theorem extractType_attrToDict (pre : List Str) (t : Str) (a : Attr) (hpre : pre.length ≤ 1) (hp : ∀ f ∈ pre, '/' ∉ f)
    (ht : '/' ∉ t) (e : Str × Nat) (he : e ∈ attrToDict (pre ++ [t]) a) : extractType e.1 = some t := by
  obtain ⟨x, hx⟩ :=
    attrToDict_split (pre ++ [t]) a (List.forall_mem_append.mpr ⟨hp, List.forall_mem_singleton.mpr ht⟩) e he
  rw [extractType, hx]
  match pre, hpre with
  | [], _ => rfl
  | [_], _ => rfl

theorem filter_flatMap_name {α : Type} (c : List (Str × α)) (f : Str × α → Dict) (p : Str × Nat → Bool) (name : Str)
    (hp : ∀ x ∈ c, ∀ e ∈ f x, p e = (x.1 == name))
    (hnd : (c.map Prod.fst).Nodup) (a : α) (hmem : (name, a) ∈ c) :
    (c.flatMap f).filter p = f (name, a) := by
  obtain ⟨l₁, l₂, rfl⟩ := List.append_of_mem hmem
  -- the groups before and after the one of `name` have other names
  have hnil : ∀ l : List (Str × α), (∀ y ∈ l, y ∈ l₁ ++ (name, a) :: l₂ ∧ y.1 ≠ name) → (l.flatMap f).filter p = [] := by
    intro l hl
    apply List.filter_eq_nil_iff.mpr
    intro e he
    obtain ⟨y, hy, hey⟩ := List.mem_flatMap.mp he
    rw [hp y (hl y hy).1 e hey]
    simp [(hl y hy).2]
  have hself : (f (name, a)).filter p = f (name, a) :=
    List.filter_eq_self.mpr fun e he => by rw [hp _ hmem e he]; simp
  simp only [List.map_append, List.map_cons, List.nodup_append, List.nodup_cons] at hnd
  rw [List.flatMap_append, List.flatMap_cons, List.filter_append, List.filter_append, hself,
    hnil l₁ fun y hy => ⟨List.mem_append_left _ hy, fun h => hnd.2.2 _ (List.mem_map_of_mem hy) _ List.mem_cons_self h⟩,
    hnil l₂ fun y hy => ⟨List.mem_append_right _ (List.mem_cons_of_mem _ hy),
      fun h => hnd.2.1.1 (h ▸ List.mem_map_of_mem hy)⟩]
  simp

/-- the entries `_split_dict_data` finds for `name` in a dict of one group per name, each key beginning with its name -/
theorem entriesOfName_flatMap {α : Type} (c : List (Str × α)) (f : Str × α → Dict)
    (hlab : ∀ x ∈ c, ∀ e ∈ f x, firstComp e.1 = x.1) (hnd : (c.map Prod.fst).Nodup) (name : Str) (a : α)
    (hmem : (name, a) ∈ c) : entriesOfName (c.flatMap f) name = f (name, a) :=
  filter_flatMap_name c f _ name (fun x hx e he => by simp [hlab x hx e he]) hnd a hmem

end Femio.C05K
