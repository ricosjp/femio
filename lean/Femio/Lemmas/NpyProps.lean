import Femio.Model.Npy
import Mathlib.Tactic.IntervalCases

open Npy

/-- all cache files stem from one finished save of one object -/
def Coherent (d : Dir) : Prop := ∃ x : Obj, d = expected x

def DInv (d : Dir) : Prop := (d .sentinel).isSome → Coherent d

theorem Npy.Step.apply_write (d : Dir) (f : File) (t : Nat) (g : File) :
    Step.apply d (.write f t) g = if g = f then some t else d g := rfl

theorem Npy.Step.apply_remove (d : Dir) (f g : File) : Step.apply d (.remove f) g = if g = f then none else d g := rfl

/-- with `removeStale` an optional file ends up present or absent as the object says, whatever was there -/
theorem Npy.apply_optStep (u has : Bool) (f : File) (t : Nat) (d : Dir) (g : File) :
    (optStep ⟨u, true⟩ has f t).apply d g = if g = f then (if has then some t else none) else d g := by
  cases has <;> rfl

theorem full_save (d : Dir) (x : Obj) : crashSave Cfg.fixed d x 8 = expected x := by
  funext f
  cases f <;> simp [crashSave, saveSteps, Cfg.fixed, Step.apply_write, apply_optStep, expected]

/-- **C05_crash_safe (step)**: whatever the directory held, a `save` that dies after any number of
    effects leaves either no sentinel or a complete, coherent cache. -/
theorem crash_inv (d : Dir) (x : Obj) (k : Nat) (h : DInv d) : DInv (crashSave Cfg.fixed d x k) := by
  by_cases hk : 8 ≤ k
  · have : crashSave Cfg.fixed d x k = crashSave Cfg.fixed d x 8 := by
      simp [crashSave, saveSteps, List.take_of_length_le, hk]
    rw [this, full_save]; intro _; exact ⟨x, rfl⟩
  · have hk' : k < 8 := by omega
    interval_cases k
    · exact h
    -- after the first and before the last effect the sentinel is absent
    all_goals
      intro hs
      simp [crashSave, saveSteps, Cfg.fixed, Step.apply_write, Step.apply_remove, apply_optStep] at hs

theorem read_inv (d : Dir) (src : Obj) (h : DInv d) : DInv (read Cfg.fixed d src).2 := by
  unfold Npy.read
  split
  · exact h
  · simp only; rw [full_save]; intro _; exact ⟨src, rfl⟩

/-- a read returns the parse of the source or one complete saved object — never a mixture -/
theorem read_never_partial (d : Dir) (src : Obj) (h : DInv d) : Coherent (read Cfg.fixed d src).1 := by
  unfold Npy.read
  split
  · rename_i hs; exact h hs
  · exact ⟨src, rfl⟩

inductive DOp | read (src : Obj) | save (x : Obj) (k : Nat)
def dstep (d : Dir) : DOp → Dir
  | .read src => (read Cfg.fixed d src).2
  | .save x k => crashSave Cfg.fixed d x k

/-- **C05_crash_safe**: every history of reads, saves and interrupted saves, from the empty directory -/
theorem history_inv (ops : List DOp) : DInv (ops.foldl dstep (fun _ => none)) :=
  List.foldlRecOn ops _ (fun h => by simp at h) fun d h op _ => by
    cases op with
    | read src => exact read_inv d src h
    | save x k => exact crash_inv d x k h

/-- **C05_cache_transparent**: second read is served from the first read's cache and equals the parse -/
theorem second_read (src : Obj) :
    (read Cfg.fixed (read Cfg.fixed (fun _ => none) src).2 src).1 = expected src := by
  simp [Npy.read, full_save, expected]

/-! `Cfg.current`: a second save that dies after rewriting the nodes leaves a loadable mixture -/
def A : Obj := ⟨1, true, false, true⟩
def B : Obj := ⟨2, true, false, false⟩
def dirAfter : Dir := crashSave Cfg.current (crashSave Cfg.current (fun _ => none) A 8) B 2
theorem crash_counterexample_current :
    (dirAfter .sentinel).isSome = true ∧ dirAfter .nodes = some 2 ∧ dirAfter .elements = some 1 := by decide
/-- stale optional file survives a complete later save -/
theorem stale_counterexample_current :
    crashSave Cfg.current (crashSave Cfg.current (fun _ => none) A 8) B 8 .constraints = some 1 := by decide

#print axioms history_inv
#print axioms read_never_partial
