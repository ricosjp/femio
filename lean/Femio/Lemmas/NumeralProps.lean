import Femio.Model.Numeral
import Femio.Lemmas.ListLemmas

open Numeral

theorem charDigit_digitChar (d : Nat) (h : d < 10) : charDigit (digitChar d) = some d := by
  revert d; decide +kernel

theorem aux_eval (f n : Nat) (acc : List Nat) (hf : n < f) :
    evalDigits 0 (natDigitsAux f n acc) = evalDigits n acc := by
  induction f, n, acc using natDigitsAux.induct with
  | case1 n acc => omega
  | case2 f n acc h =>
    rw [natDigitsAux, if_pos h]
    show evalDigits (0 * 10 + n) acc = _
    rw [Nat.zero_mul, Nat.zero_add]
  | case3 f n acc h ih =>
    rw [natDigitsAux, if_neg h, ih (by omega), evalDigits, List.foldl_cons, Nat.div_add_mod']; rfl

theorem aux_lt (f n : Nat) (acc : List Nat) (hacc : ∀ d ∈ acc, d < 10) :
    ∀ d ∈ natDigitsAux f n acc, d < 10 := by
  induction f, n, acc using natDigitsAux.induct with
  | case1 n acc => exact hacc
  | case2 f n acc h => rw [natDigitsAux, if_pos h]; exact List.forall_mem_cons.mpr ⟨h, hacc⟩
  | case3 f n acc h ih =>
    rw [natDigitsAux, if_neg h]
    exact ih (List.forall_mem_cons.mpr ⟨Nat.mod_lt _ (by decide), hacc⟩)

theorem aux_ne_nil (f n : Nat) (acc : List Nat) (hf : 1 ≤ f) : natDigitsAux f n acc ≠ [] := by
  induction f, n, acc using natDigitsAux.induct with
  | case1 n acc => omega
  | case2 f n acc h => rw [natDigitsAux, if_pos h]; exact List.cons_ne_nil _ _
  | case3 f n acc h ih =>
    rw [natDigitsAux, if_neg h]
    cases f with
    | zero => exact List.cons_ne_nil _ _
    | succ f => exact ih (Nat.succ_pos _)

theorem natDigits_lt (n : Nat) : ∀ d ∈ natDigits n, d < 10 := aux_lt (n + 1) n [] (by simp)

theorem showNat_ne_nil (n : Nat) : showNat n ≠ [] := by
  unfold showNat natDigits
  intro h
  exact aux_ne_nil (n + 1) n [] (by omega) (List.map_eq_nil_iff.mp h)

/-- **numeral round trip**: every natural number printed in decimal parses back to itself -/
theorem parseNat_showNat (n : Nat) : parseNat (showNat n) = some n := by
  unfold parseNat showNat natDigits
  have hne : natDigitsAux (n + 1) n [] ≠ [] := aux_ne_nil (n + 1) n [] (by omega)
  have hemp : ((natDigitsAux (n + 1) n []).map digitChar).isEmpty = false := by
    cases h : natDigitsAux (n + 1) n [] with
    | nil => exact absurd h hne
    | cons a t => rfl
  rw [hemp]
  simp only [Bool.false_eq_true, if_false]
  rw [mapM_map_eq_some_self digitChar charDigit _ fun d hd => charDigit_digitChar d (aux_lt (n + 1) n [] (by simp) d hd)]
  simp only [Option.map_some, aux_eval (n + 1) n [] (by omega)]
  rfl

#print axioms parseNat_showNat
example : showNat 1203 = ['1', '2', '0', '3'] := by decide
