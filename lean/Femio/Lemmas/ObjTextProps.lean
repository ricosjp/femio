import Femio.Model.Obj
import Femio.Lemmas.TextLexProps
import Femio.Lemmas.NumeralProps
import Femio.Lemmas.ListLemmas

/-! C10 — the OBJ model: character level, `tokenize (render ls) = the non-empty lines of ls`; line level, what the
    reader's `filterMap`s and `mapM`s return on the lines the writer produced. -/
namespace Femio.C10.Obj
open Femio.Text Numeral

/-- all tokens of all lines are non-empty and free of whitespace -/
def LinesOK (ls : List Line) : Prop := ∀ l ∈ ls, ∀ t ∈ l, TokOK t

theorem joinTokens_props (l : Line) (h : ∀ t ∈ l, TokOK t) :
    '\n' ∉ joinTokens l ∧ (joinTokens l = [] ↔ l = []) ∧ splitBlank (joinTokens l) = l := by
  refine ⟨?_, ?_, splitBlank_joinBlank' l h⟩
  · exact not_mem_joinBlank '\n' (by decide) l fun t ht => not_newline_of_noWs (h t ht).2
  · constructor
    · intro he
      by_cases hne : l = []
      · exact hne
      · exact absurd he (joinBlank_ne_nil l hne fun t ht => (h t ht).1)
    · rintro rfl; rfl

/-- **lexer ∘ printer on a whole file**: the lines come back, in order, without the empty ones -/
theorem tokenize_render (ls : List Line) (h : LinesOK ls) :
    tokenize (render ls) = ls.filter fun l => !l.isEmpty := by
  unfold tokenize render
  rw [fileLines_unlines _ (by
    intro s hs
    obtain ⟨l, hl, rfl⟩ := List.mem_map.mp hs
    exact (joinTokens_props l (h l hl)).1)]
  induction ls with
  | nil => rfl
  | cons l t ih =>
    have hl := joinTokens_props l (h l (by simp))
    have iht := ih (fun x hx => h x (by simp [hx]))
    by_cases he : l = []
    · subst he
      simpa [joinTokens, joinBlank] using iht
    · have hj : joinTokens l ≠ [] := fun e => he (hl.2.1.mp e)
      have h1 : (!(joinTokens l).isEmpty) = true := by simpa [List.isEmpty_iff] using hj
      have h2 : (!l.isEmpty) = true := by simpa [List.isEmpty_iff] using he
      simp only [List.map_cons, List.filter_cons, h1, h2, if_true, hl.2.2]
      exact congrArg (l :: ·) iht

theorem filterMap_filter_nonempty {β : Type} (g : Line → Option β) (hg : g [] = none) (ls : List Line) :
    (ls.filter fun l => !l.isEmpty).filterMap g = ls.filterMap g := by
  induction ls with
  | nil => rfl
  | cons l t ih =>
    cases l with
    | nil => simp [hg, ih]
    | cons a r => simp [List.filterMap_cons, ih]

theorem readObj_filter (ls : List Line) : readObj (ls.filter fun l => !l.isEmpty) = readObj ls := by
  unfold readObj
  rw [filterMap_filter_nonempty isF rfl, filterMap_filter_nonempty isV rfl]

theorem writeObj_linesOK (verts : List (List Token)) (blocks : List (List (List Nat))) (h : vertsOKB verts = true) :
    LinesOK (writeObj verts blocks) := by
  intro l hl t ht
  simp only [writeObj, List.mem_append, List.mem_map, List.mem_flatMap] at hl
  rcases hl with ⟨c, hc, rfl⟩ | ⟨b, _, hl⟩
  · simp only [vLine, List.mem_cons] at ht
    rcases ht with rfl | ht
    · exact (tokOKB_iff _).mp (by decide)
    · simp only [vertsOKB, List.all_eq_true] at h
      exact (tokOKB_iff _).mp (h c hc t ht)
  · unfold fBlock at hl
    split at hl
    · simp only [List.mem_singleton] at hl; subst hl; simp at ht
    · obtain ⟨f, _, rfl⟩ := List.mem_map.mp hl
      simp only [fLine, List.mem_cons, List.mem_map] at ht
      rcases ht with rfl | ⟨i, _, rfl⟩
      · exact (tokOKB_iff _).mp (by decide)
      · exact showNat_tokOK _

/-! `isV`, `isF` after `vLine`, `fLine` are `some` or constantly `none`: a `filterMap` over written lines is a `map` or empty -/

theorem filterMap_isF_v (verts : List (List Token)) : (verts.map vLine).filterMap isF = [] := by
  rw [List.filterMap_map]
  exact List.filterMap_eq_nil_iff.mpr fun _ _ => rfl

theorem filterMap_isV_v (verts : List (List Token)) : (verts.map vLine).filterMap isV = verts := by
  rw [List.filterMap_map]
  exact (congrFun List.filterMap_eq_map verts).trans (List.map_id verts)

theorem filterMap_fBlock (fs : List (List Nat)) :
    (fBlock fs).filterMap isV = [] ∧
    (fBlock fs).filterMap isF = fs.map fun f => f.map fun i => showNat (i + 1) := by
  cases fs with
  | nil => exact ⟨rfl, rfl⟩
  | cons f t =>
    rw [fBlock, if_neg (by simp), List.filterMap_map, List.filterMap_map]
    exact ⟨List.filterMap_eq_nil_iff.mpr fun _ _ => rfl, congrFun List.filterMap_eq_map _⟩

theorem filterMap_blocks (blocks : List (List (List Nat))) :
    (blocks.flatMap fBlock).filterMap isV = [] ∧
    (blocks.flatMap fBlock).filterMap isF = blocks.flatten.map fun f => f.map fun i => showNat (i + 1) := by
  induction blocks with
  | nil => exact ⟨rfl, rfl⟩
  | cons b t ih =>
    simp [List.flatMap_cons, List.filterMap_append, (filterMap_fBlock b).1, (filterMap_fBlock b).2, ih.1, ih.2]

theorem mapM_faces (l : List (List Nat)) :
    (l.map fun f => f.map fun i => showNat (i + 1)).mapM (fun c => c.mapM parseNat) = some (l.map (·.map (· + 1))) :=
  mapM_map_eq_some_map _ _ _ l fun f _ => mapM_map_eq_some_map _ parseNat _ f fun i _ => parseNat_showNat (i + 1)

end Femio.C10.Obj
