import Femio.Model.Retype
import Femio.Lemmas.ScanPos
import Femio.Lemmas.InsertionSort
import Mathlib.Data.List.Nodup

/-! `to_polyhedron` (C18): `argsort[np.searchsorted(sorted_ids, id)]` is the storage position of `id`
    when the node ids are distinct. -/
namespace Femio.C18

theorem sortedPairs_eq_insertionSort (ids : List Nat) :
    sortedPairs ids = List.insertionSort (fun p q => p.1 ≤ q.1) (ids.zip (List.range ids.length)) :=
  foldr_eq_insertionSort _ insertPair (fun _ => rfl) (fun _ _ _ => rfl) _

theorem sortedPairs_perm (ids : List Nat) : (sortedPairs ids).Perm (ids.zip (List.range ids.length)) := by
  rw [sortedPairs_eq_insertionSort]
  exact List.perm_insertionSort _ _

theorem sortedPairs_fst_perm (ids : List Nat) : ((sortedPairs ids).map Prod.fst).Perm ids := by
  have h := (sortedPairs_perm ids).map Prod.fst
  rwa [List.map_fst_zip (by simp)] at h

/-- the sorted ids are strictly ascending when the ids are distinct -/
theorem sortedPairs_fst_lt (ids : List Nat) (hn : ids.Nodup) :
    ((sortedPairs ids).map Prod.fst).Pairwise (· < ·) := by
  have hle : ((sortedPairs ids).map Prod.fst).Pairwise (· ≤ ·) := by
    rw [List.pairwise_map, sortedPairs_eq_insertionSort]
    exact pairwise_insertionSort_of_test (R := fun p q : Nat × Nat => p.1 ≤ q.1) (fun _ _ _ => Nat.le_trans)
      (fun _ _ h => h) (fun _ _ h => Nat.le_of_not_le h) _
  have hne : ((sortedPairs ids).map Prod.fst).Pairwise (· ≠ ·) :=
    (sortedPairs_fst_perm ids).nodup_iff.mpr hn
  exact (hle.and hne).imp fun h => Nat.lt_of_le_of_ne h.1 h.2

theorem mem_sortedPairs (ids : List Nat) (k : Nat) (hk : k < ids.length) : (ids[k], k) ∈ sortedPairs ids := by
  rw [(sortedPairs_perm ids).mem_iff, List.mem_iff_getElem]
  exact ⟨k, by simpa using hk, by simp⟩

theorem posOf_correct (ids : List Nat) (hn : ids.Nodup) (k : Nat) (hk : k < ids.length) :
    posOf ids ids[k] = some k := by
  have h := getElem_searchsorted (sortedPairs ids) (sortedPairs_fst_lt ids hn) ids[k] k (mem_sortedPairs ids k hk)
  exact congrArg (Option.map Prod.snd) h

theorem getElem?_of_posOf (ids : List Nat) (hn : ids.Nodup) (x p : Nat) (h : posOf ids x = some p) (hx : x ∈ ids) :
    ids[p]? = some x := by
  obtain ⟨k, hk, rfl⟩ := List.mem_iff_getElem.mp hx
  rw [posOf_correct ids hn k hk] at h
  cases h
  exact List.getElem?_eq_getElem hk

end Femio.C18
