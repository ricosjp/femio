import Femio.Model.QueryCache

/-! Invariants of the lru caches of `Model/QueryCache.lean`: a property `Q object stamp` that holds of every cached entry
(`CacheInv`), the instances of it that the C19 theorems speak of, and the records of what one access keeps of them. -/
namespace Femio.C19

/-- every cached value was computed from the current version of its object -/
def Fresh (w : World) : Prop := ∀ m k s, (k, s) ∈ w.lruOf m → s = w.ver k.obj

theorem assoc_assocSet {β} (d : β) (k k' : Nat) (v : β) (l : List (Nat × β)) :
    assoc d k' (assocSet k v l) = if k' = k then v else assoc d k' l := by
  induction l with
  | nil => by_cases h : k = k' <;> simp [assocSet, assoc, h, eq_comm]
  | cons e t ih =>
    obtain ⟨a, b⟩ := e
    by_cases h : a = k
    · subst h
      by_cases h' : k' = a
      · simp [assocSet, assoc, h']
      · simp [assocSet, assoc, h', Ne.symm h']
    · by_cases h' : a = k'
      · subst h'; simp [assocSet, assoc, h]
      · simp [assocSet, assoc, h, h', ih]

/-- what one access guarantees, relative to the world `w` it started from -/
structure Good (w : World) (k : Key) (r : World × Nat) : Prop where
  version : r.1.version = w.version
  cap : r.1.cap = w.cap
  fresh : Fresh r.1
  stamp : r.2 = w.ver k.obj

/-- `Fresh`, `NoFuture` (`Props/C19.lean`) and `FreshObj o₀` are this with `Q o s` the statements `s = ver o`, `s ≤ ver o` and
`o = o₀ → s = ver o₀`. -/
def CacheInv (Q : Nat → Nat → Prop) (w : World) : Prop := ∀ m k s, (k, s) ∈ w.lruOf m → Q k.obj s

theorem CacheInv.setLru {Q : Nat → Nat → Prop} {w w' : World} (hw : CacheInv Q w) (m₀ : Nat) (l' : List (Key × Nat))
    (hl : ∀ e ∈ l', Q e.1.obj e.2) (hlru : w'.lru = assocSet m₀ l' w.lru) : CacheInv Q w' := by
  intro m k s hmem
  rw [World.lruOf, hlru, assoc_assocSet] at hmem
  split at hmem
  · exact hl _ hmem
  · exact hw m k s hmem

structure Kept (Q : Nat → Nat → Prop) (w : World) (o : Nat) (r : World × Nat) : Prop where
  version : r.1.version = w.version
  cap : r.1.cap = w.cap
  inv : CacheInv Q r.1
  stamp : Q o r.2

/-- every cached value OF OBJECT `o` was computed from the current version of `o` (entries of other objects may be stale) -/
def FreshObj (w : World) (o : Nat) : Prop := ∀ m k s, (k, s) ∈ w.lruOf m → k.obj = o → s = w.ver o

/-- what one access guarantees about object `o`, relative to the world `w` it started from -/
structure GoodObj (w : World) (k : Key) (o : Nat) (r : World × Nat) : Prop where
  version : r.1.version = w.version
  fresh : FreshObj r.1 o
  stamp : k.obj = o → r.2 = w.ver o

end Femio.C19
