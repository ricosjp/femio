import Femio.Model.ResFile

/-! C02 — the literal-infix test (`Model/ResFile.lean`) that finds the layout marker; the model of `glob('*.res.*')`
    (`Model/ResDir.lean`) uses it as well. -/
namespace Femio.C02

theorem isPrefix_append (p s : List Char) : isPrefix p (p ++ s) = true := by
  induction p with
  | nil => cases s <;> rfl
  | cons a p ih => simp [isPrefix, ih]

theorem hasInfix_append (pat a b : List Char) : hasInfix pat (a ++ pat ++ b) = true := by
  induction a with
  | nil =>
    cases h : pat ++ b with
    | nil =>
      obtain ⟨hp, _⟩ := List.append_eq_nil_iff.mp h
      subst hp
      simp only [List.nil_append, h]
      rfl
    | cons c s =>
      simp only [List.nil_append, h, hasInfix]
      rw [← h, isPrefix_append]; rfl
  | cons c a ih =>
    simp only [List.cons_append, hasInfix]
    rw [List.append_assoc] at ih
    simp [ih]

end Femio.C02
