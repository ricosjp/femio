import Femio.Model.ResFile
import Femio.Lemmas.ResSplit
import Femio.Lemmas.InsertionSort

/-! C02 beyond one section: layout detection and the whole-file round trip, the sorts by step number and by id,
    `generate_elemental_attribute` + `_update_self` (`rebindRows`), column slicing. -/
namespace Femio.C02
open Res

variable {V : Type} {α : Type}

/-- no line of a rendered section contains the layout marker when no variable name does -/
theorem sec_noMarker (wc wv : Nat) (s : Sec V) (hwc : 1 ≤ wc) (hwv : 1 ≤ wv)
    (hn : ∀ x ∈ s.vars, hasInfix marker x.name = false) :
    (renderSec wc wv s).any lineHasMarker = false := by
  rw [List.any_eq_false]
  intro l hl
  rw [lineHasMarker, Bool.not_eq_true, List.any_eq_false]
  intro t ht
  rw [Bool.not_eq_true]
  exact (forall_tok_renderSec (P := fun t => tokHasMarker t = false) hwc hwv (fun _ => rfl) hn
    (fun _ _ _ _ => rfl) l hl).2 t ht

/-- what the reader needs from the header: its length and whether it carries the marker -/
def HeaderOK (L : Layout) (hdr : List (Line V)) : Prop :=
  match L with
  | .old => hdr.length = skipOld ∧ hdr.any lineHasMarker = false
  | .v2 => hdr.length = skipV2 ∧ hdr.any lineHasMarker = true

theorem headerOld_ok (a b c d : Nat) : HeaderOK .old (headerOld a b c d : List (Line V)) :=
  ⟨rfl, List.any_eq_false.mpr (by
    simp only [headerOld, List.forall_mem_cons]
    exact ⟨Bool.false_ne_true, Bool.false_ne_true, Bool.false_ne_true, nofun⟩)⟩

theorem headerV2_ok (comment : List Char) (time : Line V) (a b c d : Nat) :
    HeaderOK .v2 (headerV2 comment time a b c d) :=
  ⟨rfl, List.any_eq_true.mpr ⟨[.w marker], List.mem_of_getElem? (i := 6) rfl, rfl⟩⟩

theorem parse_render_file (L : Layout) (hdr : List (Line V)) (hH : HeaderOK L hdr) (eNot : V → Bool)
    (wcN wvN wcE wvE : Nat) (f : ResFile V)
    (hN : WFSec' wcN wvN f.nodal) (he : ∀ r ∈ f.nodal.rows, ∀ x ∈ r.2, eNot x = true)
    (hE : ∀ e, f.elemental = some e → WFSec' wcE wvE e)
    (hnm : L = .old → (∀ x ∈ f.nodal.vars, hasInfix marker x.name = false) ∧
      ∀ e, f.elemental = some e → ∀ x ∈ e.vars, hasInfix marker x.name = false)
    (nE : Nat) (hnE : ∀ e, f.elemental = some e → nE = e.rows.length) :
    readRes eNot (hdr ++ renderBody wcN wvN wcE wvE f) f.nodal.rows.length nE = some f := by
  have hstart : contentStart (hdr ++ renderBody wcN wvN wcE wvE f) = hdr.length := by
    rw [contentStart, List.any_append]
    cases L with
    | old =>
      have hb : (renderBody wcN wvN wcE wvE f).any lineHasMarker = false := by
        rw [renderBody, List.any_append, sec_noMarker _ _ _ hN.wc hN.wv (hnm rfl).1]
        cases hfe : f.elemental with
        | none => rfl
        | some e => exact sec_noMarker _ _ _ (hE e hfe).wc (hE e hfe).wv ((hnm rfl).2 e hfe)
      rw [hH.2, hb, hH.1]; rfl
    | v2 => rw [hH.2, hH.1]; rfl
  rw [readRes, hstart, List.drop_left]
  obtain ⟨sn, se⟩ := f
  cases se with
  | none =>
    rw [renderBody, List.append_nil, split_one eNot wcN wvN sn hN.toWFSec]
    simp only [Option.bind_eq_bind, Option.bind_some, parse_render wcN wvN sn hN.toWFSec, Option.pure_def]
  | some e =>
    have h2 := parse_render wcE wvE e (hE e rfl).toWFSec
    rw [← hnE e rfl] at h2
    rw [renderBody, split_two eNot wcN wvN wcE wvE sn e hN (hE e rfl) he]
    simp only [Option.bind_eq_bind, Option.bind_some, parse_render wcN wvN sn hN.toWFSec, h2, Option.pure_def]

theorem sortByKey_eq (l : List (Nat × α)) : sortByKey l = l.insertionSort fun a b => a.1 < b.1 :=
  foldr_eq_insertionSort _ insertKey (fun _ => rfl) (fun _ _ _ => rfl) l

theorem sortByKey_perm (l : List (Nat × α)) : (sortByKey l).Perm l :=
  sortByKey_eq l ▸ List.perm_insertionSort _ l

/-- the sort tests `<` on the keys and leaves them ascending -/
theorem sortByKey_sorted (l : List (Nat × α)) : (sortByKey l).Pairwise fun a b => a.1 ≤ b.1 :=
  sortByKey_eq l ▸ pairwise_insertionSort_of_test (R := fun a b => a.1 ≤ b.1) (fun _ _ _ => Nat.le_trans)
    (fun _ _ h => Nat.le_of_lt h) (fun _ _ h => Nat.le_of_not_lt h) l

theorem le_getLast_of_sorted {l : List (Nat × α)} {x : Nat × α} (h : l.Pairwise fun a b => a.1 ≤ b.1)
    (hx : l.getLast? = some x) : ∀ y ∈ l, y.1 ≤ x.1 := by
  obtain ⟨ys, rfl⟩ := List.getLast?_eq_some_iff.mp hx
  intro y hy
  rcases List.mem_append.mp hy with hy | hy
  · exact (List.pairwise_append.mp h).2.2 y hy x (by simp)
  · simp only [List.mem_singleton] at hy; subst hy; exact Nat.le_refl _

theorem mem_sortDedup {j : Nat} {l : List Nat} : j ∈ sortDedup l ↔ j ∈ l :=
  mem_foldr_insertDedup (ins := insertId) (fun _ => rfl) fun _ _ _ => rfl

theorem sortDedup_sorted (l : List Nat) : (sortDedup l).Pairwise (· < ·) :=
  pairwise_foldr_insertDedup (ins := insertId) (fun _ => rfl) (fun _ _ _ => rfl) l

theorem mem_intersect1d {j : Nat} {a b : List Nat} : j ∈ intersect1d a b ↔ j ∈ a ∧ j ∈ b := by
  simp [intersect1d, mem_sortDedup, List.mem_filter]

theorem lookup_isSome_of_mem {l : List (Nat × α)} {i : Nat} {d : α} (h : (i, d) ∈ l) : ∃ d', l.lookup i = some d' :=
  Option.isSome_iff_exists.mp (List.lookup_isSome_iff.mpr ⟨_, h, beq_self_eq_true i⟩)

theorem lookupRow_isSome {ids : List Nat} {data : List α} {i : Nat} (hi : i ∈ ids) (hl : ids.length ≤ data.length) :
    ∃ d, lookupRow ids data i = some d := by
  rw [← List.map_fst_zip hl] at hi
  obtain ⟨p, hp, rfl⟩ := List.mem_map.mp hi
  exact lookup_isSome_of_mem (d := p.2) hp

/-- the blocks of `generate_elemental_attribute`: one per type that shares an id with the file -/
theorem mem_genElemAttr_iff {typeIds : List (Nat × List Nat)} {ids : List Nat} {data : List α}
    {blk : Nat × List (Nat × α)} :
    blk ∈ genElemAttr typeIds ids data ↔ ∃ b ∈ typeIds, intersect1d b.2 ids ≠ [] ∧
      blk = (b.1, (intersect1d b.2 ids).filterMap fun i => (lookupRow ids data i).map fun d => (i, d)) := by
  unfold genElemAttr
  rw [List.mem_filterMap]
  refine exists_congr fun b => and_congr_right fun _ => ?_
  by_cases h : intersect1d b.2 ids = []
  · simp [h]
  · simp only [List.isEmpty_iff, h, if_false, Option.some.injEq, ne_eq, not_false_eq_true, true_and]
    exact eq_comm

theorem mem_flattenBlocks {bs : List (Nat × List (Nat × α))} {p : Nat × α} :
    p ∈ flattenBlocks bs ↔ ∃ blk ∈ bs, p ∈ blk.2 := by
  unfold flattenBlocks
  split
  · simp only [List.mem_singleton, exists_eq_left]
  · rw [sortRows, (sortByKey_perm _).mem_iff, List.mem_flatMap]

theorem mem_rebindRows {typeIds : List (Nat × List Nat)} {ids : List Nat} {data : List α} {j : Nat} {d : α} :
    (j, d) ∈ rebindRows typeIds ids data ↔
      (∃ b ∈ typeIds, j ∈ b.2) ∧ j ∈ ids ∧ lookupRow ids data j = some d := by
  unfold rebindRows
  rw [mem_flattenBlocks]
  constructor
  · rintro ⟨blk, hblk, hjd⟩
    obtain ⟨b, hb, -, rfl⟩ := mem_genElemAttr_iff.mp hblk
    obtain ⟨i, hi, hm⟩ := List.mem_filterMap.mp hjd
    obtain ⟨d', hl, hm⟩ := Option.map_eq_some_iff.mp hm
    cases hm
    obtain ⟨h1, h2⟩ := mem_intersect1d.mp hi
    exact ⟨⟨b, hb, h1⟩, h2, hl⟩
  · rintro ⟨⟨b, hb, hjb⟩, hji, hl⟩
    have hin : j ∈ intersect1d b.2 ids := mem_intersect1d.mpr ⟨hjb, hji⟩
    exact ⟨_, mem_genElemAttr_iff.mpr ⟨b, hb, List.ne_nil_of_mem hin, rfl⟩,
      List.mem_filterMap.mpr ⟨j, hin, by rw [hl]; rfl⟩⟩

/-- keys of a `filterMap` that keeps the key are a sublist of the keys -/
theorem keys_filterMap_sublist (g : Nat → Option α) (l : List Nat) :
    ((l.filterMap fun i => (g i).map fun d => (i, d)).map Prod.fst).Sublist l := by
  induction l with
  | nil => simp
  | cons a t ih =>
    simp only [List.filterMap_cons]
    cases g a with
    | none => simpa using ih.cons a
    | some d => simpa using ih.cons_cons a

theorem rebindRows_sorted (typeIds : List (Nat × List Nat)) (ids : List Nat) (data : List α) :
    ((rebindRows typeIds ids data).map Prod.fst).Pairwise (· ≤ ·) := by
  unfold rebindRows flattenBlocks
  split
  · rename_i b hb
    -- the single block is an id-ascending `intersect1d`
    obtain ⟨b0, -, -, rfl⟩ := mem_genElemAttr_iff.mp (hb ▸ List.mem_singleton_self b)
    exact ((sortDedup_sorted _).sublist (keys_filterMap_sublist _ _)).imp Nat.le_of_lt
  · rw [List.pairwise_map]
    exact sortByKey_sorted _
/-- the `j`-th table holds the columns from the sum of the preceding widths on -/
theorem attrsFrom_getElem? (rows : List (Nat × List V)) {vars : List Var} {j : Nat} {x : Var}
    (hx : vars[j]? = some x) (off : Nat) :
    (attrsFrom rows off vars)[j]? =
      some ⟨x.name, rows.map (·.1), rows.map fun r => (r.2.drop (off + sumW (vars.take j))).take x.width⟩ := by
  induction vars generalizing off j with
  | nil => cases hx
  | cons v vs ih =>
    cases j with
    | zero => cases hx; rfl
    | succ j =>
      rw [attrsFrom, List.getElem?_cons_succ, ih (by simpa using hx) (off + v.width)]
      simp only [sumW, List.take_succ_cons, List.map_cons, List.sum_cons, Nat.add_assoc]

/-- the `j`-th of the parts a list was flattened from, cut out again by the lengths of the parts -/
theorem flatten_slice (parts : List (List V)) (j : Nat) :
    (parts.flatten.drop ((parts.take j).map List.length).sum).take (parts[j]?.getD []).length
      = parts[j]?.getD [] := by
  have h : parts.flatten = (parts.take j).flatten ++ (parts.drop j).flatten := by
    rw [← List.flatten_append, List.take_append_drop]
  rw [h, ← List.length_flatten, List.drop_left, ← List.head?_drop]
  cases parts.drop j with
  | nil => rfl
  | cons p rest => exact List.take_left

end Femio.C02
