import Femio.Model.Res
import Mathlib.Tactic.Ring
import Femio.Lemmas.ListLemmas

/-! C02 — one section of a result file at token level: wrapping (`chunks`), the block of the `k`-th entity inside a
    `flatMap`, and `parseSec (renderSec s) = s` for any layout of count lines, name lines and entity blocks. -/
open Res
variable {V : Type} {α : Type}

theorem chunksAux_flatten (k : Nat) (hk : 1 ≤ k) (fuel : Nat) (l : List α) (h : l.length ≤ fuel) :
    (chunksAux k fuel l).flatten = l := by
  induction fuel, l using chunksAux.induct k with
  | case1 l => exact (List.length_eq_zero_iff.mp (Nat.le_zero.mp h)).symm
  | case2 fuel => rfl
  | case3 fuel a t ih =>
    rw [chunksAux, List.flatten_cons, ih (by simp only [List.length_drop, List.length_cons] at h ⊢; omega)]
    exact List.take_append_drop k (a :: t)

theorem chunks_flatten (k : Nat) (hk : 1 ≤ k) (l : List α) : (chunks k l).flatten = l :=
  chunksAux_flatten k hk _ l le_rfl

theorem chunksAux_ne_nil (k : Nat) (hk : 1 ≤ k) (fuel : Nat) (l : List α) : ∀ c ∈ chunksAux k fuel l, c ≠ [] := by
  induction fuel, l using chunksAux.induct k with
  | case1 l => nofun
  | case2 fuel => nofun
  | case3 fuel a t ih =>
    intro c hc
    rcases List.mem_cons.mp hc with rfl | hc
    · obtain ⟨k, rfl⟩ := Nat.exists_eq_add_of_le' hk
      exact List.cons_ne_nil _ _
    · exact ih c hc

theorem chunks_mem (k : Nat) (hk : 1 ≤ k) (l : List α) : ∀ c ∈ chunks k l, c ≠ [] ∧ ∀ x ∈ c, x ∈ l :=
  fun c hc => ⟨chunksAux_ne_nil k hk _ l c hc, fun x hx => by
    rw [← chunks_flatten k hk l]; exact List.mem_flatten.mpr ⟨c, hc, hx⟩⟩

theorem mem_chunks_map {β : Type} {k : Nat} (hk : 1 ≤ k) {f : α → β} {l : List α} {c : List β}
    (hc : c ∈ chunks k (l.map f)) : c ≠ [] ∧ ∀ t ∈ c, ∃ x ∈ l, f x = t :=
  ⟨(chunks_mem k hk _ c hc).1, fun t ht => List.mem_map.mp ((chunks_mem k hk _ c hc).2 t ht)⟩

/-- the number of lines depends only on the number of items -/
theorem chunksAux_length_congr {β : Type} (k fuel : Nat) (l : List α) (l' : List β) (h : l.length = l'.length) :
    (chunksAux k fuel l).length = (chunksAux k fuel l').length := by
  induction fuel, l using chunksAux.induct k generalizing l' with
  | case1 l => rfl
  | case2 fuel => rw [List.length_eq_zero_iff.mp h.symm]; rfl
  | case3 fuel a t ih =>
    obtain ⟨a', t', rfl⟩ := List.exists_cons_of_length_pos (l := l') (by rw [← h]; exact Nat.succ_pos _)
    rw [chunksAux, chunksAux, List.length_cons, List.length_cons,
      ih ((a' :: t').drop k) (by simp only [List.length_drop, h])]

theorem chunks_length_congr {β : Type} (k : Nat) (l : List α) (l' : List β) (h : l.length = l'.length) :
    (chunks k l).length = (chunks k l').length := by
  unfold chunks; rw [h]; exact chunksAux_length_congr k _ l l' h

theorem flatMap_const_length {β : Type} (rows : List α) (f : α → List β) (L : Nat)
    (hL : ∀ r ∈ rows, (f r).length = L) : (rows.flatMap f).length = L * rows.length := by
  induction rows with
  | nil => simp
  | cons r t ih =>
    simp only [List.flatMap_cons, List.length_append, List.length_cons]
    rw [hL r (by simp), ih (fun x hx => hL x (List.mem_cons_of_mem _ hx))]; ring

theorem flatMap_block {β : Type} (rows : List α) (f : α → List β) (L : Nat)
    (hL : ∀ r ∈ rows, (f r).length = L) (k : Nat) (hk : k < rows.length) :
    ((rows.flatMap f).drop (k * L)).take L = f rows[k] := by
  induction rows generalizing k with
  | nil => simp at hk
  | cons r t ih =>
    have hr : (f r).length = L := hL r (List.mem_cons_self ..)
    rw [List.flatMap_cons]
    cases k with
    | zero => rw [Nat.zero_mul, List.drop_zero, ← hr, List.take_left]; rfl
    | succ j =>
      rw [Nat.add_mul, Nat.one_mul, Nat.add_comm, ← List.drop_drop, ← hr, List.drop_left, hr]
      exact ih (fun x hx => hL x (List.mem_cons_of_mem _ hx)) j (Nat.lt_of_succ_lt_succ hk)

/-- the `k`-th block when every block is a head line followed by `n` lines -/
theorem flatMap_block_cons {β : Type} (rows : List α) (hd : α → β) (tl : α → List β) (n : Nat)
    (hn : ∀ r ∈ rows, (tl r).length = n) (k : Nat) (hk : k < rows.length) :
    (rows.flatMap fun r => hd r :: tl r)[k * (n + 1)]? = some (hd rows[k]) ∧
      ((rows.flatMap fun r => hd r :: tl r).drop (k * (n + 1) + 1)).take n = tl rows[k] := by
  have hb := flatMap_block rows (fun r => hd r :: tl r) (n + 1) (fun r hr => congrArg (· + 1) (hn r hr)) k hk
  have hlt : k * (n + 1) < (rows.flatMap fun r => hd r :: tl r).length := by
    by_contra h
    rw [List.drop_eq_nil_of_le (Nat.le_of_not_lt h)] at hb
    cases hb
  rw [List.drop_eq_getElem_cons hlt, List.take_succ_cons, List.cons.injEq] at hb
  exact ⟨by rw [List.getElem?_eq_getElem hlt, hb.1], hb.2⟩

#print axioms flatMap_block
#print axioms chunks_flatten

theorem takeWhile_append_stop (p : α → Bool) (A B : List α) (hA : ∀ a ∈ A, p a = true)
    (hB : ∀ b, B.head? = some b → p b = false) : (A ++ B).takeWhile p = A := by
  rw [List.takeWhile_append_of_pos hA]
  cases B with
  | nil => simp
  | cons b t => rw [List.takeWhile_cons_of_neg (by simp [hB b rfl]), List.append_nil]

theorem mapM_range {β : Type} (g : Nat → Option β) (rows : List β)
    (h : ∀ k (hk : k < rows.length), g k = some rows[k]) : (List.range rows.length).mapM g = some rows :=
  mapM_eq_some_iff.mpr (List.forall₂_iff_get.mpr ⟨List.length_range, fun i h₁ h₂ => by simpa using h i h₂⟩)

@[simp] theorem mapM_asNat_n (xs : List Nat) : List.mapM ((asNat : Tok V → Option Nat) ∘ Tok.n) xs = some xs := by
  simpa using mapM_eq_some_map (f := (asNat : Tok V → Option Nat) ∘ Tok.n) (g := id) (l := xs) (fun _ _ => rfl)

/-! ### one section: `_parse_res ∘ render = id` -/

/-- `_parse_res` reads back any layout of this kind: count lines `C`, none of them a name line, that hold the
    component counts; one name line per variable; then for every entity its id line followed by `body r`, the same
    number of lines for every entity, holding its values. How the counts and values are wrapped plays no part. -/
theorem parseSec_layout (C : List (Line V)) (vars : List Var) (rows : List (Nat × List V))
    (body : Nat × List V → List (Line V)) (hC : ∀ c ∈ C, isName c = false)
    (hCf : C.flatten = vars.map fun x : Var => Tok.n x.width) (hv : vars ≠ []) (hr : rows ≠ [])
    (hb : ∀ r ∈ rows, (body r).flatten = r.2.map Tok.v) (n : Nat) (hn : ∀ r ∈ rows, (body r).length = n) :
    parseSec (C ++ (vars.map (fun x : Var => [Tok.w x.name]) ++ rows.flatMap fun r => [Tok.n r.1] :: body r)) rows.length
      = some ⟨vars, rows⟩ := by
  generalize hNM : vars.map (fun x : Var => ([Tok.w x.name] : Line V)) = NM
  generalize hR : (rows.flatMap fun r => [Tok.n r.1] :: body r) = R
  have hNMlen : NM.length = vars.length := by rw [← hNM, List.length_map]
  -- the four views `_parse_res` takes of its input
  have h1 : ((C ++ (NM ++ R)).takeWhile fun l => !isName l) = C :=
    takeWhile_append_stop _ C _ (fun c hc => by rw [hC c hc]; rfl) fun b hb => by
      obtain ⟨x, t, rfl⟩ := List.exists_cons_of_ne_nil hv
      subst hNM; cases hb; rfl
  have h2 : (C ++ (NM ++ R)).take C.length = C := List.take_left
  have h3 : ((C ++ (NM ++ R)).drop C.length).take vars.length = NM := by rw [List.drop_left, ← hNMlen, List.take_left]
  have h4 : (C ++ (NM ++ R)).drop (C.length + vars.length) = R := by
    rw [← List.drop_drop, List.drop_left, ← hNMlen, List.drop_left]
  generalize C ++ (NM ++ R) = ls at h1 h2 h3 h4 ⊢
  have hnums : C.flatten.mapM asNat = some (vars.map Var.width) := by
    rw [hCf, List.mapM_map]; exact mapM_eq_some_map _ _ _ fun _ _ => rfl
  have hnames : NM.mapM firstWord = some (vars.map Var.name) := by
    rw [← hNM, List.mapM_map]; exact mapM_eq_some_map _ _ _ fun _ _ => rfl
  have hzip : ((vars.map Var.name).zip (vars.map Var.width)).map (fun (a, b) => (⟨a, b⟩ : Var)) = vars := by
    rw [List.zip_map', List.map_map]; exact List.map_id' vars
  have hRlen : R.length = (n + 1) * rows.length :=
    hR ▸ flatMap_const_length rows _ (n + 1) fun r hr => congrArg (· + 1) (hn r hr)
  have hpos : 0 < rows.length := List.length_pos_iff.mpr hr
  have hstride : R.length / rows.length = n + 1 := by rw [hRlen]; exact Nat.mul_div_cancel _ hpos
  simp only [parseSec, h1, h2, hnums, Option.bind_eq_bind, Option.bind_some, List.length_map, h3, hnames, h4,
    hstride, Nat.add_sub_cancel]
  rw [if_neg (by omega), if_neg (by rw [hRlen]; simp), mapM_range _ rows]
  · simp only [Option.bind_some, Option.pure_def, hzip]
  · intro k hk
    obtain ⟨h0, h1⟩ := flatMap_block_cons rows (fun r => [Tok.n r.1]) body n hn k hk
    rw [hR] at h0 h1
    rw [h0, h1, hb _ (List.getElem_mem hk), List.mapM_map,
      mapM_eq_some_map (asVal ∘ Tok.v) id _ fun _ _ => rfl, List.map_id]
    rfl

structure WFSec (wc wv : Nat) (s : Sec V) : Prop where
  wc : 1 ≤ wc
  wv : 1 ≤ wv
  vars_ne : s.vars ≠ []
  rows_ne : s.rows ≠ []
  width : ∀ r ∈ s.rows, r.2.length = sumW s.vars

theorem isName_numLine {k : Nat} (hk : 1 ≤ k) {f : α → Nat} {l : List α} {c : Line V}
    (hc : c ∈ chunks k (l.map fun x => Tok.n (f x))) : isName c = false := by
  obtain ⟨hne, hmem⟩ := mem_chunks_map hk hc
  obtain ⟨t, ts, rfl⟩ := List.exists_cons_of_ne_nil hne
  obtain ⟨x, _, rfl⟩ := hmem t (List.mem_cons_self ..)
  rfl

theorem hasVal_numLine (eNot : V → Bool) {k : Nat} (hk : 1 ≤ k) {f : α → Nat} {l : List α} {c : Line V}
    (hc : c ∈ chunks k (l.map fun x => Tok.n (f x))) : hasVal eNot c = false := by
  obtain ⟨-, hmem⟩ := mem_chunks_map hk hc
  rw [hasVal, List.any_eq_false]
  intro t ht
  obtain ⟨x, _, rfl⟩ := hmem t ht
  exact Bool.false_ne_true

theorem renderSec_parts (wc wv : Nat) (s : Sec V) :
    renderSec wc wv s = chunks wc (s.vars.map fun x => Tok.n x.width) ++
      (s.vars.map (fun x => [Tok.w x.name]) ++ s.rows.flatMap (entityLines wv)) :=
  List.append_assoc ..

theorem parse_render (wc wv : Nat) (s : Sec V) (h : WFSec wc wv s) :
    parseSec (renderSec wc wv s) s.rows.length = some s := by
  obtain ⟨r0, hr0⟩ := List.exists_mem_of_ne_nil _ h.rows_ne
  rw [renderSec_parts]
  exact parseSec_layout _ s.vars s.rows (fun r => chunks wv (r.2.map Tok.v)) (fun c hc => isName_numLine h.wc hc)
    (chunks_flatten wc h.wc _) h.vars_ne h.rows_ne (fun r _ => chunks_flatten wv h.wv _)
    (chunks wv (r0.2.map Tok.v)).length
    (fun r hr => chunks_length_congr wv _ _ (by rw [List.length_map, List.length_map, h.width r hr, h.width r0 hr0]))

#print axioms parse_render
