import Femio.Lemmas.ResProps

open Res
variable {V : Type} {α : Type}

theorem findIdx?_append_stop (p : α → Bool) (A B : List α) (b : α) (hA : ∀ a ∈ A, p a = false)
    (hB : B.head? = some b) (hb : p b = true) : (A ++ B).findIdx? p = some A.length := by
  obtain ⟨t, rfl⟩ : ∃ t, B = b :: t := by
    cases B with
    | nil => cases hB
    | cons x t => cases hB; exact ⟨t, rfl⟩
  rw [List.findIdx?_append, List.findIdx?_eq_none_iff.mpr (fun a ha => by simp [hA a ha]), List.findIdx?_cons, hb]
  simp

theorem findFrom_spec (p : Line V → Bool) (pre A B : List (Line V)) (b : Line V)
    (hA : ∀ a ∈ A, p a = false) (hB : B.head? = some b) (hb : p b = true) :
    findFrom p (pre ++ (A ++ B)) pre.length = some (pre.length + A.length) := by
  unfold findFrom
  rw [List.drop_left, findIdx?_append_stop p A B b hA hB hb]
  simp [Nat.add_comm]

theorem findFrom_none (p : Line V → Bool) (pre A : List (Line V)) (hA : ∀ a ∈ A, p a = false) :
    findFrom p (pre ++ A) pre.length = none := by
  unfold findFrom
  rw [List.drop_left, List.findIdx?_eq_none_iff.mpr (fun a ha => by simp [hA a ha])]; rfl

/-! `_split_series` on lines given by their parts: lines `A` that are no name lines, a cluster `N` of name
    lines, data lines `D` that are no name lines -/
section Parts
variable (eNot : V → Bool) {A N D : List (Line V)}

/-- up to the end of the first cluster of name lines -/
theorem splitSeries_cluster (hA : ∀ l ∈ A, isName l = false) (hN : ∀ l ∈ N, isName l = true) (hN0 : N ≠ [])
    (T : List (Line V)) (hT : ∀ t, T.head? = some t → isName t = false) :
    findFrom isName (A ++ (N ++ T)) 0 = some A.length ∧
      ((A ++ (N ++ T)).drop A.length).takeWhile isName = N := by
  obtain ⟨n0, N', rfl⟩ := List.exists_cons_of_ne_nil hN0
  refine ⟨?_, ?_⟩
  · simpa using findFrom_spec isName [] A _ n0 hA rfl (hN n0 (List.mem_cons_self ..))
  · rw [List.drop_left]
    exact takeWhile_append_stop _ _ _ hN hT

/-- a single cluster of name lines: everything is nodal -/
theorem splitSeries_one (hA : ∀ l ∈ A, isName l = false) (hN : ∀ l ∈ N, isName l = true) (hN0 : N ≠ [])
    (hD : ∀ l ∈ D, isName l = false) : splitSeries eNot (A ++ (N ++ D)) = some (A ++ (N ++ D), none) := by
  obtain ⟨ha, hcl⟩ := splitSeries_cluster hA hN hN0 D fun t ht => hD t (List.mem_of_mem_head? ht)
  have hc : findFrom isName (A ++ (N ++ D)) (A.length + N.length) = none := by
    simpa [List.append_assoc] using findFrom_none isName (A ++ N) D hD
  simp only [splitSeries, ha, hcl, hc]

/-- a second cluster of name lines, after lines `A'` that are neither name lines nor carry a value: the walk back
    from it stops at the last line of `D`, which carries a value -/
theorem splitSeries_two (hA : ∀ l ∈ A, isName l = false) (hN : ∀ l ∈ N, isName l = true) (hN0 : N ≠ [])
    (hD : ∀ l ∈ D, isName l = false) (hlast : ∃ b, D.getLast? = some b ∧ hasVal eNot b = true)
    {A' T : List (Line V)} {n' : Line V} (hA' : ∀ l ∈ A', isName l = false ∧ hasVal eNot l = false)
    (hT : T.head? = some n') (hn' : isName n' = true) :
    splitSeries eNot (A ++ (N ++ D) ++ (A' ++ T)) = some (A ++ (N ++ D), some (A' ++ T)) := by
  obtain ⟨b, hDb, hb⟩ := hlast
  have hls : A ++ (N ++ D) ++ (A' ++ T) = A ++ (N ++ (D ++ (A' ++ T))) := by
    simp only [List.append_assoc]
  have hD0 : D ≠ [] := by rintro rfl; cases hDb
  obtain ⟨ha, hcl⟩ := splitSeries_cluster hA hN hN0 (D ++ (A' ++ T)) fun t ht =>
    hD t (List.mem_of_mem_head? (by rwa [List.head?_append_of_ne_nil _ hD0] at ht))
  rw [← hls] at ha hcl
  have hc : findFrom isName (A ++ (N ++ D) ++ (A' ++ T)) (A.length + N.length)
      = some ((A ++ (N ++ D)).length + A'.length) := by
    have := findFrom_spec isName (A ++ N) (D ++ A') T n'
      (fun l hl => (List.mem_append.mp hl).elim (hD l) fun h => (hA' l h).1) hT hn'
    simp only [List.append_assoc, List.length_append, Nat.add_assoc] at this ⊢
    exact this
  have hPb : (A ++ (N ++ D)).getLast? = some b := by rw [List.getLast?_append, List.getLast?_append, hDb]; rfl
  generalize A ++ (N ++ D) = P at ha hcl hc hPb ⊢
  have hback : (((P ++ (A' ++ T)).take (P.length + A'.length)).reverse.takeWhile
      fun l => !hasVal eNot l).length = A'.length := by
    rw [← List.append_assoc, ← List.length_append, List.take_left, List.reverse_append,
      takeWhile_append_stop _ A'.reverse _ (fun l hl => by simp [(hA' l (List.mem_reverse.mp hl)).2]),
      List.length_reverse]
    intro x hx
    rw [List.head?_reverse, hPb] at hx
    cases hx; simp [hb]
  have hPpos : 0 < P.length := List.length_pos_iff.mpr (by rintro rfl; cases hPb)
  simp only [splitSeries, ha, hcl, hc, hback]
  rw [if_neg (by omega), Nat.add_sub_cancel, List.take_left, List.drop_left]
end Parts

theorem mem_entityLines {wv : Nat} (hwv : 1 ≤ wv) {r : Nat × List V} {l : Line V} (hl : l ∈ entityLines wv r) :
    l = [Tok.n r.1] ∨ l ≠ [] ∧ ∀ t ∈ l, ∃ x ∈ r.2, Tok.v x = t :=
  (List.mem_cons.mp hl).imp_right (mem_chunks_map hwv)

/-- every line of a rendered section is non-empty, and what holds of all numbers, of the variables' names and of
    the rows' values holds of all its tokens -/
theorem forall_tok_renderSec {P : Tok V → Prop} {wc wv : Nat} (hwc : 1 ≤ wc) (hwv : 1 ≤ wv) {s : Sec V}
    (hn : ∀ k, P (.n k)) (hw : ∀ x ∈ s.vars, P (.w x.name)) (hv : ∀ r ∈ s.rows, ∀ y ∈ r.2, P (.v y)) :
    ∀ l ∈ renderSec wc wv s, l ≠ [] ∧ ∀ t ∈ l, P t := by
  intro l hl
  simp only [renderSec, List.mem_append, List.mem_map, List.mem_flatMap] at hl
  rcases hl with (hl | ⟨x, hx, rfl⟩) | ⟨r, hr, hl⟩
  · obtain ⟨hne, hmem⟩ := mem_chunks_map hwc hl
    refine ⟨hne, fun t ht => ?_⟩
    obtain ⟨x, _, rfl⟩ := hmem t ht
    exact hn _
  · exact ⟨List.cons_ne_nil _ _, fun t ht => List.mem_singleton.mp ht ▸ hw x hx⟩
  · rcases mem_entityLines hwv hl with rfl | ⟨hne, hmem⟩
    · exact ⟨List.cons_ne_nil _ _, fun t ht => List.mem_singleton.mp ht ▸ hn _⟩
    · refine ⟨hne, fun t ht => ?_⟩
      obtain ⟨y, hy, rfl⟩ := hmem t ht
      exact hv r hr y hy

theorem isName_dataLine {wv : Nat} (hwv : 1 ≤ wv) {rows : List (Nat × List V)} :
    ∀ l ∈ rows.flatMap (entityLines wv), isName l = false := by
  intro l hl
  obtain ⟨r, _, hl⟩ := List.mem_flatMap.mp hl
  rcases mem_entityLines hwv hl with rfl | ⟨hne, hmem⟩
  · rfl
  · obtain ⟨t, ts, rfl⟩ := List.exists_cons_of_ne_nil hne
    obtain ⟨x, _, rfl⟩ := hmem t (List.mem_cons_self ..)
    rfl

theorem dataLines_last (eNot : V → Bool) {wv : Nat} (hwv : 1 ≤ wv) {rows : List (Nat × List V)} (hr : rows ≠ [])
    (hw : ∀ r ∈ rows, r.2 ≠ []) (he : ∀ r ∈ rows, ∀ x ∈ r.2, eNot x = true) :
    ∃ b, (rows.flatMap (entityLines wv)).getLast? = some b ∧ hasVal eNot b = true := by
  obtain ⟨init, rl, rfl⟩ : ∃ init rl, rows = init ++ [rl] := ⟨_, _, (List.dropLast_concat_getLast hr).symm⟩
  have hrl : rl ∈ init ++ [rl] := List.mem_append_right _ (List.mem_singleton_self _)
  have hch : chunks wv (rl.2.map (Tok.v : V → Tok V)) ≠ [] := by
    intro h
    have := chunks_flatten wv hwv (rl.2.map (Tok.v : V → Tok V))
    rw [h] at this
    exact hw rl hrl (List.map_eq_nil_iff.mp this.symm)
  refine ⟨(chunks wv (rl.2.map Tok.v)).getLast hch, ?_, ?_⟩
  · rw [List.flatMap_append, List.flatMap_singleton, List.getLast?_append, entityLines,
      List.getLast?_cons_of_ne_nil hch, List.getLast?_eq_some_getLast hch]
    rfl
  · obtain ⟨hne, hmem⟩ := mem_chunks_map hwv (List.getLast_mem hch)
    obtain ⟨t, ht⟩ := List.exists_mem_of_ne_nil _ hne
    obtain ⟨x, hx, rfl⟩ := hmem t ht
    exact List.any_eq_true.mpr ⟨_, ht, he rl hrl x hx⟩

structure WFSec' (wc wv : Nat) (s : Sec V) : Prop extends WFSec wc wv s where
  vals_ne : ∀ r ∈ s.rows, r.2 ≠ []

/-- the nodal/elemental boundary found by walking back from the second cluster of name lines is exactly the end of
    the nodal section -/
theorem split_two (eNot : V → Bool) (wc wv wc' wv' : Nat) (sN sE : Sec V) (hN : WFSec' wc wv sN) (hE : WFSec' wc' wv' sE)
    (he : ∀ r ∈ sN.rows, ∀ x ∈ r.2, eNot x = true) :
    splitSeries eNot (renderSec wc wv sN ++ renderSec wc' wv' sE)
      = some (renderSec wc wv sN, some (renderSec wc' wv' sE)) := by
  obtain ⟨x, t, hx⟩ := List.exists_cons_of_ne_nil hE.vars_ne
  rw [renderSec_parts, renderSec_parts]
  exact splitSeries_two eNot (fun l hl => isName_numLine hN.wc hl)
    (fun l hl => by obtain ⟨x, _, rfl⟩ := List.mem_map.mp hl; rfl) (mt List.map_eq_nil_iff.mp hN.vars_ne)
    (isName_dataLine hN.wv) (dataLines_last eNot hN.wv hN.rows_ne hN.vals_ne he)
    (fun l hl => ⟨isName_numLine hE.wc hl, hasVal_numLine eNot hE.wc hl⟩) (n' := [Tok.w x.name]) (by rw [hx]; rfl) rfl

/-- with no elemental section (a single cluster of name lines) everything is nodal -/
theorem split_one (eNot : V → Bool) (wc wv : Nat) (sN : Sec V) (hN : WFSec wc wv sN) :
    splitSeries eNot (renderSec wc wv sN) = some (renderSec wc wv sN, none) := by
  rw [renderSec_parts]
  exact splitSeries_one eNot (fun l hl => isName_numLine hN.wc hl)
    (fun l hl => by obtain ⟨x, _, rfl⟩ := List.mem_map.mp hl; rfl) (mt List.map_eq_nil_iff.mp hN.vars_ne)
    (isName_dataLine hN.wv)
