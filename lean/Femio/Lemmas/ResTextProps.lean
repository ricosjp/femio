import Femio.Lemmas.TextLexProps
import Femio.Lemmas.ResFileProps

/-! C02 — character level: `lexLine (lineText trail l) = l` for the token lines of a result file; the body lines of a
    rendered file are such lines; what the header lines print and lex to. -/
namespace Femio.C02
open Res Femio.Text Numeral

theorem charDigit_of_alphaStar (c : Char) (h : isAlphaStar c = true) : charDigit c = none := by
  unfold isAlphaStar at h
  unfold charDigit
  simp only [Bool.or_eq_true, Bool.and_eq_true, decide_eq_true_eq] at h
  have : ¬ (48 ≤ c.toNat ∧ c.toNat ≤ 57) := by
    rcases h with (h | h) | h
    · subst h; decide
    · omega
    · omega
  simp [this]

theorem parseNat_none_of_head (c : Char) (t : Str) (h : charDigit c = none) : parseNat (c :: t) = none := by
  simp [parseNat, List.mapM_cons, h]

theorem classify_showNat (n : Nat) : classify (showNat n) = .n n := by
  simp [classify, parseNat_showNat]

theorem classify_word (s : Str) (h : wordOKB s = true) : classify s = .w s := by
  simp only [wordOKB, Bool.and_eq_true] at h
  cases s with
  | nil => simp at h
  | cons c t =>
    have hc : isAlphaStar c = true := h.2
    simp [classify, parseNat_none_of_head c t (charDigit_of_alphaStar c hc), hc]

theorem classify_val (x : Str) (h : valOKB x = true) : classify x = .v x := by
  simp only [valOKB, Bool.and_eq_true, Option.isNone_iff_eq_none] at h
  cases x with
  | nil => simp at h
  | cons c t =>
    have hc : isAlphaStar c = false := by simpa using h.2
    simp [classify, h.1.2, hc]

theorem showTok_ok (t : Tok Str) (h : resTokOKB t = true) : classify (showTok t) = t ∧ TokOK (showTok t) := by
  cases t with
  | n k => exact ⟨classify_showNat k, showNat_tokOK k⟩
  | v x => exact ⟨classify_val x h, (tokOKB_iff x).mp (Bool.and_eq_true_iff.mp (Bool.and_eq_true_iff.mp h).1).1⟩
  | w s => exact ⟨classify_word s h, (tokOKB_iff s).mp (Bool.and_eq_true_iff.mp h).1⟩

/-- **lexer ∘ printer on one line**, with or without the trailing blank of numeric lines -/
theorem lexLine_lineText (trail : Bool) (l : Line Str) (h : l.all resTokOKB = true) : lexLine (lineText trail l) = l := by
  rw [List.all_eq_true] at h
  have htr : ∀ c ∈ (if trail then [' '] else []), isWs c = true := by
    cases trail
    · nofun
    · intro c hc; rw [List.mem_singleton.mp hc]; decide
  rw [lexLine, lineText, splitBlank_joinBlank (l.map showTok) (fun t ht => by
    obtain ⟨tok, htok, rfl⟩ := List.mem_map.mp ht
    exact (showTok_ok tok (h tok htok)).2) _ htr]
  exact map_map_eq_self fun t ht => (showTok_ok t (h t ht)).1

theorem lexLine_printLine (trail : Bool) (l : Line Str) (h : l.all resTokOKB = true) : lexLine (printLine trail l) = l :=
  lexLine_lineText _ l h

/-- a printable line prints to a non-empty text without newline -/
theorem printLine_props (trail : Bool) (l : Line Str) (h : printableB l = true) :
    '\n' ∉ printLine trail l ∧ printLine trail l ≠ [] := by
  simp only [printableB, Bool.and_eq_true, List.all_eq_true] at h
  have hne : l ≠ [] := by
    intro e; subst e; simp at h
  have hs : ∀ t ∈ l, TokOK (showTok t) := fun t ht => (tokOKB_iff _).mp (h.2 t ht)
  unfold printLine lineText
  constructor
  · simp only [List.mem_append, not_or]
    refine ⟨?_, by split <;> simp⟩
    apply not_mem_joinBlank '\n' (by decide)
    intro t ht
    obtain ⟨tok, htok, rfl⟩ := List.mem_map.mp ht
    exact not_newline_of_noWs (hs tok htok).2
  · have := joinBlank_ne_nil (l.map showTok) (by simpa using hne) (by
      intro t ht
      obtain ⟨tok, htok, rfl⟩ := List.mem_map.mp ht
      exact (hs tok htok).1)
    simp [this]

theorem printable_of_ok (l : Line Str) (h : l.all resTokOKB = true) (hne : l ≠ []) : printableB l = true := by
  rw [printableB, Bool.and_eq_true, Bool.not_eq_true', List.isEmpty_eq_false_iff, List.all_eq_true]
  exact ⟨hne, fun t ht => (tokOKB_iff _).mpr (showTok_ok t (List.all_eq_true.mp h t ht)).2⟩

/-! ### every body line of a rendered section is such a line -/
theorem renderSec_ok (wc wv : Nat) (s : Sec Str) (hwc : 1 ≤ wc) (hwv : 1 ≤ wv) (h : secOKB s = true) :
    ∀ l ∈ renderSec wc wv s, l.all resTokOKB = true ∧ l ≠ [] := by
  simp only [secOKB, Bool.and_eq_true, List.all_eq_true] at h
  intro l hl
  obtain ⟨hne, hall⟩ :=
    forall_tok_renderSec (P := fun t => resTokOKB t = true) hwc hwv (fun _ => rfl) h.1 h.2 l hl
  exact ⟨List.all_eq_true.mpr hall, hne⟩

theorem renderBody_ok (wcN wvN wcE wvE : Nat) (f : ResFile Str)
    (hN : 1 ≤ wcN ∧ 1 ≤ wvN) (hE : ∀ e, f.elemental = some e → 1 ≤ wcE ∧ 1 ≤ wvE) (h : fileOKB f = true) :
    ∀ l ∈ renderBody wcN wvN wcE wvE f, l.all resTokOKB = true ∧ l ≠ [] := by
  simp only [fileOKB, Bool.and_eq_true] at h
  intro l hl
  rcases List.mem_append.mp hl with hl | hl
  · exact renderSec_ok _ _ _ hN.1 hN.2 h.1 l hl
  · cases he : f.elemental with
    | none => rw [he] at hl; cases hl
    | some e =>
      rw [he] at hl h
      exact renderSec_ok _ _ _ (hE e he).1 (hE e he).2 h.2 l hl

theorem map_lex_print_id (trail : Bool) (ls : List (Line Str)) (h : ∀ l ∈ ls, l.all resTokOKB = true) :
    (ls.map (printLine trail)).map lexLine = ls :=
  map_map_eq_self fun l hl => lexLine_printLine trail l (h l hl)

theorem header_lexed_ok (L : Layout) (comment : List Char) (time : Line Str) (a b c d : Nat) (trail : Bool) :
    HeaderOK L (((match L with
      | .old => headerOld a b c d
      | .v2 => headerV2 comment time a b c d).map (printLine trail)).map lexLine) := by
  cases L with
  | old =>
    rw [map_lex_print_id trail (headerOld a b c d) (by
      simp only [headerOld, List.forall_mem_cons]
      exact ⟨by decide +kernel, rfl, rfl, nofun⟩)]
    exact headerOld_ok a b c d
  | v2 =>
    refine ⟨by rw [List.length_map, List.length_map]; rfl, List.any_eq_true.mpr ⟨[.w marker], ?_, rfl⟩⟩
    rw [List.map_map]
    exact List.mem_map.mpr ⟨[.w marker], List.mem_of_getElem? (i := 6) rfl, lexLine_printLine trail _ (by decide +kernel)⟩

theorem header_printable (L : Layout) (comment : List Char) (time : Line Str) (a b c d : Nat)
    (h : hdrOKB L comment time = true) :
    ∀ l ∈ (match L with
      | .old => headerOld a b c d
      | .v2 => headerV2 comment time a b c d), printableB l = true := by
  have hn : ∀ a b : Nat, printableB [.n a, .n b] = true := fun a b => printable_of_ok _ rfl (List.cons_ne_nil _ _)
  cases L with
  | old =>
    simp only [headerOld, List.forall_mem_cons]
    exact ⟨by decide +kernel, hn a b, hn c d, nofun⟩
  | v2 =>
    simp only [hdrOKB, Bool.and_eq_true] at h
    simp only [headerV2, List.forall_mem_cons]
    exact ⟨by decide +kernel, by decide +kernel, by simpa [printableB, showTok] using h.1, by decide +kernel,
      by decide +kernel, by decide +kernel, by decide +kernel, h.2, by decide +kernel, hn a b, hn c d, nofun⟩

end Femio.C02
