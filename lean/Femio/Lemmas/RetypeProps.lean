import Femio.Model.Retype
import Femio.Lemmas.GeomProps2
import Femio.Lemmas.ListLemmas
import Mathlib.Algebra.Order.Field.Basic
import Mathlib.Data.List.Nodup

/-! # Re-typing: what `makePositive` does to one element, and what a history of public calls does to the element list

A step of `runH` either leaves the element list alone or applies `makePositive` to each element, and `makePositive` is idempotent;
the id → row table `rowOf` reads back positions of a duplicate-free id list. -/
namespace Femio.C18
open Core Faces V3 Geom Femio.Gen Femio.C10

theorem mem_of_mapM {α β : Type} (f : α → Option β) (l : List α) (r : List β) (h : l.mapM f = some r) :
    ∀ y ∈ r, ∃ x ∈ l, f x = some y := by
  have h2 := mapM_eq_some_iff.mp h
  clear h
  induction h2 with
  | nil => intro y hy; cases hy
  | cons hab _ ih =>
    intro y hy
    rcases List.mem_cons.mp hy with rfl | hy'
    · exact ⟨_, List.mem_cons_self, hab⟩
    · obtain ⟨x, hx, hfx⟩ := ih y hy'
      exact ⟨x, List.mem_cons_of_mem _ hx, hfx⟩

/-- `C18_positive` for an element with any connectivity list (a list that is not four nodes long has metric 0 in the
    model and is left alone) -/
theorem makePositive_spec {R : Type} [Field R] [LinearOrder R] [IsStrictOrderedRing R] (pt : Nat → V3 R) (e : Elem) :
    (makePositive 0 pt e).id = e.id ∧ (makePositive 0 pt e).ty = e.ty ∧ (makePositive 0 pt e).conn.Perm e.conn ∧
    tetVol6 0 pt (makePositive 0 pt e).conn = |tetVol6 0 pt e.conn| ∧ 0 ≤ tetVol6 0 pt (makePositive 0 pt e).conn := by
  by_cases hneg : tetVol6 0 pt e.conn < 0
  · obtain ⟨id, ty, conn⟩ := e
    -- a connectivity that is not four nodes long has metric 0
    obtain ⟨a, b, c, d, rfl⟩ : ∃ a b c d, conn = [a, b, c, d] := by
      unfold tetVol6 at hneg
      split at hneg
      · rename_i heq
        exact ⟨_, _, _, _, heq⟩
      · exact absurd hneg (lt_irrefl 0)
    have he' : makePositive 0 pt ⟨id, ty, [a, b, c, d]⟩ = ⟨id, ty, [a, c, b, d]⟩ := if_pos hneg
    have hv : tetVol6 0 pt [a, c, b, d] = - tetVol6 0 pt [a, b, c, d] := tet_permute_neg ..
    rw [he']
    exact ⟨rfl, rfl, .cons a (.swap b c [d]), by rw [hv, abs_of_neg hneg], by rw [hv]; exact (neg_pos.mpr hneg).le⟩
  · have h0 : 0 ≤ tetVol6 0 pt e.conn := not_lt.mp hneg
    rw [show makePositive 0 pt e = e from if_neg hneg]
    exact ⟨rfl, rfl, .refl _, (abs_of_nonneg h0).symm, h0⟩

section Hist
set_option linter.unusedSectionVars false
variable {R : Type} [Field R] [LinearOrder R] [IsStrictOrderedRing R]

theorem makePositive_idem (pt : Nat → V3 R) (e : Elem) :
    makePositive 0 pt (makePositive 0 pt e) = makePositive 0 pt e := by
  have h : ¬ tetVol6 0 pt (makePositive 0 pt e).conn < 0 := not_lt.mpr (makePositive_spec pt e).2.2.2.2
  generalize makePositive 0 pt e = q at h
  simp only [makePositive, if_neg h]

theorem permuteNeg_signed (pt : Nat → V3 R) (es : List Elem) :
    permuteNeg 0 (signedVols 0 pt es) es = es.map (makePositive 0 pt) := by
  induction es with
  | nil => rfl
  | cons e t ih =>
    have ih' : permuteNeg 0 (t.map fun e => tetVol6 0 pt e.conn) t = t.map (makePositive 0 pt) := ih
    simp only [signedVols, List.map_cons, permuteNeg, ih']
    rfl

theorem map_makePositive_of_noNeg (pt : Nat → V3 R) (es : List Elem) (h : anyNeg 0 (signedVols 0 pt es) = false) :
    es.map (makePositive 0 pt) = es := by
  simp only [anyNeg, signedVols, List.any_map, List.any_eq_false, Function.comp, decide_eq_true_eq] at h
  exact (List.map_congr_left fun e he => if_neg (h e he)).trans (List.map_id es)

theorem validate_signed (r : Bool) (xs v : List R) (h : validate 0 r false xs = some v) : v = xs := by
  unfold validate at h
  split at h
  · cases h
  · simpa using h.symm

theorem permuteIfNeg_elems (pt : Nat → V3 R) (es : List Elem) (A B : HState R)
    (hA : A.elems = permuteNeg 0 (signedVols 0 pt es) es) (hB : B.elems = es) :
    (if anyNeg 0 (signedVols 0 pt es) = true then A else B).elems = es.map (makePositive 0 pt) := by
  split
  · rw [hA]; exact permuteNeg_signed pt es
  · rename_i hn
    rw [hB]; exact (map_makePositive_of_noNeg pt es (by simpa using hn)).symm

theorem stepPositive_fixed_elems (pt : Nat → V3 R) (s : HState R) :
    (stepPositive Cfg.fixed 0 pt s).elems = s.elems.map (makePositive 0 pt) :=
  permuteIfNeg_elems pt s.elems _ _ rfl rfl

theorem stepMetrics_elems (pt : Nat → V3 R) (r a : Bool) (s : HState R) :
    (stepMetrics 0 pt r a s).1.elems = s.elems := by
  unfold stepMetrics
  split
  · rfl
  · split <;> rfl

theorem stepVolumes_elems (pt : Nat → V3 R) (r a : Bool) (s : HState R) :
    (stepVolumes 0 pt r a s).1.elems = s.elems ∧ (stepVolumes 0 pt r a s).1.metric = s.metric := by
  unfold stepVolumes
  split
  · exact ⟨rfl, rfl⟩
  · split <;> exact ⟨rfl, rfl⟩

theorem runH_fixed_elems (pt : Nat → V3 R) (h : List HOp) (s : HState R) :
    (runH Cfg.fixed 0 pt s h).elems.map (makePositive 0 pt) = s.elems.map (makePositive 0 pt) := by
  induction h generalizing s with
  | nil => rfl
  | cons op t ih =>
    rw [show runH Cfg.fixed 0 pt s (op :: t) = runH Cfg.fixed 0 pt (stepH Cfg.fixed 0 pt s op) t from rfl, ih]
    cases op with
    | metrics r a => exact congrArg _ (stepMetrics_elems pt r a s)
    | volumes r a => exact congrArg _ (stepVolumes_elems pt r a s).1
    | positive =>
      exact (congrArg _ (stepPositive_fixed_elems pt s)).trans
        (List.map_map.trans (List.map_congr_left fun e _ => makePositive_idem pt e))

theorem runH_append (cfg : Cfg) (pt : Nat → V3 R) (s : HState R) (h : List HOp) (op : HOp) :
    runH cfg 0 pt s (h ++ [op]) = stepH cfg 0 pt (runH cfg 0 pt s h) op := by
  simp [runH, List.foldl_append]

/-- the histories after which the unrepaired `make_elements_positive()` still sees the signed metric of the current
    connectivity: no earlier `make_elements_positive()`, no metric query asking for absolute values -/
def signedQuery : HOp → Bool
  | .metrics _ a => !a
  | .volumes _ _ => true
  | .positive => false

theorem runH_upstream_inv (pt : Nat → V3 R) (es : List Elem) (h : List HOp) (hq : h.all signedQuery = true)
    (s : HState R) (he : s.elems = es) (hm : s.metric = none ∨ s.metric = some (signedVols 0 pt es)) :
    (runH Cfg.upstream 0 pt s h).elems = es ∧
    ((runH Cfg.upstream 0 pt s h).metric = none ∨ (runH Cfg.upstream 0 pt s h).metric = some (signedVols 0 pt es)) := by
  induction h generalizing s with
  | nil => exact ⟨he, hm⟩
  | cons op t ih =>
    simp only [List.all_cons, Bool.and_eq_true] at hq
    have hrun : runH Cfg.upstream 0 pt s (op :: t) = runH Cfg.upstream 0 pt (stepH Cfg.upstream 0 pt s op) t := rfl
    rw [hrun]
    cases op with
    | positive => simp [signedQuery] at hq
    | volumes r a =>
      have hv := stepVolumes_elems pt r a s
      exact ih hq.2 _ (hv.1.trans he) (by rw [show (stepH Cfg.upstream 0 pt s (HOp.volumes r a)).metric = s.metric from hv.2]; exact hm)
    | metrics r a =>
      have ha : a = false := by simpa [signedQuery] using hq.1
      subst ha
      refine ih hq.2 _ ((stepMetrics_elems pt r false s).trans he) ?_
      show (stepMetrics 0 pt r false s).1.metric = none ∨ (stepMetrics 0 pt r false s).1.metric = some _
      unfold stepMetrics
      split
      · exact hm
      · split
        · exact hm
        · rename_i v hv
          right
          have := validate_signed r _ v hv
          simp [this, he]

end Hist

/-- `{id: i for i, id in enumerate(ids)}` (duplicate-free ids) -/
def rowOf (ids : List Nat) (x : Nat) : Option Nat :=
  if x ∈ ids then some (ids.idxOf x) else none

theorem rowOf_getElem (ids : List Nat) (hn : ids.Nodup) (k : Nat) (hk : k < ids.length) :
    rowOf ids ids[k] = some k := by
  simp [rowOf, hn.idxOf_getElem k hk]

theorem rowOf_some (ids : List Nat) (x p : Nat) (h : rowOf ids x = some p) : ids[p]? = some x := by
  unfold rowOf at h
  split at h
  · rename_i hx
    cases h
    simp [List.getElem?_eq_getElem (List.idxOf_lt_length_of_mem hx)]
  · cases h

end Femio.C18
