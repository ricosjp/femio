import Mathlib.Data.List.Count

/-! (1) `extract_surface_fistr`: in a list sorted by key, "differs from both neighbours" ⇔ "key occurs once".
    (2) `to_polyhedron`: `argsort[searchsorted(sorted_ids, id)]` is the storage position of `id`.
    `scanAux` (for any key type) and `searchsorted` here are the model's `Femio.C10.scanAux`, `Femio.C18.searchsorted`
    again; `FistrScan` and `PosCorrect` carry the two facts over. -/

section Scan
variable {κ : Type} [DecidableEq κ]

/-- model of `unique[:-1] &= distinct; unique[1:] &= distinct` : entry kept iff it differs from the
    previous (if any) and from the next (if any) -/
def scanAux (prev : Option κ) : List κ → List Bool
  | [] => []
  | a :: t =>
    (decide (prev ≠ some a) && (match t with | [] => true | b :: _ => decide (a ≠ b))) :: scanAux (some a) t

def scan (l : List κ) : List Bool := scanAux none l

/-- equal keys are contiguous (what `np.lexsort` guarantees): once a key stops, it never comes back -/
def Grouped : List κ → Prop
  | [] => True
  | a :: t => (∀ b ∈ t, b = a → t.head? = some a) ∧ Grouped t

theorem count_eq_zero_iff_head_ne {a : κ} {t : List κ} (hg : Grouped (a :: t)) : t.count a = 0 ↔ t.head? ≠ some a := by
  rw [List.count_eq_zero]
  exact ⟨fun h hh => h (List.mem_of_mem_head? hh), fun h hmem => h (hg.1 a hmem rfl)⟩

theorem scanAux_length (prev : Option κ) (l : List κ) : (scanAux prev l).length = l.length := by
  induction l generalizing prev with
  | nil => rfl
  | cons a t ih => simp [scanAux, ih]

theorem scanAux_next_iff (a : κ) (t : List κ) :
    (match t with | [] => true | b :: _ => decide (a ≠ b)) = true ↔ t.head? ≠ some a := by
  cases t with
  | nil => simp
  | cons b u => simpa using ne_comm

/-- main lemma, generalised over the previous key: the scan marks exactly the keys that occur once in
    `prev :: l` (with `prev`, if present, counted) -/
theorem scanAux_spec (prev : Option κ) (l : List κ)
    (hg : match prev with | none => Grouped l | some p => Grouped (p :: l)) :
    ∀ i (hi : i < l.length), (scanAux prev l)[i]'(by rw [scanAux_length]; exact hi) = true ↔
      (l.count l[i] = 1 ∧ prev ≠ some l[i]) := by
  induction l generalizing prev with
  | nil => intro i hi; simp at hi
  | cons a t ih =>
    have hgat : Grouped (a :: t) := by
      cases prev with
      | none => exact hg
      | some p => exact hg.2
    intro i hi
    cases i with
    | zero =>
      simp only [scanAux, List.getElem_cons_zero, Bool.and_eq_true, decide_eq_true_eq, List.count_cons_self,
        Nat.add_eq_right, scanAux_next_iff, count_eq_zero_iff_head_ne hgat, and_comm]
    | succ j =>
      have hj : j < t.length := by simpa using hi
      simp only [scanAux, List.getElem_cons_succ]
      rw [ih (some a) hgat j hj, List.count_cons]
      have hmem : t[j] ∈ t := List.getElem_mem hj
      by_cases hta : t[j] = a
      · -- `a` occurs again: neither side holds
        have : 0 < t.count a := List.count_pos_iff.mpr (hta ▸ hmem)
        simp [hta]; omega
      · -- a key of the tail other than `a` cannot equal `prev`: it would have to follow `prev` directly
        have hp : prev ≠ some t[j] := by
          cases prev with
          | none => simp
          | some p =>
            intro hp
            have := hg.1 t[j] (List.mem_cons_of_mem _ hmem) (Option.some.inj hp).symm
            exact hta (by simpa [(Option.some.inj hp)] using this.symm)
        simp [hp, Ne.symm hta]

end Scan

section Pos
/-- `searchsorted(sorted, x)` for a sorted array = number of entries `< x` -/
def searchsorted (sorted : List Nat) (x : Nat) : Nat := (sorted.filter (· < x)).length

/-- in a strictly ascending list of pairs, the entry at index `searchsorted keys x` has key `x` if present -/
theorem getElem_searchsorted (l : List (Nat × Nat)) (hs : (l.map Prod.fst).Pairwise (· < ·))
    (x p : Nat) (hx : (x, p) ∈ l) :
    l[searchsorted (l.map Prod.fst) x]? = some (x, p) := by
  induction l with
  | nil => simp at hx
  | cons a t ih =>
    simp only [List.map_cons, List.pairwise_cons] at hs
    obtain ⟨ha, ht⟩ := hs
    rcases List.mem_cons.mp hx with hxa | hxt
    · -- x is the head: nothing is smaller
      subst hxa
      have : searchsorted (x :: t.map Prod.fst) x = 0 := by
        unfold searchsorted
        rw [List.length_eq_zero_iff, List.filter_eq_nil_iff]
        intro y hy
        rcases List.mem_cons.mp hy with h | h
        · simp [h]
        · have := ha y h; simp; omega
      simp [this]
    · have hlt : a.1 < x := ha x (List.mem_map.mpr ⟨(x, p), hxt, rfl⟩)
      have : searchsorted (a.1 :: t.map Prod.fst) x = searchsorted (t.map Prod.fst) x + 1 := by
        unfold searchsorted; simp [hlt]
      simp only [List.map_cons]
      rw [this]
      simpa using ih ht hxt

end Pos
#print axioms scanAux_spec
#print axioms getElem_searchsorted
