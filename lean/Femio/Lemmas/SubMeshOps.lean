import Femio.Lemmas.SubMeshProps
/-! What each sub-mesh operation of `Model/SubMesh.lean` reduces to when it succeeds (`assemble` of a node and an element
selection, a positional re-slicing, the rows of `surfaceElems`), and the predicates in which the results are stated. -/
namespace Femio.C09
open Core Femio.SubMesh

variable {α : Type}

/-- well-formed mesh: node ids pairwise distinct (`Nodup`), one coordinate row per node, element ids pairwise
    distinct over all blocks, type tags are indices into `ELEMENT_TYPES`, every referenced node exists -/
structure WF (m : FEM α) : Prop where
  nodeIds : m.nodes.ids.Nodup
  nodeLen : m.nodes.data.length = m.nodes.ids.length
  elemIds : IdsNodup m.elems.flatten
  types : TypesOk m.elems
  refs : ∀ e ∈ m.elems.flatten, ∀ n ∈ e.val, n ∈ m.nodes.ids

/-- elemental variables are id-unique tables with valid type tags -/
def EWF (m : FEM α) : Prop := ∀ kv ∈ m.elemental, IdsNodup kv.2.flatten ∧ TypesOk kv.2

/-- nodal variables stored in the mesh's own node order (the default stream of the generators) -/
def Aligned (m : FEM α) : Prop := ∀ kv ∈ m.nodal, kv.2.ids = m.nodes.ids ∧ kv.2.data.length = m.nodes.ids.length

/-- the clause "self-contained": every node an element refers to exists exactly once -/
def SelfContained (r : FEM α) : Prop :=
  r.nodes.ids.Nodup ∧ ∀ e ∈ r.elems.flatten, ∀ n ∈ e.val, n ∈ r.nodes.ids

/-- nodes of `r` are exactly the nodes its elements refer to -/
def NodesExactlyReferenced (r : FEM α) : Prop := ∀ n, n ∈ r.nodes.ids ↔ ∃ e ∈ r.elems.flatten, n ∈ e.val

/-- every node of `r` has the coordinates and the nodal-variable values it has in `m` -/
def NodeValuesKept (m r : FEM α) : Prop :=
  (∀ i ∈ r.nodes.ids, r.nodes.lookup i = m.nodes.lookup i ∧ (m.nodes.lookup i).isSome) ∧
  ∀ name, ∀ i ∈ r.nodes.ids, r.nodalAt name i = m.nodalAt name i

/-- every element of `r` is the element of `m` with that id (same type tag, same connectivity) and carries the
    same value of every elemental variable -/
def ElemValuesKept (m r : FEM α) : Prop :=
  (∀ e ∈ r.elems.flatten, m.elemAt e.id = some e ∧ r.elemAt e.id = some e) ∧
  ∀ name, ∀ e ∈ r.elems.flatten, r.elementalAt name e.id = m.elementalAt name e.id

/-- the node ids some element refers to, ascending (`np.unique` of all connectivities) -/
def usefulIds (m : FEM α) : List Id := uniqueSorted (connIds m.elems)
/-- the node ids ascending (`self.nodes.ids[np.argsort(self.nodes.ids)]`) -/
def sortedIds (m : FEM α) : List Id := (sortedPairs m.nodes.ids).map (·.1)

abbrev FaceTable := Nat → Option (List (List Nat))

/-- every facet element is a face (3 or 4 vertices) of an element of `m` -/
def FacetsGenuine (ft : FaceTable) (m r : FEM α) : Prop :=
  ∀ e' ∈ r.elems.flatten, IsFacetOf ft m.elems 3 e'.val ∨ IsFacetOf ft m.elems 4 e'.val

/-- `s` lists exactly the rows of `t` whose vertex set occurs once in `t`, and no vertex set twice -/
def OnceOnlyRows (t s : List (List Id)) : Prop :=
  (∀ row, row ∈ s ↔ row ∈ t ∧ (t.map faceKey).count (faceKey row) = 1) ∧ (s.map faceKey).Nodup

/-- the new elements of `r`, in element-id order, are the once-only triangle faces followed by the once-only
    quadrangle faces of `m` -/
def SurfaceIsOnceOnly (ft : FaceTable) (m r : FEM α) : Prop :=
  ∃ t3 t4 s3 s4, facetsOfWidth ft m.elems 3 = some t3 ∧ facetsOfWidth ft m.elems 4 = some t4 ∧
    r.elems.flatten.map (·.val) = s3 ++ s4 ∧ OnceOnlyRows t3 s3 ∧ OnceOnlyRows t4 s4


theorem selfContained_of_referenced {r : FEM α} (hn : r.nodes.ids.Nodup) (hr : NodesExactlyReferenced r) :
    SelfContained r :=
  ⟨hn, fun e he n hne => (hr n).mpr ⟨e, he, hne⟩⟩

theorem nodeValuesKept_of_eq {m r : FEM α} (hw : WF m) (h1 : r.nodes = m.nodes) (h2 : r.nodal = m.nodal) :
    NodeValuesKept m r := by
  refine ⟨fun i hi => ?_, fun name i _ => ?_⟩
  · rw [h1] at hi ⊢
    exact ⟨rfl, attrLookup_isSome_of_mem hw.nodeLen hi⟩
  · unfold FEM.nodalAt
    rw [h2]

theorem nodeValuesKept_of_filter {m r : FEM α} {ids : List Id} (h1 : m.nodes.filterWithIds ids = some r.nodes)
    (h2 : filterNodal m.nodal ids = some r.nodal) : NodeValuesKept m r := by
  have hids := filterWithIds_ids h1
  exact ⟨fun i hi => filterWithIds_lookup h1 (hids ▸ hi), fun name i hi => filterNodal_at h2 name (hids ▸ hi)⟩

theorem elemValuesKept_of_eq {m r : FEM α} (hw : WF m) (h1 : r.elems = m.elems) (h2 : r.elemental = m.elemental) :
    ElemValuesKept m r := by
  refine ⟨fun e he => ?_, fun name e _ => ?_⟩
  · rw [h1] at he
    have : m.elemAt e.id = some e := (find_id_eq_some hw.elemIds).mpr ⟨he, rfl⟩
    exact ⟨this, by unfold FEM.elemAt at this ⊢; rw [h1]; exact this⟩
  · unfold FEM.elementalAt; rw [h2]

theorem assemble_nodeIds {m r : FEM α} {nodeIds eids : List Id} (h : assemble m nodeIds eids = .ok r) :
    r.nodes.ids = nodeIds :=
  filterWithIds_ids (assemble_ok h).1

theorem assemble_elems {m r : FEM α} (hw : WF m) {nodeIds eids : List Id} (h : assemble m nodeIds eids = .ok r) :
    ∀ e, e ∈ r.elems.flatten ↔ e ∈ m.elems.flatten ∧ e.id ∈ eids := by
  intro e
  rw [(assemble_ok h).2.2.1]
  exact mem_filterElems hw.elemIds hw.types

theorem assemble_values {m r : FEM α} (hw : WF m) (he : EWF m) {nodeIds eids : List Id}
    (h : assemble m nodeIds eids = .ok r) : NodeValuesKept m r ∧ ElemValuesKept m r := by
  obtain ⟨h1, h2, h3, h4⟩ := assemble_ok h
  refine ⟨nodeValuesKept_of_filter h1 h2, fun e her => ?_, fun name e her => ?_⟩
  · obtain ⟨hem, hid⟩ := (assemble_elems hw h e).mp her
    have hm : m.elemAt e.id = some e := (find_id_eq_some hw.elemIds).mpr ⟨hem, rfl⟩
    refine ⟨hm, ?_⟩
    unfold FEM.elemAt at hm ⊢
    rw [h3, find_filterElems hw.elemIds hw.types hid, hm]
  · obtain ⟨_, hid⟩ := (assemble_elems hw h e).mp her
    unfold FEM.elementalAt
    rw [h4, filterElemental_find]
    cases hf : m.elemental.find? (·.1 == name) with
    | none => rfl
    | some kv =>
      obtain ⟨hn, ht⟩ := he kv (List.mem_of_find?_eq_some hf)
      simp only [Option.map_some, Option.bind_some]
      rw [find_filterElems hn ht hid]

theorem assemble_referenced {m r : FEM α} {ids eids : List Id} (h : assemble m (uniqueSorted ids) eids = .ok r)
    (hids : ∀ n, n ∈ ids ↔ ∃ e ∈ (filterElems m.elems eids).flatten, n ∈ e.val) :
    SelfContained r ∧ NodesExactlyReferenced r := by
  have hr : NodesExactlyReferenced r := fun n => by
    rw [assemble_nodeIds h, mem_uniqueSorted, hids, (assemble_ok h).2.2.1]
  exact ⟨selfContained_of_referenced (assemble_nodeIds h ▸ uniqueSorted_nodup _) hr, hr⟩

theorem assemble_succeeds {m : FEM α} (hw : WF m) (hal : Aligned m) {nodeIds : List Id} (eids : List Id)
    (hn : ∀ i ∈ nodeIds, i ∈ m.nodes.ids) : ∃ r, assemble m nodeIds eids = .ok r := by
  obtain ⟨ns, hns⟩ := filterWithIds_isSome fun i hi => attrLookup_isSome_of_mem hw.nodeLen (hn i hi)
  obtain ⟨nd, hnd⟩ : ∃ nd, filterNodal m.nodal nodeIds = some nd := gather_isSome fun kv hkv => by
    obtain ⟨hk1, hk2⟩ := hal kv hkv
    obtain ⟨b, hb⟩ := filterWithIds_isSome (a := kv.2) fun i hi =>
      attrLookup_isSome_of_mem (hk1 ▸ hk2) (hk1 ▸ hn i hi)
    rw [hb]
    rfl
  exact ⟨⟨ns, filterElems m.elems eids, nd, filterElemental m.elemental eids⟩, by simp only [assemble, hns, hnd]⟩

theorem cutElemIds_ok {m r : FEM α} {sel : List Id} (h : cutElemIds m sel = .ok r) :
    assemble m (uniqueSorted (connIds (filterElems m.elems sel))) sel = .ok r := by
  simp only [cutElemIds] at h
  split at h
  · cases h
  · exact h

theorem cutElemType_ok {m r : FEM α} {t : Nat} (h : cutElemType m t = .ok r) :
    ∃ b ∈ m.elems, (∃ e ∈ b, e.ty = t) ∧ cutElemIds m (b.map (·.id)) = .ok r := by
  unfold cutElemType at h
  split at h
  · cases h
  · rename_i b hf
    have := List.find?_some hf
    simp only [List.any_eq_true, beq_iff_eq] at this
    exact ⟨b, List.mem_of_find?_eq_some hf, this, h⟩

theorem extractIdx_ok {m r : FEM α} {idx : List Nat} (h : extractIdx m idx = .ok r) :
    ∃ picked, gatherPos (flattenE m.elems) idx = some picked ∧
      assemble m (uniqueSorted (picked.flatMap (·.val))) (picked.map (·.id)) = .ok r := by
  unfold extractIdx at h
  split at h
  · cases h
  · split at h
    · cases h
    · exact ⟨_, ‹_›, h⟩

theorem mem_filterElems_picked {m : FEM α} (hw : WF m) {idx : List Nat} {picked : List (Ent (List Id))}
    (hg : gatherPos (flattenE m.elems) idx = some picked) {e : Ent (List Id)} :
    e ∈ (filterElems m.elems (picked.map (·.id))).flatten ↔ e ∈ picked := by
  rw [mem_filterElems hw.elemIds hw.types]
  refine mem_and_id_mem_map hw.elemIds fun f hf => ?_
  obtain ⟨k, _, hk⟩ := gather_mem hg hf
  exact mem_flattenE.mp (List.mem_of_getElem? hk)

theorem extractIdx_referenced {m r : FEM α} (hw : WF m) {idx : List Nat} (h : extractIdx m idx = .ok r) :
    SelfContained r ∧ NodesExactlyReferenced r := by
  obtain ⟨picked, hg, ha⟩ := extractIdx_ok h
  exact assemble_referenced ha fun n => by simp only [List.mem_flatMap, mem_filterElems_picked hw hg]

theorem cutNodeIds_ok {m r : FEM α} {sel : List Id} (h : cutNodeIds m sel = .ok r) :
    assemble m sel (elemsInside m sel) = .ok r := by
  unfold cutNodeIds at h
  split at h
  · cases h
  · exact h

theorem mem_sortedIds {m : FEM α} {n : Id} : n ∈ sortedIds m ↔ n ∈ m.nodes.ids := (sortedIds_perm _).mem_iff

theorem mem_usefulIds {m : FEM α} {n : Id} : n ∈ usefulIds m ↔ ∃ e ∈ m.elems.flatten, n ∈ e.val := by
  rw [usefulIds, mem_uniqueSorted, mem_connIds]

theorem useful_sub_sorted {m : FEM α} (hr : ∀ e ∈ m.elems.flatten, ∀ n ∈ e.val, n ∈ m.nodes.ids) :
    usefulIds m ⊆ sortedIds m := by
  intro u hu
  obtain ⟨e, he, hn⟩ := mem_usefulIds.mp hu
  exact mem_sortedIds.mpr (hr e he u hn)

theorem sweep_of_refs {m : FEM α} (hn : m.nodes.ids.Nodup) (hr : ∀ e ∈ m.elems.flatten, ∀ n ∈ e.val, n ∈ m.nodes.ids) :
    sweepE (sortedIds m) (usefulIds m) = some ((sortedIds m).map fun o => decide (o ∈ usefulIds m)) :=
  sweepE_of_sublist ((sortedIds_perm _).nodup_iff.mpr hn)
    (List.sublist_of_subperm_of_pairwise (List.subperm_of_subset (uniqueSorted_nodup _) (useful_sub_sorted hr))
      (uniqueSorted_sorted _) (sortedIds_strict hn))

theorem firstOrderEnt_some {s : Nat → Bool} {e e' : Ent (List Id)} (h : firstOrderEnt s e = some e') :
    e'.id = e.id ∧ e'.ty = e.ty ∧ ∀ n ∈ e'.val, n ∈ e.val := by
  unfold firstOrderEnt at h
  split at h
  · cases h; exact ⟨rfl, rfl, fun _ h => h⟩
  · split at h
    · cases h; exact ⟨rfl, rfl, fun _ h => List.mem_of_mem_take h⟩
    · split at h
      · cases h; exact ⟨rfl, rfl, fun _ h => List.mem_of_mem_take h⟩
      · cases h

/-- what a successful `to_first_order` returns: the object itself when no element type is second order, otherwise
    corner connectivities, the nodes selected by the boolean mask `np.isin(node ids, corner ids)`, nodal variables
    sliced with the same mask, elemental data untouched -/
theorem toFirstOrder_ok {s : Nat → Bool} {m r : FEM α} (h : toFirstOrder s m = .ok r) :
    (r = m ∧ ∀ e ∈ m.elems.flatten, s e.ty = false) ∨
    ∃ fe mask, gather (firstOrderBlock s) m.elems = some fe ∧
      mask = m.nodes.ids.map (fun i => (connIds fe).contains i) ∧
      r = ⟨⟨maskFilter mask m.nodes.ids, maskFilter mask m.nodes.data⟩, fe,
           m.nodal.filterMap (fun kv =>
             if kv.2.ids.length = mask.length then some (kv.1, ⟨maskFilter mask kv.2.ids, maskFilter mask kv.2.data⟩)
             else none),
           m.elemental⟩ := by
  simp only [toFirstOrder] at h
  split at h
  · rename_i hall
    cases h
    refine Or.inl ⟨rfl, fun e he => ?_⟩
    obtain ⟨b, hb, heb⟩ := List.mem_flatten.mp he
    simp only [List.all_eq_true, Bool.not_eq_true'] at hall
    exact hall b hb e heb
  · split at h
    · cases h
    · rename_i fe hfe
      cases h
      exact Or.inr ⟨fe, _, hfe, rfl, rfl⟩

theorem mem_firstOrder_nodeIds {m : FEM α} {fe : EBlocks (List Id)} {n : Id} :
    n ∈ maskFilter (m.nodes.ids.map fun i => (connIds fe).contains i) m.nodes.ids ↔ n ∈ m.nodes.ids ∧ n ∈ connIds fe := by
  rw [maskFilter_map, List.mem_filter, List.contains_eq_mem, decide_eq_true_eq]

theorem facetsGenuine_surfaceElems {ft : FaceTable} {m r : FEM α} {t3 t4 s3 s4 : List (List Id)}
    (h3 : facetsOfWidth ft m.elems 3 = some t3) (h4 : facetsOfWidth ft m.elems 4 = some t4)
    (hs3 : ∀ row ∈ s3, row ∈ t3) (hs4 : ∀ row ∈ s4, row ∈ t4) (hr : r.elems = surfaceElems s3 s4) :
    FacetsGenuine ft m r := by
  intro e' he'
  rw [hr] at he'
  rcases mem_surfaceElems_vals.mp (List.mem_map_of_mem he') with h' | h'
  · exact Or.inl ((mem_facetsOfWidth h3).mp (hs3 _ h'))
  · exact Or.inr ((mem_facetsOfWidth h4).mp (hs4 _ h'))

theorem facet_refs {ft : FaceTable} {m : FEM α} (hw : WF m) {w : Nat} {row : List Id}
    (h : IsFacetOf ft m.elems w row) : ∀ n ∈ row, n ∈ m.nodes.ids := by
  obtain ⟨e, he, tbl, _, f, _, _, rfl⟩ := h
  intro n hn
  obtain ⟨k, _, hk⟩ := List.mem_filterMap.mp hn
  exact hw.refs e he n (List.mem_of_getElem? hk)

theorem selfContained_of_genuine {ft : FaceTable} {m r : FEM α} (hw : WF m) (hn : r.nodes = m.nodes)
    (hg : FacetsGenuine ft m r) : SelfContained r :=
  ⟨hn ▸ hw.nodeIds, fun e' he' => hn ▸ (hg e' he').elim (facet_refs hw) (facet_refs hw)⟩


theorem toFacets_ok {ft : FaceTable} {m r : FEM α} (h : toFacets ft m = .ok r) :
    ∃ t3 t4, facetsOfWidth ft m.elems 3 = some t3 ∧ facetsOfWidth ft m.elems 4 = some t4 ∧
      r = ⟨m.nodes, surfaceElems (removeDuplicates t3) (removeDuplicates t4), m.nodal, []⟩ := by
  unfold toFacets at h
  split at h
  · cases h
    exact ⟨_, _, ‹_›, ‹_›, rfl⟩
  · cases h

theorem toSurface_ok {ft : FaceTable} {m r : FEM α} (h : toSurface ft m = .ok r) :
    ∃ t3 t4 pt pq, facetsOfWidth ft m.elems 3 = some t3 ∧ facetsOfWidth ft m.elems 4 = some t4 ∧
      gather (gatherPos m.nodes.ids) pt = some (onceOnly t3) ∧
      gather (gatherPos m.nodes.ids) pq = some (onceOnly t4) ∧
      gatherPos m.nodes.ids (uniqueSorted (pt.flatten ++ pq.flatten)) = some r.nodes.ids ∧
      gatherPos m.nodes.data (uniqueSorted (pt.flatten ++ pq.flatten)) = some r.nodes.data ∧
      r.elems = surfaceElems (onceOnly t3) (onceOnly t4) ∧ r.elemental = [] ∧
      resliceNodal (m.nodal.filter fun kv => kv.2.ids.length == m.nodes.ids.length) r.nodes.ids
        (uniqueSorted (pt.flatten ++ pq.flatten)) = some r.nodal := by
  simp only [toSurface] at h
  split at h
  · rename_i t3 t4 h3 h4
    split at h
    · cases h
    · split at h
      · rename_i pt pq hpt hpq
        split at h
        · rename_i ids data st sq hids hdata hst hsq
          split at h
          · rename_i nd hnd
            cases h
            cases ids_roundtrip hpt hst
            cases ids_roundtrip hpq hsq
            exact ⟨t3, t4, pt, pq, h3, h4, hst, hsq, hids, hdata, rfl, rfl, hnd⟩
          · cases h
        · cases h
      · cases h
  · cases h

theorem surface_referenced {ft : FaceTable} {m r : FEM α} (h : toSurface ft m = .ok r) : NodesExactlyReferenced r := by
  obtain ⟨t3, t4, pt, pq, _, _, hst, hsq, hids, _, hel, _, _⟩ := toSurface_ok h
  have hrows := gather_append (gather_flatten hst) (gather_flatten hsq)
  intro n
  rw [gatherPos_mem hids]
  simp only [mem_uniqueSorted]
  rw [← gatherPos_mem hrows, ← List.flatten_append, ← surfaceElems_vals, hel]
  simp only [List.mem_flatten, List.mem_map, exists_exists_and_eq_and]

theorem surfaceIsOnceOnly_of {ft : FaceTable} {m r : FEM α} {t3 t4 : List (List Id)}
    (h3 : facetsOfWidth ft m.elems 3 = some t3) (h4 : facetsOfWidth ft m.elems 4 = some t4)
    (hr : r.elems = surfaceElems (onceOnly t3) (onceOnly t4)) : SurfaceIsOnceOnly ft m r :=
  ⟨t3, t4, onceOnly t3, onceOnly t4, h3, h4, hr ▸ surfaceElems_vals _ _,
    ⟨fun _ => mem_onceOnly, onceOnly_keys_nodup t3⟩, ⟨fun _ => mem_onceOnly, onceOnly_keys_nodup t4⟩⟩

theorem toSurfaceKeep_ok {ft : FaceTable} {m r : FEM α} (h : toSurfaceKeep ft m = .ok r) :
    ∃ t3 t4, facetsOfWidth ft m.elems 3 = some t3 ∧ facetsOfWidth ft m.elems 4 = some t4 ∧
      r = ⟨m.nodes, surfaceElems (onceOnly t3) (onceOnly t4), m.nodal, []⟩ := by
  simp only [toSurfaceKeep] at h
  split at h
  · rename_i t3 t4 h3 h4
    split at h
    · cases h
    · split at h
      · rename_i pt pq hpt hpq
        split at h
        · rename_i st sq hst hsq
          cases h
          cases ids_roundtrip hpt hst
          cases ids_roundtrip hpq hsq
          exact ⟨t3, t4, h3, h4, rfl⟩
        · cases h
      · cases h
  · cases h

theorem toFacetsAll_ok {ft : FaceTable} {m r : FEM α} (h : toFacetsAll ft m = .ok r) :
    ∃ t3 t4, facetsOfWidth ft m.elems 3 = some t3 ∧ facetsOfWidth ft m.elems 4 = some t4 ∧
      r = ⟨m.nodes, surfaceElems t3 t4, m.nodal, []⟩ := by
  unfold toFacetsAll at h
  split at h
  · cases h
    exact ⟨_, _, ‹_›, ‹_›, rfl⟩
  · cases h

/-- one entry of a variable table: the table key, the attribute's own `.name`, the payload -/
structure Entry (β : Type) where
  key : Nat
  name : Nat
  val : β
deriving Repr, DecidableEq

/-- dict assignment `d[k] = e` (replaces the entry stored under `k`, else appends) -/
def dictSet {β} (k : Nat) (e : Entry β) : List (Entry β) → List (Entry β)
  | [] => [{ e with key := k }]
  | x :: r => if x.key == k then { e with key := k } :: r else x :: dictSet k e r

/-- the LIST form of the `FEMAttributes` constructor, `{a.name: a for a in attributes}`: the table is re-keyed by name -/
def rekeyByName {β} (t : List (Entry β)) : List (Entry β) := t.foldl (fun d e => dictSet e.name e d) []

theorem dictSet_append {β} (e : Entry β) (acc : List (Entry β)) (h : ∀ x ∈ acc, x.key ≠ e.key) :
    dictSet e.key e acc = acc ++ [e] := by
  induction acc with
  | nil => simp [dictSet]
  | cons x r ih =>
    have hx : (x.key == e.key) = false := by simpa using h x (by simp)
    simp [dictSet, hx, ih (fun y hy => h y (by simp [hy]))]

theorem rekey_foldl {β} (t acc : List (Entry β)) (hn : ∀ e ∈ t, e.name = e.key)
    (hd : (acc ++ t).Pairwise (fun a b => a.key ≠ b.key)) :
    t.foldl (fun d e => dictSet e.name e d) acc = acc ++ t := by
  induction t generalizing acc with
  | nil => simp
  | cons e r ih =>
    have he : e.name = e.key := hn e (by simp)
    have hacc : ∀ x ∈ acc, x.key ≠ e.key := by
      intro x hx
      have := List.pairwise_append.mp hd
      exact this.2.2 x hx e (by simp)
    simp only [List.foldl_cons, he, dictSet_append e acc hacc]
    rw [ih (acc ++ [e]) (fun y hy => hn y (by simp [hy])) (by simpa using hd)]
    simp

end Femio.C09
