import Femio.Model.SubMesh
import Femio.Lemmas.CoreProps
import Mathlib.Data.List.Basic
import Mathlib.Data.List.Nodup
import Mathlib.Data.List.Perm.Basic
import Mathlib.Data.List.Sort

/-! What the building blocks of `Model/SubMesh.lean` compute: `gather`, id-keyed look-up in `Attr` and in entity lists,
`np.unique`, the insertion sorts (each is Mathlib's `insertionSort`), masks and index lists, the two-pointer sweep, facets. -/
namespace Femio.SubMesh
open Core

variable {α β ι : Type}

theorem gather_eq_mapM (f : ι → Option α) (l : List ι) : gather f l = l.mapM f := by
  induction l with
  | nil => rfl
  | cons i t ih =>
    rw [gather, ih, List.mapM_cons]
    cases f i <;> cases t.mapM f <;> rfl

theorem gather_iff {f : ι → Option α} {l : List ι} {r : List α} :
    gather f l = some r ↔ List.Forall₂ (fun i a => f i = some a) l r :=
  gather_eq_mapM f l ▸ mapM_eq_some_iff

theorem gather_cons {f : ι → Option α} {i : ι} {t : List ι} {r : List α} :
    gather f (i :: t) = some r ↔ ∃ a r', f i = some a ∧ gather f t = some r' ∧ r = a :: r' := by
  simp only [gather_iff, List.forall₂_cons_left_iff]

theorem gather_some {f : ι → Option α} {l : List ι} {r : List α} (h : gather f l = some r) :
    l.map f = r.map some :=
  (map_of_mapM f some f (fun _ _ h => h.symm) l r (gather_eq_mapM f l ▸ h)).symm

theorem gather_length {f : ι → Option α} {l : List ι} {r : List α} (h : gather f l = some r) :
    r.length = l.length :=
  (gather_iff.mp h).length_eq.symm

theorem gather_eq_filterMap {f : ι → Option α} {l : List ι} {r : List α} (h : gather f l = some r) :
    r = l.filterMap f := by
  induction l generalizing r with
  | nil => cases h; rfl
  | cons i t ih =>
    obtain ⟨a, r', hfi, hgt, rfl⟩ := gather_cons.mp h
    rw [List.filterMap_cons_some hfi, ih hgt]

theorem gather_isSome {f : ι → Option α} {l : List ι} (h : ∀ i ∈ l, (f i).isSome) : ∃ r, gather f l = some r := by
  induction l with
  | nil => exact ⟨[], rfl⟩
  | cons i t ih =>
    obtain ⟨r, hr⟩ := ih fun j hj => h j (List.mem_cons_of_mem _ hj)
    obtain ⟨a, ha⟩ := Option.isSome_iff_exists.mp (h i List.mem_cons_self)
    exact ⟨a :: r, gather_cons.mpr ⟨a, r, ha, hr, rfl⟩⟩

/-- element-wise reading of a successful `gather` -/
theorem gather_getElem {f : ι → Option α} {l : List ι} {r : List α} (h : gather f l = some r)
    (k : Nat) (hk : k < l.length) : f l[k] = some (r[k]'(by rw [gather_length h]; exact hk)) :=
  (List.forall₂_iff_get.mp (gather_iff.mp h)).2 k hk _

theorem gather_mem {f : ι → Option α} {l : List ι} {r : List α} (h : gather f l = some r) {a : α} (ha : a ∈ r) :
    ∃ i ∈ l, f i = some a :=
  List.mem_map.mp (gather_some h ▸ List.mem_map_of_mem ha)

theorem gather_mem' {f : ι → Option α} {l : List ι} {r : List α} (h : gather f l = some r) {i : ι} (hi : i ∈ l) :
    ∃ a ∈ r, f i = some a := by
  obtain ⟨a, ha, hfa⟩ := List.mem_map.mp (gather_some h ▸ List.mem_map_of_mem hi)
  exact ⟨a, ha, hfa.symm⟩

theorem gather_append {f : ι → Option α} {l₁ l₂ : List ι} {r₁ r₂ : List α} (h₁ : gather f l₁ = some r₁)
    (h₂ : gather f l₂ = some r₂) : gather f (l₁ ++ l₂) = some (r₁ ++ r₂) :=
  gather_iff.mpr (List.rel_append (gather_iff.mp h₁) (gather_iff.mp h₂))

theorem gather_flatten {f : ι → Option α} {ll : List (List ι)} {rr : List (List α)} (h : gather (gather f) ll = some rr) :
    gather f ll.flatten = some rr.flatten :=
  gather_iff.mpr (List.rel_flatten ((gather_iff.mp h).imp fun _ _ => gather_iff.mp))

theorem gather_congr {f g : ι → Option α} {l : List ι} {r : List α} (h : gather f l = some r)
    (hfg : ∀ i ∈ l, ∀ a, f i = some a → g i = some a) : gather g l = some r := by
  induction l generalizing r with
  | nil => exact h
  | cons i t ih =>
    obtain ⟨a, r', hfi, hgt, rfl⟩ := gather_cons.mp h
    exact gather_cons.mpr ⟨a, r', hfg i List.mem_cons_self a hfi,
      ih hgt fun j hj => hfg j (List.mem_cons_of_mem _ hj), rfl⟩

theorem gather_none_of {f : ι → Option α} {l : List ι} {i : ι} (hi : i ∈ l) (h : f i = none) : gather f l = none := by
  cases hg : gather f l with
  | none => rfl
  | some r =>
    obtain ⟨a, _, ha⟩ := gather_mem' hg hi
    rw [h] at ha
    cases ha

theorem attrLookup_isSome_of_mem {a : Attr α} (hl : a.data.length = a.ids.length) {i : Id} (hi : i ∈ a.ids) :
    (a.lookup i).isSome := by
  obtain ⟨k, hk⟩ := idPos_of_mem hi
  obtain ⟨hkl, _⟩ := idPos_some hk
  simp [Attr.lookup, hk, List.getElem?_eq_getElem (hl ▸ hkl)]

theorem filterWithIds_ids {a b : Attr α} {ids : List Id} (h : a.filterWithIds ids = some b) : b.ids = ids := by
  obtain ⟨d, _, rfl⟩ := Option.map_eq_some_iff.mp h
  rfl

/-- `.loc[ids]` keeps every value bound to its id -/
theorem filterWithIds_lookup {a b : Attr α} {ids : List Id} (h : a.filterWithIds ids = some b) {i : Id}
    (hi : i ∈ ids) : b.lookup i = a.lookup i ∧ (a.lookup i).isSome := by
  obtain ⟨d, hg, rfl⟩ := Option.map_eq_some_iff.mp h
  obtain ⟨k, hk⟩ := idPos_of_mem hi
  obtain ⟨hkl, hki⟩ := idPos_some hk
  have hb : (⟨ids, d⟩ : Attr α).lookup i = a.lookup i := by
    rw [← hki, gather_getElem hg k hkl, hki]
    simp [Attr.lookup, hk]
  exact ⟨hb, hb ▸ attrLookup_isSome_of_mem (gather_length hg) hi⟩

theorem filterWithIds_isSome {a : Attr α} {ids : List Id} (h : ∀ i ∈ ids, (a.lookup i).isSome) :
    ∃ b, a.filterWithIds ids = some b := by
  obtain ⟨d, hd⟩ := gather_isSome h
  exact ⟨⟨ids, d⟩, by simp [Attr.filterWithIds, hd]⟩

theorem mem_connIds {blocks : EBlocks (List Id)} {n : Id} : n ∈ connIds blocks ↔ ∃ e ∈ blocks.flatten, n ∈ e.val :=
  List.mem_flatMap

/-! ### np.unique -/

theorem mem_uniqueSorted {y : Nat} {l : List Nat} : y ∈ uniqueSorted l ↔ y ∈ l :=
  mem_foldr_insertDedup (ins := insertU) (fun _ => rfl) fun _ _ _ => rfl

theorem uniqueSorted_sorted (l : List Nat) : (uniqueSorted l).Pairwise (· < ·) :=
  pairwise_foldr_insertDedup (ins := insertU) (fun _ => rfl) (fun _ _ _ => rfl) l

theorem uniqueSorted_nodup (l : List Nat) : (uniqueSorted l).Nodup :=
  (uniqueSorted_sorted l).imp (fun h => Nat.ne_of_lt h)

/-! ### FEMElementalAttribute -/

theorem sortEnts_eq (l : List (Ent β)) : sortEnts l = l.insertionSort (fun a b => a.id ≤ b.id) :=
  foldr_eq_insertionSort _ insertEnt (fun _ => rfl) (fun _ _ _ => rfl) l

theorem flattenE_perm (blocks : EBlocks β) : (flattenE blocks).Perm blocks.flatten := by
  unfold flattenE
  split
  · simp
  · rw [sortEnts_eq]
    exact List.perm_insertionSort _ _

theorem mem_flattenE {blocks : EBlocks β} {e : Ent β} : e ∈ flattenE blocks ↔ e ∈ blocks.flatten :=
  (flattenE_perm blocks).mem_iff

/-- entities have pairwise distinct ids -/
def IdsNodup (l : List (Ent β)) : Prop := (l.map (·.id)).Nodup

theorem idsNodup_flattenE {blocks : EBlocks β} (h : IdsNodup blocks.flatten) : IdsNodup (flattenE blocks) :=
  ((flattenE_perm blocks).map _).nodup_iff.mpr h

theorem ent_unique {l : List (Ent β)} (h : IdsNodup l) {e f : Ent β} (he : e ∈ l) (hf : f ∈ l) (hid : e.id = f.id) :
    e = f := List.inj_on_of_nodup_map h he hf hid

theorem mem_and_id_mem_map {l L : List (Ent β)} (hn : IdsNodup l) (hL : ∀ f ∈ L, f ∈ l) {e : Ent β} :
    e ∈ l ∧ e.id ∈ L.map (·.id) ↔ e ∈ L := by
  constructor
  · rintro ⟨he, hid⟩
    obtain ⟨f, hf, hfid⟩ := List.mem_map.mp hid
    rwa [← ent_unique hn (hL f hf) he hfid]
  · exact fun he => ⟨hL e he, List.mem_map_of_mem he⟩

/-- `id2index.loc[i]` followed by positional access is the first entity carrying the id -/
theorem entAt_eq_find (flat : List (Ent β)) (i : Id) : entAt flat i = flat.find? (·.id == i) := by
  induction flat with
  | nil => rfl
  | cons e t ih =>
    unfold entAt at ih ⊢
    rw [List.map_cons, idPos, List.find?_cons, ← ih]
    by_cases h : e.id = i
    · rw [if_pos h, beq_iff_eq.mpr h]
      rfl
    · rw [if_neg h, beq_false_of_ne h, Option.bind_map]
      rfl

theorem find_id_of_unique {l : List (Ent β)} {e : Ent β} (he : e ∈ l) (hu : ∀ f ∈ l, f.id = e.id → f = e) :
    l.find? (·.id == e.id) = some e := by
  cases hf : l.find? (·.id == e.id) with
  | none => exact absurd (List.find?_eq_none.mp hf e he) (by simp)
  | some f => rw [hu f (List.mem_of_find?_eq_some hf) (by simpa using List.find?_some hf)]

theorem find_id_eq_some {l : List (Ent β)} (h : IdsNodup l) {i : Id} {e : Ent β} :
    l.find? (·.id == i) = some e ↔ e ∈ l ∧ e.id = i := by
  constructor
  · intro hf
    exact ⟨List.mem_of_find?_eq_some hf, by simpa using List.find?_some hf⟩
  · rintro ⟨he, rfl⟩
    exact find_id_of_unique he fun f hf => ent_unique h hf he

theorem mem_groupByType {es : List (Ent β)} {e : Ent β} :
    e ∈ (groupByType es).flatten ↔ e ∈ es ∧ e.ty < nTypes := by
  unfold groupByType
  simp only [List.mem_flatten, List.mem_filterMap, List.mem_range]
  constructor
  · rintro ⟨b, ⟨t, ht, hb⟩, heb⟩
    split at hb
    · cases hb
    · cases hb
      have := List.mem_filter.mp heb
      have hty : e.ty = t := by simpa using this.2
      exact ⟨this.1, hty ▸ ht⟩
  · rintro ⟨he, ht⟩
    have hmem : e ∈ es.filter (·.ty == e.ty) := List.mem_filter.mpr ⟨he, by simp⟩
    refine ⟨es.filter (·.ty == e.ty), ⟨e.ty, ht, ?_⟩, hmem⟩
    rw [if_neg]
    intro hemp
    rw [List.isEmpty_iff.mp hemp] at hmem
    cases hmem

/-- well-typed blocks: every type tag is an index into `ELEMENT_TYPES` -/
def TypesOk (blocks : EBlocks β) : Prop := ∀ e ∈ blocks.flatten, e.ty < nTypes

/-- **`filter_with_ids` keeps exactly the requested entities that exist** -/
theorem mem_filterElems {blocks : EBlocks β} (hn : IdsNodup blocks.flatten) (ht : TypesOk blocks)
    {ids : List Id} {e : Ent β} :
    e ∈ (filterElems blocks ids).flatten ↔ e ∈ blocks.flatten ∧ e.id ∈ ids := by
  unfold filterElems
  simp only [mem_groupByType, List.mem_filterMap, List.mem_filter, entAt_eq_find,
    find_id_eq_some (idsNodup_flattenE hn), mem_flattenE]
  constructor
  · rintro ⟨⟨i, ⟨hi, _⟩, he, rfl⟩, _⟩
    exact ⟨he, hi⟩
  · rintro ⟨he, hi⟩
    refine ⟨⟨e.id, ⟨hi, ?_⟩, he, rfl⟩, ht e he⟩
    simp only [List.contains_eq_mem, List.mem_map, decide_eq_true_eq]
    exact ⟨e, mem_flattenE.mpr he, rfl⟩

theorem find_filterElems {blocks : EBlocks β} (hn : IdsNodup blocks.flatten) (ht : TypesOk blocks) {ids : List Id}
    {i : Id} (hi : i ∈ ids) :
    (filterElems blocks ids).flatten.find? (·.id == i) = blocks.flatten.find? (·.id == i) := by
  cases hf : blocks.flatten.find? (·.id == i) with
  | none =>
    rw [List.find?_eq_none] at hf ⊢
    exact fun e he => hf e ((mem_filterElems hn ht).mp he).1
  | some e =>
    obtain ⟨he, rfl⟩ := (find_id_eq_some hn).mp hf
    exact find_id_of_unique ((mem_filterElems hn ht).mpr ⟨he, hi⟩)
      fun f hf' => ent_unique hn ((mem_filterElems hn ht).mp hf').1 he

theorem isEmpty_false_of_mem_flatten {L : List (List β)} {e : β} (h : e ∈ L.flatten) : L.isEmpty = false := by
  cases L with
  | nil => simp at h
  | cons _ _ => rfl

/-- nodal variables rebuilt entry by entry under their keys: looked up by name, a value survives where every entry
    keeps it -/
theorem nodal_lookup_filterMap {g : Nat × Attr α → Option (Nat × Attr α)} {vars : List (Nat × Attr α)} {i : Id}
    (hg : ∀ kv ∈ vars, ∃ a, g kv = some (kv.1, a) ∧ a.lookup i = kv.2.lookup i) (name : Nat) :
    (((vars.filterMap g).find? (·.1 == name)).bind fun kv => kv.2.lookup i) =
      ((vars.find? (·.1 == name)).bind fun kv => kv.2.lookup i) := by
  induction vars with
  | nil => rfl
  | cons kv t ih =>
    obtain ⟨a, hga, hv⟩ := hg kv List.mem_cons_self
    rw [List.filterMap_cons_some hga, List.find?_cons, List.find?_cons]
    cases kv.1 == name
    · exact ih fun kv' h' => hg kv' (List.mem_cons_of_mem _ h')
    · exact hv

/-- nodal variables after `.loc[ids]`, looked up by name and id -/
theorem filterNodal_at {vars nd : List (Nat × Attr α)} {ids : List Id} (h : filterNodal vars ids = some nd)
    (name : Nat) {i : Id} (hi : i ∈ ids) :
    ((nd.find? (·.1 == name)).bind fun kv => kv.2.lookup i) = ((vars.find? (·.1 == name)).bind fun kv => kv.2.lookup i) := by
  unfold filterNodal at h
  rw [gather_eq_filterMap h]
  refine nodal_lookup_filterMap (fun kv hkv => ?_) name
  obtain ⟨kv', _, hkv'⟩ := gather_mem' h hkv
  obtain ⟨b, hb, rfl⟩ := Option.map_eq_some_iff.mp hkv'
  exact ⟨b, hkv', (filterWithIds_lookup hb hi).1⟩

theorem filterElemental_find (vars : List (Nat × EBlocks β)) (ids : List Id) (name : Nat) :
    (filterElemental vars ids).find? (·.1 == name) =
      (vars.find? (·.1 == name)).map fun kv => (kv.1, filterElems kv.2 ids) := by
  unfold filterElemental
  rw [List.find?_map]
  rfl

/-! ### assemble (common tail of the cuts) -/

theorem assemble_ok {m r : FEM α} {nodeIds eids : List Id} (h : assemble m nodeIds eids = .ok r) :
    m.nodes.filterWithIds nodeIds = some r.nodes ∧ filterNodal m.nodal nodeIds = some r.nodal ∧
    r.elems = filterElems m.elems eids ∧ r.elemental = filterElemental m.elemental eids := by
  unfold assemble at h
  split at h
  · cases h
  · split at h
    · cases h
    · cases h
      exact ⟨‹_›, ‹_›, rfl, rfl⟩

theorem maskFilter_map (p : α → Bool) (l : List α) : maskFilter (l.map p) l = l.filter p := by
  induction l with
  | nil => rfl
  | cons x t ih => simp only [List.map_cons, maskFilter, List.filter_cons, ih]

theorem maskFilter_nil (mask : List Bool) : maskFilter mask ([] : List α) = [] := by
  cases mask <;> rfl

theorem attrLookup_cons (x : Id) (xs : List Id) (d : α) (ds : List α) (i : Id) :
    (⟨x :: xs, d :: ds⟩ : Attr α).lookup i = if x = i then some d else (⟨xs, ds⟩ : Attr α).lookup i := by
  unfold Attr.lookup
  rw [idPos]
  split
  · rfl
  · rw [Option.bind_map]
    rfl

/-- slicing parallel arrays with the mask `np.isin(ids, …)` keeps the value of every id the mask admits -/
theorem attrLookup_filter (p : Id → Bool) (ids : List Id) (data : List α) {i : Id} (hi : p i = true) :
    (⟨maskFilter (ids.map p) ids, maskFilter (ids.map p) data⟩ : Attr α).lookup i = (⟨ids, data⟩ : Attr α).lookup i := by
  induction ids generalizing data with
  | nil => rfl
  | cons x xs ih =>
    cases data with
    | nil => simp only [Attr.lookup, maskFilter_nil, List.getElem?_nil, Option.bind_fun_none]
    | cons d ds =>
      rw [List.map_cons, attrLookup_cons]
      by_cases hx : x = i
      · rw [hx, hi, if_pos rfl]
        simp only [maskFilter, if_true, attrLookup_cons]
      · rw [if_neg hx, ← ih ds]
        cases p x
        · rfl
        · simp only [maskFilter, if_true, attrLookup_cons, if_neg hx]

theorem gather_maskFilter {f : ι → Option α} {l : List ι} {r : List α} (h : gather f l = some r) (mask : List Bool) :
    gather f (maskFilter mask l) = some (maskFilter mask r) := by
  induction mask generalizing l r with
  | nil => simp [maskFilter, gather]
  | cons b bs ih =>
    cases l with
    | nil => cases h; rfl
    | cons i t =>
      obtain ⟨a, r', hfi, hgt, rfl⟩ := gather_cons.mp h
      cases b with
      | true => exact gather_cons.mpr ⟨a, _, hfi, ih hgt, rfl⟩
      | false => exact ih hgt

/-- with distinct ids, fancy indexing of parallel arrays (`ids[idx]`, `data[idx]`) is `.loc` with the selected ids -/
theorem reslice_eq_filterWithIds {a : Attr α} (hn : a.ids.Nodup) {idx : List Nat} {ids' : List Id} {data' : List α}
    (h1 : gatherPos a.ids idx = some ids') (h2 : gatherPos a.data idx = some data') :
    a.filterWithIds ids' = some ⟨ids', data'⟩ := by
  have hg : gather a.lookup ids' = some data' := by
    induction idx generalizing ids' data' with
    | nil => cases h1; cases h2; rfl
    | cons j t ih =>
      obtain ⟨x, xs, hx, h1', rfl⟩ := gather_cons.mp h1
      obtain ⟨d, ds, hd, h2', rfl⟩ := gather_cons.mp h2
      obtain ⟨hj, rfl⟩ := List.getElem?_eq_some_iff.mp hx
      refine gather_cons.mpr ⟨d, ds, ?_, ih h1' h2', rfl⟩
      rw [Attr.lookup, idPos_get hn j hj]
      exact hd
  rw [Attr.filterWithIds, hg]
  rfl

/-- so for variables stored in one common node order, re-slicing by position is `.loc` as well -/
theorem resliceNodal_eq_filterNodal {vars nd : List (Nat × Attr α)} {ids ids' : List Id} (hn : ids.Nodup)
    {idx : List Nat} (hal : ∀ kv ∈ vars, kv.2.ids = ids) (hg : gatherPos ids idx = some ids')
    (h : resliceNodal vars ids' idx = some nd) : filterNodal vars ids' = some nd := by
  refine gather_congr h fun kv hkv kv' hkv' => ?_
  obtain ⟨d, hd, rfl⟩ := Option.map_eq_some_iff.mp hkv'
  have hk := hal kv hkv
  rw [reslice_eq_filterWithIds (a := kv.2) (hk ▸ hn) (hk ▸ hg) hd]
  rfl

theorem gatherPos_mem {l : List α} {idx : List Nat} {r : List α} (h : gatherPos l idx = some r) {a : α} :
    a ∈ r ↔ ∃ k ∈ idx, l[k]? = some a := by
  constructor
  · intro ha; exact gather_mem h ha
  · rintro ⟨k, hk, hka⟩
    obtain ⟨b, hb, hkb⟩ := gather_mem' h hk
    rw [hka] at hkb; cases hkb; exact hb

theorem gatherPos_nodup {l : List Id} (hn : l.Nodup) {idx : List Nat} (hx : idx.Nodup) {r : List Id}
    (h : gatherPos l idx = some r) : r.Nodup := by
  refine List.Nodup.of_map some (gather_some h ▸ hx.map_on fun j hj k _ hjk => ?_)
  obtain ⟨a, _, ha⟩ := gather_mem' h hj
  exact (List.getElem?_inj (List.getElem?_eq_some_iff.mp ha).1 hn).mp hjk

theorem sortedPairs_eq (ids : List Id) : sortedPairs ids = ids.zipIdx.insertionSort (fun a b => a.1 ≤ b.1) :=
  foldr_eq_insertionSort _ insertPair (fun _ => rfl) (fun _ _ _ => rfl) _

theorem sortedPairs_perm (ids : List Id) : (sortedPairs ids).Perm ids.zipIdx :=
  sortedPairs_eq ids ▸ List.perm_insertionSort _ _

theorem sortedPairs_sorted (ids : List Id) : (sortedPairs ids).Pairwise (fun a b => a.1 ≤ b.1) :=
  sortedPairs_eq ids ▸
    @List.pairwise_insertionSort _ _ _ ⟨fun (a b : Nat × Nat) => Nat.le_total a.1 b.1⟩ ⟨fun _ _ _ => Nat.le_trans⟩ _

theorem mem_zipIdx_getElem {ids : List Id} {p : Nat × Nat} (h : p ∈ ids.zipIdx) : ids[p.2]? = some p.1 := by
  obtain ⟨x, k⟩ := p
  have := List.mem_zipIdx h
  simp only [Nat.zero_le, Nat.sub_zero, true_and] at this
  obtain ⟨hk, hx⟩ := this
  simp only [zero_add] at hk
  rw [List.getElem?_eq_getElem hk, hx]

/-- the ids in ascending order: `ids[argsort ids]` -/
theorem sortedIds_perm (ids : List Id) : ((sortedPairs ids).map (·.1)).Perm ids := by
  have := (sortedPairs_perm ids).map (·.1)
  rwa [List.zipIdx_map_fst] at this

theorem sortedIds_strict {ids : List Id} (hn : ids.Nodup) : ((sortedPairs ids).map (·.1)).Pairwise (· < ·) := by
  have h1 : ((sortedPairs ids).map (·.1)).Pairwise (· ≤ ·) := by
    rw [List.pairwise_map]; exact sortedPairs_sorted ids
  have h2 : ((sortedPairs ids).map (·.1)).Nodup := (sortedIds_perm ids).nodup_iff.mpr hn
  exact (h1.and h2).imp (fun ⟨a, b⟩ => lt_of_le_of_ne a b)

/-- `ids[argsort ids] = sorted ids` -/
theorem gatherPos_argsort (ids : List Id) : gatherPos ids (argsort ids) = some ((sortedPairs ids).map (·.1)) := by
  have hall : ∀ p ∈ sortedPairs ids, ids[p.2]? = some p.1 :=
    fun p hp => mem_zipIdx_getElem ((sortedPairs_perm ids).mem_iff.mp hp)
  unfold argsort gatherPos
  revert hall
  generalize sortedPairs ids = L
  intro hall
  induction L with
  | nil => rfl
  | cons p t ih =>
    simp only [List.map_cons, gather, hall p (by simp), ih (fun q hq => hall q (List.mem_cons_of_mem _ hq))]

theorem sweepE_nil (os : List Nat) : sweepE os [] = some (os.map fun _ => false) := by
  cases os <;> simp [sweepE]

theorem sweepE_sublist {orig useful : List Nat} {mask : List Bool} (h : sweepE orig useful = some mask) :
    useful.Sublist orig := by
  induction orig generalizing useful mask with
  | nil =>
    cases useful with
    | nil => exact .slnil
    | cons u us => cases h
  | cons o os ih =>
    cases useful with
    | nil => exact List.nil_sublist _
    | cons u us =>
      simp only [sweepE] at h
      split at h
      · obtain ⟨_, h', _⟩ := Option.map_eq_some_iff.mp h
        exact (ih h').cons o
      · rename_i hou
        obtain ⟨_, h', _⟩ := Option.map_eq_some_iff.mp h
        exact (not_not.mp hou) ▸ (ih h').cons_cons o

/-- on duplicate-free node ids of which the useful ids are a sublist the two-pointer sweep does not run off the end and
    computes the membership mask -/
theorem sweepE_of_sublist {orig useful : List Nat} (hn : orig.Nodup) (h : useful.Sublist orig) :
    sweepE orig useful = some (orig.map fun o => decide (o ∈ useful)) := by
  induction h with
  | slnil => rfl
  | @cons useful os o hs ih =>
    obtain ⟨ho, hos⟩ := List.nodup_cons.mp hn
    have hnot : o ∉ useful := fun hm => ho (hs.subset hm)
    cases useful with
    | nil => simp [sweepE_nil]
    | cons u us =>
      have hou : o ≠ u := fun h => hnot (h ▸ List.mem_cons_self)
      rw [sweepE, if_pos hou, ih hos, List.map_cons, decide_eq_false hnot]
      rfl
  | @cons_cons us os o hs ih =>
    obtain ⟨ho, hos⟩ := List.nodup_cons.mp hn
    have hmask : (os.map fun x => decide (x ∈ o :: us)) = os.map fun x => decide (x ∈ us) :=
      List.map_congr_left fun x hx => by simp [show x ≠ o from fun h => ho (h ▸ hx)]
    rw [sweepE, if_neg fun h => h rfl, ih hos, List.map_cons, decide_eq_true List.mem_cons_self, hmask]
    rfl

theorem sortFacets_perm (fs : List (List Nat)) : (sortFacets fs).Perm fs := by
  have : sortFacets fs = fs.insertionSort (fun f g => ¬lexLt (faceKey g) (faceKey f)) :=
    foldr_eq_insertionSort _ insertFacet (fun _ => rfl) (fun _ _ _ => (ite_not ..).symm) fs
  exact this ▸ List.perm_insertionSort _ _

theorem mem_sortFacets {g : List Nat} {fs : List (List Nat)} : g ∈ sortFacets fs ↔ g ∈ fs :=
  (sortFacets_perm fs).mem_iff

theorem mem_firstOccurrences {seen fs : List (List Nat)} {g : List Nat} (h : g ∈ firstOccurrences seen fs) : g ∈ fs := by
  induction fs generalizing seen with
  | nil => simp [firstOccurrences] at h
  | cons f t ih =>
    simp only [firstOccurrences] at h
    split at h
    · exact List.mem_cons_of_mem _ (ih h)
    · rcases List.mem_cons.mp h with rfl | h
      · exact List.mem_cons_self
      · exact List.mem_cons_of_mem _ (ih h)

theorem firstOccurrences_complete {seen fs : List (List Nat)} {f : List Nat} (hf : f ∈ fs) :
    faceKey f ∈ seen ∨ ∃ g ∈ firstOccurrences seen fs, faceKey g = faceKey f := by
  induction fs generalizing seen with
  | nil => simp at hf
  | cons h t ih =>
    simp only [firstOccurrences]
    rcases List.mem_cons.mp hf with rfl | hft
    · split
      · rename_i hs; exact Or.inl (by simpa using hs)
      · exact Or.inr ⟨f, by simp, rfl⟩
    · split
      · exact ih hft
      · rcases ih (seen := faceKey h :: seen) hft with hs | ⟨g, hg, hk⟩
        · rcases List.mem_cons.mp hs with hs | hs
          · exact Or.inr ⟨h, by simp, hs.symm⟩
          · exact Or.inl hs
        · exact Or.inr ⟨g, List.mem_cons_of_mem _ hg, hk⟩

theorem mem_removeDuplicates {fs : List (List Nat)} {g : List Nat} (h : g ∈ removeDuplicates fs) : g ∈ fs :=
  mem_firstOccurrences (mem_sortFacets.mp h)

theorem removeDuplicates_complete {fs : List (List Nat)} {f : List Nat} (hf : f ∈ fs) :
    ∃ g ∈ removeDuplicates fs, faceKey g = faceKey f := by
  rcases firstOccurrences_complete (seen := []) hf with h | ⟨g, hg, hk⟩
  · simp at h
  · exact ⟨g, mem_sortFacets.mpr hg, hk⟩

theorem mem_onceOnly {fs : List (List Nat)} {g : List Nat} :
    g ∈ onceOnly fs ↔ g ∈ fs ∧ (fs.map faceKey).count (faceKey g) = 1 := by
  simp [onceOnly, mem_sortFacets, List.mem_filter]

/-- the entries that occur exactly once in a list are pairwise distinct -/
theorem nodup_filter_count_one {κ : Type} [BEq κ] [LawfulBEq κ] (l : List κ) :
    (l.filter fun k => l.count k == 1).Nodup := by
  rw [List.nodup_iff_count_le_one]
  intro a
  by_cases ha : (l.count a == 1) = true
  · rw [List.count_filter (p := fun k => l.count k == 1) ha]; exact Nat.le_of_eq (by simpa using ha)
  · have : a ∉ l.filter fun k => l.count k == 1 := fun hm => ha (List.mem_filter.mp hm).2
    rw [List.count_eq_zero_of_not_mem this]; exact Nat.zero_le _

/-- the rows kept by `_extract_surface` have pairwise different vertex sets -/
theorem onceOnly_keys_nodup (fs : List (List Nat)) : ((onceOnly fs).map faceKey).Nodup := by
  unfold onceOnly
  rw [((sortFacets_perm _).map faceKey).nodup_iff]
  have := nodup_filter_count_one (fs.map faceKey)
  rw [List.filter_map] at this
  exact this

/-- `row` is one of the `w`-vertex faces of an element of the mesh (per-type face table `ft`) -/
def IsFacetOf (ft : Nat → Option (List (List Nat))) (blocks : EBlocks (List Id)) (w : Nat) (row : List Id) : Prop :=
  ∃ e ∈ blocks.flatten, ∃ tbl, ft e.ty = some tbl ∧ ∃ f ∈ tbl, f.length = w ∧ row = f.filterMap (e.val[·]?)

theorem mem_facetsOfWidth {ft : Nat → Option (List (List Nat))} {blocks : EBlocks (List Id)} {w : Nat}
    {t : List (List Id)} (h : facetsOfWidth ft blocks w = some t) {row : List Id} :
    row ∈ t ↔ IsFacetOf ft blocks w row := by
  obtain ⟨L, hg, rfl⟩ := Option.map_eq_some_iff.mp h
  simp only [List.mem_flatten]
  constructor
  · rintro ⟨rows, hrows, hrow⟩
    obtain ⟨e, he, hfe⟩ := gather_mem hg hrows
    obtain ⟨tbl, hft, rfl⟩ := Option.map_eq_some_iff.mp hfe
    obtain ⟨f, hf, rfl⟩ := List.mem_map.mp hrow
    obtain ⟨hft', hlen⟩ := List.mem_filter.mp hf
    exact ⟨e, he, tbl, hft, f, hft', by simpa using hlen, rfl⟩
  · rintro ⟨e, he, tbl, hft, f, hf, hlen, rfl⟩
    obtain ⟨rows, hrows, hfe⟩ := gather_mem' hg he
    simp only [hft, Option.map_some, Option.some.injEq] at hfe
    subst hfe
    exact ⟨_, hrows, List.mem_map.mpr ⟨f, List.mem_filter.mpr ⟨hf, by simpa using hlen⟩, rfl⟩⟩

theorem numberFrom_vals {s ty : Nat} (rows : List β) : (numberFrom s ty rows).map (·.val) = rows := by
  unfold numberFrom
  rw [List.map_map]
  exact List.zipIdx_map_fst _ _

/-- the payloads of the new surface elements, in element-id order: the triangle rows, then the quadrangle rows -/
theorem surfaceElems_vals (tris quads : List (List Id)) :
    (surfaceElems tris quads).flatten.map (·.val) = tris ++ quads := by
  -- dropping the empty blocks does not change the flattened list
  have hflat : (surfaceElems tris quads).flatten = numberFrom 0 3 tris ++ numberFrom tris.length 5 quads := by
    rw [surfaceElems, List.flatten_filter_not_isEmpty, List.flatten_cons, List.flatten_cons, List.flatten_nil,
      List.append_nil]
  rw [hflat, List.map_append, numberFrom_vals, numberFrom_vals]

theorem mem_surfaceElems_vals {tris quads : List (List Id)} {row : List Id} :
    row ∈ (surfaceElems tris quads).flatten.map (·.val) ↔ row ∈ tris ∨ row ∈ quads := by
  rw [surfaceElems_vals, List.mem_append]

/-- translating ids to positions and back gives the ids again (`nodes.ids[nodes.ids2indices(x)] = x`) -/
theorem gather_roundtrip {γ : Type} {f : ι → Option γ} {g : γ → Option ι} {l s : List ι} {r : List γ}
    (h1 : gather f l = some r) (h2 : gather g r = some s)
    (hfg : ∀ i a, f i = some a → ∀ j, g a = some j → j = i) : s = l := by
  induction l generalizing r s with
  | nil => cases h1; cases h2; rfl
  | cons i t ih =>
    obtain ⟨a, r', hfi, hgt, rfl⟩ := gather_cons.mp h1
    obtain ⟨j, s', hgj, hgs, rfl⟩ := gather_cons.mp h2
    rw [hfg i a hfi j hgj, ih hgt hgs]

theorem ids_roundtrip {ids : List Id} {rows st : List (List Id)} {pt : List (List Nat)}
    (h1 : gather (gather (idPos ids)) rows = some pt) (h2 : gather (gatherPos ids) pt = some st) : st = rows := by
  apply gather_roundtrip h1 h2
  intro row pr hrow row' hrow'
  apply gather_roundtrip hrow hrow'
  intro n k hk j hj
  obtain ⟨hkl, hki⟩ := idPos_some hk
  rw [List.getElem?_eq_getElem hkl, hki] at hj
  exact (Option.some.inj hj).symm

/-- Horner keys with digits below the base determine the digits -/
theorem radixKey_aux {B : Nat} : ∀ (r s : List Nat) (k k' : Nat), r.length = s.length →
    (∀ x ∈ r, x < B) → (∀ x ∈ s, x < B) →
    r.foldl (fun k d => k * B + d) k = s.foldl (fun k d => k * B + d) k' → k = k' ∧ r = s
  | [], [], _, _, _, _, _, h => ⟨h, rfl⟩
  | x :: t, y :: u, k, k', hl, hr, hs, h => by
    obtain ⟨hk, htu⟩ := radixKey_aux t u _ _ (by simpa using hl)
      (fun z hz => hr z (List.mem_cons_of_mem _ hz)) (fun z hz => hs z (List.mem_cons_of_mem _ hz)) h
    have hx := hr x List.mem_cons_self
    have hy := hs y List.mem_cons_self
    have hxy : x = y := by
      have := congrArg (· % B) hk
      simpa [Nat.mul_add_mod_self_right, Nat.mod_eq_of_lt hx, Nat.mod_eq_of_lt hy] using this
    subst hxy
    exact ⟨Nat.eq_of_mul_eq_mul_right (by omega) (Nat.add_right_cancel hk), by rw [htu]⟩
  | [], _ :: _, _, _, hl, _, _, _ => by simp at hl
  | _ :: _, [], _, _, hl, _, _, _ => by simp at hl

end Femio.SubMesh
