import Femio.Model.Faces
import Femio.Lemmas.Boundary
import Femio.Lemmas.InsertionSort

open Faces

theorem key_eq_insertionSort (f : Face) : key f = f.insertionSort (· ≤ ·) :=
  foldr_eq_insertionSort _ insertNat (fun _ => rfl) (fun _ _ _ => rfl) f

theorem key_perm (f : Face) : (key f).Perm f :=
  key_eq_insertionSort f ▸ List.perm_insertionSort _ f

def Bal (es : List (Nat × Nat)) : Prop := ∀ e : Nat × Nat, es.count e = es.count (e.2, e.1)

theorem balB_sound (es : List (Nat × Nat)) (h : balB es = true) : Bal es := by
  intro e
  simp only [balB, List.all_eq_true, beq_iff_eq] at h
  by_cases he : e ∈ es
  · exact h e he
  · by_cases he' : (e.2, e.1) ∈ es
    · have := h _ he'
      simp only at this
      rw [this]
    · rw [List.count_eq_zero.mpr he, List.count_eq_zero.mpr he']

/-- weight of a face for a fixed directed edge `e`: (#e − #ē) -/
def wt (e : Nat × Nat) (f : Face) : ℤ := ((dirEdges f).count e : ℤ) - ((dirEdges f).count (e.2, e.1) : ℤ)

theorem sum_wt (e : Nat × Nat) (fs : List Face) :
    (fs.map (wt e)).sum = ((edgesOf fs).count e : ℤ) - ((edgesOf fs).count (e.2, e.1) : ℤ) := by
  induction fs with
  | nil => simp [edgesOf]
  | cons f t ih =>
    simp only [List.map_cons, List.sum_cons, ih, edgesOf, List.flatMap_cons, List.count_append, wt]
    push_cast; ring

theorem fiber_eq (fs : List Face) (k : List Nat) : fiber key fs k = fiberB fs k := by
  unfold fiber fiberB
  apply List.filter_congr
  intro f _
  by_cases h : key f = k <;> simp [h]

theorem boundary_eq (fs : List Face) : boundary key fs = boundaryB fs := by
  unfold boundary boundaryB
  apply List.filter_congr
  intro f _
  rw [fiber_eq]
  by_cases h : (fiberB fs (key f)).length = 1 <;> simp [h]

theorem fiberB_length (fs : List Face) (k : List Nat) : (fiberB fs k).length = (fs.map key).count k := by
  rw [fiberB, List.count_eq_countP, List.countP_map, List.countP_eq_length_filter]
  rfl

/-- a fibre is empty or the fibre of one of the faces, which is where the conformity checks look -/
theorem fiberB_eq_nil_or (fs : List Face) (k : List Nat) : fiberB fs k = [] ∨ ∃ f ∈ fs, key f = k := by
  cases h : fiberB fs k with
  | nil => exact Or.inl rfl
  | cons f t =>
    have hf : f ∈ fiberB fs k := h ▸ List.mem_cons_self
    exact Or.inr ⟨f, (List.mem_filter.mp hf).1, by simpa using (List.mem_filter.mp hf).2⟩

/-- **C10_closed**: if every element is closed (the edges of all faces are balanced) and the mesh is
    conforming (Boolean check), the extracted surface is closed: each directed edge of the boundary
    occurs as often as its reverse. -/
theorem surface_closed (fs : List Face) (hall : balB (edgesOf fs) = true) (hconf : conformingB fs = true) :
    Bal (edgesOf (boundaryB fs)) := by
  intro e
  have h : ((boundary key fs).map (wt e)).sum = 0 := by
    apply boundary_sum_zero key (wt e) fs
    · rw [sum_wt, balB_sound _ hall e, sub_self]
    · intro k hk
      rw [fiber_eq] at hk ⊢
      rcases fiberB_eq_nil_or fs k with h0 | ⟨f, hf, rfl⟩
      · rw [h0]; rfl
      · simp only [conformingB, List.all_eq_true, Bool.or_eq_true, beq_iff_eq] at hconf
        rcases hconf f hf with h1 | hb
        · exact absurd h1 hk
        · rw [sum_wt, balB_sound _ hb e, sub_self]
  rw [boundary_eq, sum_wt, sub_eq_zero] at h
  exact_mod_cast h

/-- non-vacuity: two tets glued along a face (femio's own face table, ids 0..4) -/
def twoTets : List Face :=
  [[0,2,1],[0,1,3],[1,2,3],[0,3,2],   -- tet (0,1,2,3)
   [1,3,2],[1,2,4],[2,3,4],[1,4,3]]   -- tet (1,2,3,4) mirrored: shares {1,2,3} with opposite orientation
example : balB (edgesOf twoTets) = true ∧ conformingB twoTets = true ∧ (boundaryB twoTets).length = 6 := by decide +kernel

#print axioms surface_closed
