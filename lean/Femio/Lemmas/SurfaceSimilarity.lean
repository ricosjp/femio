import Femio.Lemmas.VolumeD

/-! Behaviour of the flux / volume kernels of C10 under a change of ABSOLUTE SCALE (`p ↦ s • p`) and under a FAR
    OFFSET (`p ↦ p + t`): per face the flux of `x/3` scales with `s³`; per element the "centroid" volume kernel
    (which femio evaluates in absolute coordinates) does not depend on the offset. -/
namespace Femio.C10
open Core Faces

variable {R : Type} [CommRing R]

/-- the flux (×24) through one face scales with the cube of the scale factor; faces of other arities carry flux 0 -/
theorem faceFlux24_smul (s : R) (pt : Nat → V3 R) (f : Face) :
    faceFlux24 4 0 (fun i => V3.smul s (pt i)) f = s ^ 3 * faceFlux24 4 0 pt f := by
  rcases f with _ | ⟨a, _ | ⟨b, _ | ⟨c, _ | ⟨d, _ | ⟨e, t⟩⟩⟩⟩⟩
  · simp only [faceFlux24, mul_zero]
  · simp only [faceFlux24, mul_zero]
  · simp only [faceFlux24, mul_zero]
  · simp only [faceFlux24, det_smul]; ring
  · simp only [faceFlux24, quadC4_smul]
  · simp only [faceFlux24, mul_zero]

theorem sum_faceFlux24_smul (s : R) (pt : Nat → V3 R) (fs : List Face) :
    (fs.map (faceFlux24 4 0 (fun i => V3.smul s (pt i)))).sum = s ^ 3 * (fs.map (faceFlux24 4 0 pt)).sum := by
  induction fs with
  | nil => simp
  | cons f t ih => simp only [List.map_cons, List.sum_cons, ih, faceFlux24_smul]; ring

/-- the "centroid" volume kernel (×24) of a solid element does not see a translation of all nodes -/
theorem elemVol24_translate (pt : Nat → V3 R) (t : V3 R) (e : Elem) (h : solidB e = true) :
    elemVol24 4 0 (fun i => V3.add (pt i) t) e = elemVol24 4 0 pt e := by
  obtain ⟨id, ty, conn⟩ := e
  simp only [solidB, Bool.and_eq_true, Bool.or_eq_true, beq_iff_eq] at h
  obtain ⟨hty, hlen⟩ := h
  rcases hty with (((h8 | h9) | h10) | h12) | h14
  · subst h8
    obtain ⟨a, b, c, d, rfl⟩ := len4 conn hlen
    exact congrArg (4 * ·) (tet6_translate t ..)
  · subst h9
    obtain ⟨a, b, c, d, r, rfl⟩ := len_ge4 conn (by simp [arity] at hlen; omega)
    exact congrArg (4 * ·) (tet6_translate t ..)
  · subst h10
    obtain ⟨a, b, c, d, e, rfl⟩ := len5 conn hlen
    exact pyrC24_translate t ..
  · subst h12
    obtain ⟨a, b, c, d, e, f, rfl⟩ := len6 conn hlen
    exact prismC24_translate t ..
  · subst h14
    obtain ⟨a, b, c, d, e, f, g, i, rfl⟩ := len8 conn hlen
    exact hexC24_translate t ..

theorem totalVol24_translate (pt : Nat → V3 R) (t : V3 R) (blocks : List (List Elem))
    (h : solidMeshB blocks = true) :
    totalVol24 4 0 (fun i => V3.add (pt i) t) blocks = totalVol24 4 0 pt blocks := by
  unfold totalVol24
  congr 1
  apply List.map_congr_left
  intro e he
  simp only [solidMeshB, List.all_eq_true] at h
  obtain ⟨b, hb, heb⟩ := List.mem_flatten.mp he
  exact elemVol24_translate pt t e (h b hb e heb)

end Femio.C10
