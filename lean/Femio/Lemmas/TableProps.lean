import Femio.Gen.Tables
import Femio.Model.Faces

/-! Obligations on tables regenerated from the working tree (tie T). All by kernel `decide`. -/
open Femio.Gen Faces

/-- every element's own face table is closed: each directed edge once, its reverse once -/
def closedTable (fs : List (List Nat)) : Bool :=
  let es := edgesOf fs
  es.all fun e => es.count e == 1 && es.count (e.2, e.1) == 1

theorem C10_element_closed :
    closedTable faces_tet = true ∧ closedTable faces_tet2 = true ∧ closedTable faces_hex = true ∧
    closedTable faces_pyr = true ∧ closedTable faces_prism = true ∧ closedTable faces_hexprism = true := by decide +kernel

def applyPerm (p : List Nat) (l : List Nat) : List Nat := p.map fun i => l.getD i 0

/-- C01: prism reordering on write followed by the one on read is the identity on positions -/
theorem C01_prism_perm_involutive : applyPerm prismPermRead (applyPerm prismPermWrite (List.range 6)) = List.range 6 := by decide +kernel
/-- C06: tet2 export and import permutations are mutually inverse -/
theorem C06_tet2_perms_inverse :
    applyPerm tet2FromMeshio (applyPerm tet2ToMeshio (List.range 10)) = List.range 10 ∧
    applyPerm tet2ToMeshio (applyPerm tet2FromMeshio (List.range 10)) = List.range 10 := by decide +kernel

def lookupNat (k : Nat) : List (Nat × Nat) → Option Nat
  | [] => none
  | (a, b) :: t => if a = k then some b else lookupNat k t

/-- C01: the two directions of the FrontISTR element-code table are mutually inverse on every type the
    writer accepts, except those the reader deliberately does not know -/
def roundTrips (ty : Nat) : Bool :=
  match lookupNat ty fistrTypeToCode with
  | none => true
  | some c => lookupNat c fistrCodeToType == some ty
-- indices in ELEMENT_TYPES: line 0, line2 1, spring 2, tri 3, quad 5, tet 8, tet2 9, prism 12, hex 14, hex2 15
theorem C01_codes_inverse : [0, 1, 2, 3, 5, 8, 9, 12, 14, 15].all roundTrips = true := by decide +kernel
/-- prism2 (index 13) is written as 352 but 352 is not in the reader's table: recorded, outside the property's type list -/
theorem prism2_not_readable : roundTrips 13 = false := by decide +kernel

/-- C17: index tables of the array ↔ symmetric-matrix conversion are mutually inverse -/
theorem C17_idx_inverse : applyPerm mat2arrIdx (applyPerm arr2matIdx (List.range 6)) = List.range 6 := by decide +kernel
/-- C17: the matrix `arr2matIdx` builds is symmetric: entry (i,j) and (j,i) read the same component -/
theorem C17_symmetric : [(1,3),(2,6),(5,7)].all (fun (p : Nat × Nat) => arr2matIdx.getD p.1 0 == arr2matIdx.getD p.2 0) = true := by decide +kernel

/-- C10/fistr: (element, face number) rows of one tet list its four faces, numbers 1..4 each once -/
theorem C10_fistr_numbers : key (fistrTetFaceRows.map fun r => r.getD 1 0) = [1, 2, 3, 4] := by decide +kernel
