import Femio.Model.Tensor
import Femio.Lemmas.GradientLemmas

/-! Helper lemmas for C17.  Matrices are handled through their columns: `R diag(w) Rᵀ = Σ_k w_k c_k c_kᵀ`, and `Σ_k c_k c_kᵀ = 1`
    for an orthonormal frame, so the sum does not change when the frame is reordered or its third vector is re-created as a
    cross product.  Ring laws of `mmul`/`madd` are Mathlib's, pulled back along `toMatrix`.  The generated index tables enter only
    through evaluations on lists of symbols (`gather_tables`, `gather_tables_sym`, `scale_cancel`, `gather_default`). -/
namespace Femio.Tensor
open V3 Femio.Gradient Femio.Gen

variable {K : Type}

theorem m3_ext {A B : M3 K} (h0 : A.r0 = B.r0) (h1 : A.r1 = B.r1) (h2 : A.r2 = B.r2) : A = B := by
  cases A; cases B; simp_all
theorem toMatrix_inj {A B : M3 K} (h : toMatrix A = toMatrix B) : A = B :=
  have e := fun i j => congrFun (congrFun h i) j
  m3_ext (v3_ext (e 0 0) (e 0 1) (e 0 2)) (v3_ext (e 1 0) (e 1 1) (e 1 2)) (v3_ext (e 2 0) (e 2 1) (e 2 2))
theorem toMatrix_transpose (A : M3 K) : toMatrix (transpose A) = (toMatrix A).transpose := by
  rw [Matrix.eta_fin_three (toMatrix A).transpose]; rfl
theorem ofCols_cols (V : M3 K) : ofCols (col0 V) (col1 V) (col2 V) = V := rfl

variable [Field K]

def one3 : M3 K := ⟨⟨1, 0, 0⟩, ⟨0, 1, 0⟩, ⟨0, 0, 1⟩⟩

theorem toMatrix_mmul (A B : M3 K) : toMatrix (mmul A B) = toMatrix A * toMatrix B :=
  (Matrix.mul_fin_three ..).symm
theorem toMatrix_one : toMatrix (one3 : M3 K) = 1 := Matrix.one_fin_three.symm
theorem toMatrix_madd (A B : M3 K) : toMatrix (madd A B) = toMatrix A + toMatrix B := by
  rw [Matrix.eta_fin_three (toMatrix A + toMatrix B)]; rfl

theorem toMatrix_diag3 (d : V3 K) : toMatrix (diag3 d) = Matrix.diagonal ![d.x, d.y, d.z] :=
  (Matrix.diagonal_vec3 ..).symm
theorem toMatrix_diag3_map (d : V3 K) (f : K → K) :
    toMatrix (diag3 ⟨f d.x, f d.y, f d.z⟩) = Matrix.diagonal fun i => f (![d.x, d.y, d.z] i) :=
  (Matrix.diagonal_fin_three fun i => f (![d.x, d.y, d.z] i)).symm

theorem gram (a b c : V3 K) : mmul (transpose (ofCols a b c)) (ofCols a b c)
    = ⟨⟨dot a a, dot a b, dot a c⟩, ⟨dot b a, dot b b, dot b c⟩, ⟨dot c a, dot c b, dot c c⟩⟩ := rfl
/-- `Rᵀ R = 1` read entry by entry: the columns of `R` are orthonormal -/
theorem orth_iff (a b c : V3 K) : mmul (transpose (ofCols a b c)) (ofCols a b c) = one3 ↔
    (dot a a = 1 ∧ dot a b = 0 ∧ dot a c = 0) ∧ (dot b a = 0 ∧ dot b b = 1 ∧ dot b c = 0)
      ∧ (dot c a = 0 ∧ dot c b = 0 ∧ dot c c = 1) := by
  rw [gram, one3, M3.mk.injEq, V3.mk.injEq, V3.mk.injEq, V3.mk.injEq]
theorem mmul_ofCols_transpose (a' b' c' a b c : V3 K) :
    mmul (ofCols a' b' c') (transpose (ofCols a b c)) = madd (madd (outer a' a) (outer b' b)) (outer c' c) := by
  simp only [mmul, ofCols, transpose, madd, outer, V3.add, smul, dot]
theorem mmul_ofCols (A : M3 K) (a b c : V3 K) :
    mmul A (ofCols a b c) = ofCols (mulVec A a) (mulVec A b) (mulVec A c) := by
  simp only [mmul, ofCols, transpose, mulVec]
theorem mmul_ofCols_diag3 (a b c w : V3 K) :
    mmul (ofCols a b c) (diag3 w) = ofCols (smul w.x a) (smul w.y b) (smul w.z c) := by
  simp only [mmul, ofCols, transpose, diag3, dot, smul, mul_zero, add_zero, zero_add, mul_comm]
theorem outer_smul (s : K) (a b : V3 K) : outer (smul s a) b = msmul s (outer a b) := by
  simp only [outer, msmul, smul, mul_assoc]

theorem orth_comm {V : M3 K} (h : mmul (transpose V) V = one3) : mmul V (transpose V) = one3 := by
  apply toMatrix_inj
  have h' := congrArg toMatrix h
  rw [toMatrix_mmul, toMatrix_transpose, toMatrix_one] at h'
  rw [toMatrix_mmul, toMatrix_transpose, toMatrix_one]
  exact mul_eq_one_comm.mp h'

theorem mmul_assoc (A B C : M3 K) : mmul (mmul A B) C = mmul A (mmul B C) := by
  apply toMatrix_inj; simp only [toMatrix_mmul, Matrix.mul_assoc]
theorem mmul_one (A : M3 K) : mmul A one3 = A := by
  apply toMatrix_inj; rw [toMatrix_mmul, toMatrix_one, Matrix.mul_one]
theorem one_mmul (A : M3 K) : mmul one3 A = A := by
  apply toMatrix_inj; rw [toMatrix_mmul, toMatrix_one, Matrix.one_mul]
theorem transpose_mmul (A B : M3 K) : transpose (mmul A B) = mmul (transpose B) (transpose A) := by
  apply toMatrix_inj; simp only [toMatrix_mmul, toMatrix_transpose, Matrix.transpose_mul]
theorem madd_comm (A B : M3 K) : madd A B = madd B A := by
  apply toMatrix_inj; rw [toMatrix_madd, toMatrix_madd, add_comm]
theorem madd_assoc (A B C : M3 K) : madd (madd A B) C = madd A (madd B C) := by
  apply toMatrix_inj; simp only [toMatrix_madd, add_assoc]
theorem madd_left_cancel {A X Y : M3 K} (h : madd A X = madd A Y) : X = Y := by
  apply toMatrix_inj
  have := congrArg toMatrix h
  rwa [toMatrix_madd, toMatrix_madd, add_right_inj] at this

/-- `R diag(w) Rᵀ = Σ_k w_k c_k c_kᵀ` for `R` with columns `c_k` -/
theorem rebuild_eq_sum (a b c w : V3 K) :
    mmul (mmul (ofCols a b c) (diag3 w)) (transpose (ofCols a b c))
      = madd (madd (msmul w.x (outer a a)) (msmul w.y (outer b b))) (msmul w.z (outer c c)) := by
  rw [mmul_ofCols_diag3, mmul_ofCols_transpose, outer_smul, outer_smul, outer_smul]

/-- Lagrange identity -/
theorem cross_dot_self (a b : V3 K) : dot (cross a b) (cross a b) = dot a a * dot b b - dot a b * dot a b := by
  simp only [dot, cross]; ring
theorem cross_dot_left (a b : V3 K) : dot (cross a b) a = 0 := by simp only [dot, cross]; ring
theorem cross_dot_right (a b : V3 K) : dot (cross a b) b = 0 := by simp only [dot, cross]; ring
theorem dot_comm (a b : V3 K) : dot a b = dot b a := by simp only [dot, mul_comm]
theorem det3_ofCols (a b c : V3 K) : det3 (ofCols a b c) = dot (cross a b) c := by
  simp only [det3, V3.det, ofCols, transpose, dot, cross]; ring

theorem frame_orth {a b : V3 K} (haa : dot a a = 1) (hbb : dot b b = 1) (hab : dot a b = 0) :
    mmul (transpose (ofCols a b (cross a b))) (ofCols a b (cross a b)) = one3
    ∧ det3 (ofCols a b (cross a b)) = 1 := by
  have hcc : dot (cross a b) (cross a b) = 1 := by rw [cross_dot_self, haa, hbb, hab]; ring
  have hca := cross_dot_left a b
  have hcb := cross_dot_right a b
  exact ⟨(orth_iff _ _ _).2 ⟨⟨haa, hab, (dot_comm _ _).trans hca⟩, ⟨(dot_comm _ _).trans hab, hbb, (dot_comm _ _).trans hcb⟩,
    hca, hcb, hcc⟩, by rw [det3_ofCols, hcc]⟩

theorem sum_outer_of_orth {a b c : V3 K} (h : mmul (transpose (ofCols a b c)) (ofCols a b c) = one3) :
    madd (madd (outer a a) (outer b b)) (outer c c) = one3 := by
  rw [← mmul_ofCols_transpose]; exact orth_comm h

/-- If `a, b, c` is an orthonormal basis then so is `a, b, a × b`, and `Σ_k d_k d_kᵀ = 1` for both.  So overwriting the
    third eigenvector by the cross product of the other two does not change `Σ λ_k d_k d_kᵀ`. -/
theorem outer_cross_of_orth {a b c : V3 K} (h : mmul (transpose (ofCols a b c)) (ofCols a b c) = one3) :
    outer (cross a b) (cross a b) = outer c c := by
  obtain ⟨⟨haa, hab, -⟩, ⟨-, hbb, -⟩, -⟩ := (orth_iff a b c).1 h
  exact madd_left_cancel ((sum_outer_of_orth (frame_orth haa hbb hab).1).trans (sum_outer_of_orth h).symm)

theorem rebuild_cross {a b c : V3 K} (h : mmul (transpose (ofCols a b c)) (ofCols a b c) = one3) (w : V3 K) :
    mmul (mmul (ofCols a b (cross a b)) (diag3 w)) (transpose (ofCols a b (cross a b)))
      = mmul (mmul (ofCols a b c) (diag3 w)) (transpose (ofCols a b c)) := by
  rw [rebuild_eq_sum, rebuild_eq_sum, outer_cross_of_orth h]

theorem rebuild_rev (a b c w : V3 K) :
    mmul (mmul (ofCols c b a) (diag3 ⟨w.z, w.y, w.x⟩)) (transpose (ofCols c b a))
      = mmul (mmul (ofCols a b c) (diag3 w)) (transpose (ofCols a b c)) := by
  rw [rebuild_eq_sum, rebuild_eq_sum, madd_comm (msmul w.z _), madd_comm (madd _ _) (msmul w.x _), madd_assoc]

theorem orth_rev {V : M3 K} (h : mmul (transpose V) V = one3) :
    mmul (transpose (ofCols (col2 V) (col1 V) (col0 V))) (ofCols (col2 V) (col1 V) (col0 V)) = one3 := by
  obtain ⟨⟨h00, h01, h02⟩, ⟨h10, h11, h12⟩, ⟨h20, h21, h22⟩⟩ := (orth_iff (col0 V) (col1 V) (col2 V)).1 h
  exact (orth_iff _ _ _).2 ⟨⟨h22, h21, h20⟩, ⟨h12, h11, h10⟩, ⟨h02, h01, h00⟩⟩

theorem dot_axis3 {i : Nat} (hi : i < 3) (j : Nat) : dot (axis3 i) (axis3 j) = if i = j then (1 : K) else 0 := by
  match i, hi with
  | 0, _ | 1, _ | 2, _ => simp [dot, axis3, eq_comm]

theorem diag3_mulVec_axis3 (a : V3 K) (i : Nat) : mulVec (diag3 a) (axis3 i) = smul (comp3 a i) (axis3 i) := by
  match i with
  | 0 | 1 | 2 | _ + 3 => simp [mulVec, diag3, dot, axis3, comp3, smul]

theorem gather_length (idx : List Nat) (a : List K) : (gather idx a).length = idx.length := List.length_map _
theorem gather_getElem (idx : List Nat) (a : List K) (k : Nat) (h : k < (gather idx a).length) :
    (gather idx a)[k] = a.getD (idx[k]'(by simpa [gather] using h)) 0 := by
  simp only [gather, List.getElem_map]

/-- the generated tables undo each other: evaluated on six symbols -/
theorem gather_tables (c : List K) (hc : c.length = 6) : gather mat2arrIdx (gather arr2matIdx c) = c := by
  match c, hc with
  | [c0, c1, c2, c3, c4, c5], _ => rfl

theorem scale_cancel [CharZero K] (b : List K) (hb : b.length = 6) :
    scaleBy mat2arrEng (scaleBy arr2matEng b) = b ∧ scaleBy arr2matEng (scaleBy mat2arrEng b) = b := by
  match b, hb with
  | [c0, c1, c2, c3, c4, c5], _ =>
    simp [scaleBy, mat2arrEng, arr2matEng]

theorem scaleBy_length (t : List (Nat × Nat)) (b : List K) (ht : t.length = 6) (hb : b.length = 6) : (scaleBy t b).length = 6 := by
  rw [scaleBy, List.length_map, List.length_zip, ht, hb]; rfl

theorem flat_toM3 (m : List K) (h : m.length = 9) : flat (toM3 m) = m := by
  match m, h with
  | [_, _, _, _, _, _, _, _, _], _ => rfl
theorem gather_default (b : List K) (h : b.length = 6) : gather defaultOrder b = b := by
  match b, h with
  | [_, _, _, _, _, _], _ => rfl
theorem arr2mat_length (o : List Nat) (eng : Bool) (a : List K) : (arr2mat o eng a).length = 9 :=
  gather_length arr2matIdx _
theorem mat2arr_default_length (eng : Bool) (m : List K) : (mat2arr defaultOrder eng m).length = 6 :=
  gather_length defaultOrder _

/-- on a symmetric matrix the generated tables undo each other in the other order too: evaluated on six symbols -/
theorem gather_tables_sym (B : M3 K) (hB : transpose B = B) : gather arr2matIdx (gather mat2arrIdx (flat B)) = flat B := by
  obtain ⟨⟨b00, b01, b02⟩, ⟨b10, b11, b12⟩, ⟨b20, b21, b22⟩⟩ := B
  simp only [transpose, M3.mk.injEq, V3.mk.injEq] at hB
  obtain ⟨⟨-, h1, h2⟩, ⟨-, -, h3⟩, -⟩ := hB
  subst h1 h2 h3
  rfl

theorem sym_VDVt (V : M3 K) (d : V3 K) :
    transpose (mmul (mmul V (diag3 d)) (transpose V)) = mmul (mmul V (diag3 d)) (transpose V) := by
  rw [transpose_mmul, transpose_mmul, mmul_assoc]
  rfl

/-- the engineering layout of `lteMatrix f` (shear doubled) is `f` again -/
theorem lteMatrix_layout [CharZero K] (f : List K) (hf : f.length = 6) :
    (let m := lteMatrix f
     [m.r0.x, m.r1.y, m.r2.z, m.r0.y * ((2 : Nat) : K), m.r1.z * ((2 : Nat) : K), m.r0.z * ((2 : Nat) : K)]) = f := by
  match f, hf with
  | [f0, f1, f2, f3, f4, f5], _ =>
    have h2 : ((2 : Nat) : K) ≠ 0 := Nat.cast_ne_zero.mpr two_ne_zero
    show [f0, f1, f2, f3 / _ * _, f4 / _ * _, f5 / _ * _] = _
    rw [div_mul_cancel₀ _ h2, div_mul_cancel₀ _ h2, div_mul_cancel₀ _ h2]

/-- on a stored pair of axes `convert_lte_local2global` lays out `R diag(lte) Rᵀ`, `R` with columns `o0, o1, o0 × o1` -/
theorem lteLocal2Global_pair (lte o0 o1 : V3 K) : lteLocal2Global lte (v3list o0 ++ v3list o1 ++ [0, 0, 0]) =
    (let m := mmul (mmul (ofCols o0 o1 (cross o0 o1)) (diag3 lte)) (transpose (ofCols o0 o1 (cross o0 o1)))
     [m.r0.x, m.r1.y, m.r2.z, m.r0.y * ((2 : Nat) : K), m.r1.z * ((2 : Nat) : K), m.r0.z * ((2 : Nat) : K)]) := by
  obtain ⟨x0, y0, z0⟩ := o0
  obtain ⟨x1, y1, z1⟩ := o1
  rw [mmul_assoc]
  rfl

theorem diagShortcut_cols (a : V3 K) (i j k : Nat) :
    diagShortcut true a i j k = ⟨⟨comp3 a i, comp3 a j, comp3 a k⟩, axis3 i, axis3 j, cross (axis3 i) (axis3 j),
      smul (comp3 a i) (axis3 i), smul (comp3 a j) (axis3 j), smul (comp3 a k) (cross (axis3 i) (axis3 j))⟩ := rfl

/-- for a symmetric frame (a self-inverse permutation) rows and columns are the same -/
theorem diagShortcut_rows (a : V3 K) (i j k : Nat)
    (h : transpose ⟨axis3 i, axis3 j, axis3 k⟩ = (⟨axis3 i, axis3 j, axis3 k⟩ : M3 K)) :
    diagShortcut false a i j k = diagShortcut true a i j k := by
  have h0 : col0 (⟨axis3 i, axis3 j, axis3 k⟩ : M3 K) = axis3 i := congrArg M3.r0 h
  have h1 : col1 (⟨axis3 i, axis3 j, axis3 k⟩ : M3 K) = axis3 j := congrArg M3.r1 h
  rw [diagShortcut_cols]
  simp only [diagShortcut, Bool.false_eq_true, if_false, h0, h1]

end Femio.Tensor
