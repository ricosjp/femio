import Femio.Model.TextTok
import Femio.Model.Numeral
import Femio.Lemmas.NumeralProps

/-! Character-level lexer / printer lemmas shared by C02, C04, C10:
    `splitBlank (joinBlank toks ++ trailing whitespace) = toks` for non-empty whitespace-free tokens,
    `fileLines (unlines ls) = non-empty ls` for newline-free lines, decimal numerals are such tokens. -/
namespace Femio.Text
open Numeral

/-- a token the whitespace lexer gives back unchanged: not empty, no whitespace character -/
def TokOK (t : Str) : Prop := t ≠ [] ∧ ∀ c ∈ t, isWs c = false

theorem noWsB_iff (t : Str) : noWsB t = true ↔ ∀ c ∈ t, isWs c = false := by
  simp [noWsB, List.all_eq_true]

theorem tokOKB_iff (t : Str) : tokOKB t = true ↔ TokOK t := by
  unfold tokOKB TokOK
  rw [Bool.and_eq_true, noWsB_iff]
  cases t <;> simp

theorem splitBlankAux_noWs (t rest cur : Str) (h : ∀ c ∈ t, isWs c = false) :
    splitBlankAux (t ++ rest) cur = splitBlankAux rest (t.reverse ++ cur) := by
  induction t generalizing cur with
  | nil => rfl
  | cons c t ih =>
    have hc : isWs c = false := h c (by simp)
    simp only [List.cons_append, splitBlankAux, hc, Bool.false_eq_true, if_false]
    rw [ih _ (fun c hc => h c (by simp [hc]))]
    simp

theorem splitBlankAux_ws (trail cur : Str) (h : ∀ c ∈ trail, isWs c = true) :
    splitBlankAux trail cur = if cur.isEmpty then [] else [cur.reverse] := by
  induction trail generalizing cur with
  | nil => rfl
  | cons c t ih =>
    have hc : isWs c = true := h c (by simp)
    have ht := ih [] (fun c hc => h c (by simp [hc]))
    simp only [List.isEmpty_nil, if_true] at ht
    simp only [splitBlankAux, hc, if_true, ht]

/-- **lexer ∘ printer**: `(' '.join(toks) + trailing whitespace).split() = toks` -/
theorem splitBlank_joinBlank (ts : List Str) (h : ∀ t ∈ ts, TokOK t) (trail : Str) (htr : ∀ c ∈ trail, isWs c = true) :
    splitBlank (joinBlank ts ++ trail) = ts := by
  unfold splitBlank
  induction ts with
  | nil => simp [joinBlank, splitBlankAux_ws trail [] htr]
  | cons a t ih =>
    have ha := h a (by simp)
    cases t with
    | nil =>
      simp only [joinBlank]
      rw [splitBlankAux_noWs a trail [] ha.2, splitBlankAux_ws _ _ htr]
      simp [ha.1]
    | cons b t =>
      have ih' := ih (fun x hx => h x (by simp [hx]))
      simp only [joinBlank, List.append_assoc, List.cons_append]
      rw [splitBlankAux_noWs a _ [] ha.2]
      have hb : isWs ' ' = true := by decide
      have : a.reverse ≠ [] := by simpa using ha.1
      simp only [splitBlankAux, hb, if_true, List.append_nil, List.isEmpty_iff, this, if_false, List.reverse_reverse]
      rw [ih']

theorem splitBlank_joinBlank' (ts : List Str) (h : ∀ t ∈ ts, TokOK t) : splitBlank (joinBlank ts) = ts := by
  simpa using splitBlank_joinBlank ts h [] (by simp)

/-- a list printed and read back item by item -/
theorem map_map_eq_self {α β : Type} {f : α → β} {g : β → α} {l : List α} (h : ∀ a ∈ l, g (f a) = a) :
    (l.map f).map g = l := by
  rw [List.map_map]
  exact (List.map_congr_left h).trans (List.map_id l)

/-- a character that occurs in no token and is not the blank does not occur in the joined line -/
theorem not_mem_joinBlank (x : Char) (hx : x ≠ ' ') (ts : List Str) (h : ∀ t ∈ ts, x ∉ t) : x ∉ joinBlank ts := by
  induction ts with
  | nil => simp [joinBlank]
  | cons a t ih =>
    cases t with
    | nil => simpa [joinBlank] using h a (by simp)
    | cons b t =>
      have := ih (fun y hy => h y (by simp [hy]))
      simp only [joinBlank, List.mem_append, List.mem_cons, not_or]
      exact ⟨h a (by simp), hx, this⟩

theorem joinBlank_ne_nil (ts : List Str) (hne : ts ≠ []) (h : ∀ t ∈ ts, t ≠ []) : joinBlank ts ≠ [] := by
  cases ts with
  | nil => exact absurd rfl hne
  | cons a t =>
    have ha := h a (by simp)
    cases t with
    | nil => simpa [joinBlank] using ha
    | cons b t => simp [joinBlank, ha]

theorem splitLinesAux_line (l rest cur : Str) (h : '\n' ∉ l) :
    splitLinesAux (l ++ '\n' :: rest) cur = (cur.reverse ++ l) :: splitLinesAux rest [] := by
  induction l generalizing cur with
  | nil => simp [splitLinesAux]
  | cons c t ih =>
    have hc : c ≠ '\n' := fun e => h (by simp [e])
    have ht : '\n' ∉ t := fun m => h (by simp [m])
    simp only [List.cons_append, splitLinesAux, hc, if_false]
    rw [ih _ ht]; simp

theorem splitLines_unlines (ls : List Str) (h : ∀ l ∈ ls, '\n' ∉ l) : splitLines (unlines ls) = ls ++ [[]] := by
  unfold splitLines
  induction ls with
  | nil => rfl
  | cons a t ih =>
    have : unlines (a :: t) = a ++ '\n' :: unlines t := by simp [unlines]
    rw [this, splitLinesAux_line a _ [] (h a (by simp)), ih (fun l hl => h l (by simp [hl]))]
    simp

/-- **lines ∘ unlines**: reading a file written line by line gives the non-empty lines back, in order -/
theorem fileLines_unlines (ls : List Str) (h : ∀ l ∈ ls, '\n' ∉ l) :
    fileLines (unlines ls) = ls.filter fun l => !l.isEmpty := by
  unfold fileLines
  rw [splitLines_unlines ls h]
  simp

theorem fileLines_unlines_nonempty (ls : List Str) (h : ∀ l ∈ ls, '\n' ∉ l) (hne : ∀ l ∈ ls, l ≠ []) :
    fileLines (unlines ls) = ls := by
  rw [fileLines_unlines ls h, List.filter_eq_self]
  intro l hl
  rw [Bool.not_eq_true', List.isEmpty_eq_false_iff]
  exact hne l hl

theorem not_newline_of_noWs {t : Str} (h : ∀ c ∈ t, isWs c = false) : '\n' ∉ t :=
  fun hm => absurd (h _ hm) (by decide)

/-! ### decimal numerals are tokens -/
theorem isWs_digitChar (d : Nat) (h : d < 10) : isWs (digitChar d) = false := by
  revert d; decide +kernel

theorem showNat_tokOK (n : Nat) : TokOK (showNat n) := by
  refine ⟨showNat_ne_nil n, ?_⟩
  intro c hc
  simp only [showNat, List.mem_map] at hc
  obtain ⟨d, hd, rfl⟩ := hc
  exact isWs_digitChar d (natDigits_lt n d hd)

theorem not_mem_showNat (x : Char) (hx : charDigit x = none) (n : Nat) : x ∉ showNat n := by
  intro hm
  simp only [showNat, List.mem_map] at hm
  obtain ⟨d, hd, rfl⟩ := hm
  rw [charDigit_digitChar d (natDigits_lt n d hd)] at hx
  exact absurd hx (by simp)

end Femio.Text
