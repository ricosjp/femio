import Femio.Model.UcdFem
import Femio.Model.UcdAlignInt
import Femio.Lemmas.UcdProps

/-! C04 — the repaired writer (`Cfg.fixed`: rows looked up by id, `FEMWriter._align_data`) followed by the reader's
    column slicing returns every variable as the id-keyed table it was, whatever private row order it had. -/
namespace Femio.C04
open Ucd

variable {V : Type}

/-- a variable the writer accepts next to the id list `meshIds`: its own ids are a permutation of them (any order),
    one row per id, every row as wide as the variable, at least one column -/
structure VarOK (meshIds : List Nat) (v : VarTab V) : Prop where
  perm : v.ids.Perm meshIds
  rows : v.rows.length = v.ids.length
  width : ∀ r ∈ v.rows, r.length = v.width
  pos : 0 < v.width

theorem nodupB_iff (l : List Nat) : nodupB l = true ↔ l.Nodup := by
  induction l with
  | nil => simp [nodupB]
  | cons a t ih => simp [nodupB, ih]

theorem varOKB_iff (meshIds : List Nat) (v : VarTab V) : varOKB meshIds v = true ↔ VarOK meshIds v := by
  simp only [varOKB, Bool.and_eq_true, List.isPerm_iff, beq_iff_eq, List.all_eq_true, decide_eq_true_eq]
  exact ⟨fun h => ⟨h.1.1.1, h.1.1.2, h.1.2, h.2⟩, fun h => ⟨⟨⟨h.perm, h.rows⟩, h.width⟩, h.pos⟩⟩

/-! an id-keyed table holds under an id the row at the position of that id among the ids -/
theorem keyPos_eq {I : Type} [DecidableEq I] (ids : List I) (i : I) : keyPos ids i = ids.idxOf? i :=
  eq_idxOf? keyPos (fun _ => rfl) (fun _ _ _ => if_congr eq_comm rfl rfl) ids i

theorem keyPos_of_mem {I : Type} [DecidableEq I] {ids : List I} {i : I} (h : i ∈ ids) :
    ∃ k, ∃ hk : k < ids.length, keyPos ids i = some k ∧ ids[k] = i := by
  obtain ⟨k, hk⟩ := Option.isSome_iff_exists.mp (List.isSome_idxOf?.mpr h)
  obtain ⟨hlt, e, -⟩ := List.idxOf?_eq_some_iff.mp hk
  exact ⟨k, hlt, (keyPos_eq ids i).trans hk, e⟩

theorem keyPos_getElem {I : Type} [DecidableEq I] {ids : List I} (hnd : ids.Nodup) (k : Nat) (hk : k < ids.length) :
    keyPos ids ids[k] = some k :=
  (keyPos_eq ids _).trans (idxOf?_getElem hnd k hk)

theorem lookup_zip {R : Type} (ids : List Nat) (rows : List R) (i : Nat) :
    (ids.zip rows).lookup i = (keyPos ids i).bind (rows[·]?) := by
  induction ids generalizing rows with
  | nil => rfl
  | cons a t ih =>
    cases rows with
    | nil => cases h : keyPos (a :: t) i <;> rfl
    | cons r rs =>
      rw [List.zip_cons_cons, List.lookup_cons, keyPos]
      by_cases hia : i = a
      · rw [if_pos hia, beq_iff_eq.mpr hia]; rfl
      · rw [if_neg hia, beq_eq_false_iff_ne.mpr hia, ih rs, Option.bind_map]; rfl

theorem lookup_own {R : Type} (ids : List Nat) (rows : List R) (hnd : ids.Nodup) (hl : rows.length = ids.length)
    (k : Nat) (hk : k < ids.length) :
    (ids.zip rows).lookup ids[k] = some (rows[k]'(hl ▸ hk)) := by
  rw [lookup_zip, keyPos_getElem hnd k hk, Option.bind_some, List.getElem?_eq_getElem]

theorem lookup_mem_rows {R : Type} (ids : List Nat) (rows : List R) (hl : rows.length = ids.length) (i : Nat)
    (hi : i ∈ ids) : ∃ r ∈ rows, (ids.zip rows).lookup i = some r := by
  obtain ⟨k, hk, h1, -⟩ := keyPos_of_mem hi
  exact ⟨rows[k]'(hl ▸ hk), List.getElem_mem _, by rw [lookup_zip, h1, Option.bind_some, List.getElem?_eq_getElem]⟩

theorem zip_map_self {R : Type} (l : List Nat) (g : Nat → R) : l.zip (l.map g) = l.map fun i => (i, g i) := by
  induction l with
  | nil => rfl
  | cons a t ih => simp [ih]

theorem lookup_map_pair {R : Type} (l : List Nat) (g : Nat → R) (i : Nat) (hi : i ∈ l) :
    (l.map fun j => (j, g j)).lookup i = some (g i) := by
  obtain ⟨k, hk, h1, h2⟩ := keyPos_of_mem hi
  rw [← zip_map_self, lookup_zip, h1, Option.bind_some, List.getElem?_map, List.getElem?_eq_getElem hk, h2]
  rfl

theorem map_lookup_self (ids : List Nat) (rows : List (List V)) (hnd : ids.Nodup) (hl : rows.length = ids.length) :
    ids.map (fun i => (i, ((ids.zip rows).lookup i).getD [])) = ids.zip rows := by
  apply List.ext_getElem
  · simp [hl]
  · intro k h1 h2
    have hk : k < ids.length := by simpa using h1
    simp [lookup_own ids rows hnd hl k hk]

/-- what the aligned table is: the mesh's id order; as a set of (id, row) pairs the variable's own table; under
    every id the row the variable had for it -/
theorem alignedTab_spec (meshIds : List Nat) (v : VarTab V) (hnd : meshIds.Nodup) (hv : VarOK meshIds v) :
    (alignedTab meshIds v).ids = meshIds ∧ (alignedTab meshIds v).rows.length = meshIds.length ∧
    ((alignedTab meshIds v).ids.zip (alignedTab meshIds v).rows).Perm (v.ids.zip v.rows) ∧
    ∀ (k : Nat) (hk : k < v.ids.length),
      ((alignedTab meshIds v).ids.zip (alignedTab meshIds v).rows).lookup v.ids[k]
        = some (v.rows[k]'(by rw [hv.rows]; exact hk)) := by
  have hvnd : v.ids.Nodup := hv.perm.nodup_iff.mpr hnd
  have hzip : (alignedTab meshIds v).ids.zip (alignedTab meshIds v).rows
      = meshIds.map fun i => (i, ((v.ids.zip v.rows).lookup i).getD []) := by
    simp only [alignedTab, rowsFor, Cfg.fixed, if_true]
    exact zip_map_self meshIds _
  refine ⟨rfl, by simp [alignedTab, rowsFor, Cfg.fixed], ?_, ?_⟩
  · rw [hzip]
    have := (hv.perm.symm).map (fun i => (i, ((v.ids.zip v.rows).lookup i).getD []))
    rwa [map_lookup_self v.ids v.rows hvnd hv.rows] at this
  · intro k hk
    rw [hzip, lookup_map_pair meshIds _ _ (hv.perm.subset (List.getElem_mem hk)), lookup_own v.ids v.rows hvnd hv.rows k hk]
    rfl

/-- every row of the aligned table has the variable's width -/
theorem rowsFor_width (meshIds : List Nat) (v : VarTab V) (hv : VarOK meshIds v) :
    ∀ r ∈ rowsFor Cfg.fixed meshIds v, r.length = v.width := by
  intro r hr
  simp only [rowsFor, Cfg.fixed, if_true, List.mem_map] at hr
  obtain ⟨i, hi, rfl⟩ := hr
  obtain ⟨r, hr, hl⟩ := lookup_mem_rows v.ids v.rows hv.rows i (hv.perm.symm.subset hi)
  rw [hl]; exact hv.width r hr

theorem rowsFor_length (meshIds : List Nat) (v : VarTab V) : (rowsFor Cfg.fixed meshIds v).length = meshIds.length := by
  simp [rowsFor, Cfg.fixed]

/-! ### the reader's column slicing undoes the writer's `np.concatenate(axis=1)` -/
def rowAt (tabs : List (List (List V))) (k : Nat) : List V := tabs.flatMap fun rows => (rows[k]?).getD []

theorem catRows_eq (tabs : List (List (List V))) (n : Nat) : catRows tabs n = (List.range n).map (rowAt tabs) := rfl

theorem length_catRows (tabs : List (List (List V))) (n : Nat) : (catRows tabs n).length = n := by
  rw [catRows_eq, List.length_map, List.length_range]

theorem rowAt_cons (rows : List (List V)) (tabs : List (List (List V))) (k : Nat) :
    rowAt (rows :: tabs) k = (rows[k]?).getD [] ++ rowAt tabs k := rfl

theorem range_map_getD (l : List (List V)) (n : Nat) (h : l.length = n) :
    (List.range n).map (fun k => (l[k]?).getD []) = l := by
  subst h
  apply List.ext_getElem
  · simp
  · intro k h1 h2
    simp at h1
    simp [h1]

def toVar (v : VarTab V) : Var := ⟨v.name, v.width⟩

/-- if the rows read carry the ids `ids` and, behind `off` columns `P k`, the `k`-th rows of the tables `T v` side by
    side, then the tables cut out for `vs` are the tables `T v` -/
theorem tablesFrom_cat (ids : List Nat) (rows : List (Nat × List V)) (hids : rows.map Prod.fst = ids)
    (T : VarTab V → List (List V)) (vs : List (VarTab V))
    (hlen : ∀ v ∈ vs, (T v).length = ids.length)
    (hw : ∀ v ∈ vs, ∀ r ∈ T v, r.length = v.width) :
    ∀ (off : Nat) (P : Nat → List V), (∀ k, k < ids.length → (P k).length = off) →
      rows.map Prod.snd = (List.range ids.length).map (fun k => P k ++ rowAt (vs.map T) k) →
      tablesFrom rows off (vs.map toVar) = vs.map fun v => ⟨v.name, v.width, ids, T v⟩ := by
  induction vs with
  | nil => intro off P _ _; rfl
  | cons v vs ih =>
    intro off P hP hrows
    have hv : v ∈ v :: vs := List.mem_cons_self
    have hcell : ∀ k, k < ids.length → (((T v)[k]?).getD []).length = v.width := by
      intro k hk
      have hk' : k < (T v).length := (hlen v hv).symm ▸ hk
      rw [List.getElem?_eq_getElem hk']
      exact hw v hv _ (List.getElem_mem hk')
    have hcol : rows.map (fun r => (r.2.drop off).take v.width) = T v := by
      have h := congrArg (List.map fun r : List V => (r.drop off).take v.width) hrows
      rw [List.map_map, List.map_map] at h
      rw [← range_map_getD (T v) ids.length (hlen v hv)]
      refine h.trans (List.map_congr_left fun k hk => ?_)
      exact seg (P k) _ _ off v.width (hP k (List.mem_range.mp hk)) (hcell k (List.mem_range.mp hk))
    rw [List.map_cons, List.map_cons, toVar, tablesFrom, hids, hcol]
    congr 1
    refine ih (fun x hx => hlen x (List.mem_cons_of_mem _ hx)) (fun x hx => hw x (List.mem_cons_of_mem _ hx))
      (off + v.width) (fun k => P k ++ ((T v)[k]?).getD []) ?_ ?_
    · intro k hk
      rw [List.length_append, hP k hk, hcell k hk]
    · rw [hrows]
      apply List.map_congr_left
      intro k _
      rw [List.map_cons, rowAt_cons, List.append_assoc]

theorem sumW_ne_zero (vs : List (VarTab V)) (hne : vs ≠ []) (hp : ∀ v ∈ vs, 0 < v.width) : sumW (vs.map toVar) ≠ 0 := by
  cases vs with
  | nil => exact absurd rfl hne
  | cons a t =>
    have := hp a (by simp)
    simp [sumW, toVar]; omega

/-- reading the tables back from the rows the repaired writer emitted next to `ids` -/
theorem readTables_aligned (ids : List Nat) (vs : List (VarTab V)) (hv : ∀ v ∈ vs, VarOK ids v) :
    readTables (expData (vs.map toVar) (ids.zip (catRows (vs.map (rowsFor Cfg.fixed ids)) ids.length))).1
      (expData (vs.map toVar) (ids.zip (catRows (vs.map (rowsFor Cfg.fixed ids)) ids.length))).2
      = vs.map (alignedTab ids) := by
  by_cases hne : vs = []
  · subst hne; rfl
  · have hl := (length_catRows (vs.map (rowsFor Cfg.fixed ids)) ids.length).symm
    rw [expData_of_ne (sumW_ne_zero vs hne fun v h => (hv v h).pos)]
    exact tablesFrom_cat ids _ (List.map_fst_zip (Nat.le_of_eq hl)) (rowsFor Cfg.fixed ids) vs
      (fun v _ => rowsFor_length ids v) (fun v h => rowsFor_width ids v (hv v h)) 0 (fun _ => []) (fun _ _ => rfl)
      (List.map_snd_zip (Nat.le_of_eq hl.symm))

/-- a FEMData the writer accepts: node ids and `elements.ids` without repetition; every nodal (elemental) variable
    is an id-keyed table whose own ids are a permutation of the node (element) ids **in any order**, one row per
    id, every row as wide as the variable, at least one column -/
structure FemOK (f : Fem V) : Prop where
  nodeIds : (f.nodes.map Prod.fst).Nodup
  elemIds : (elemIds f.blocks).Nodup
  nodal : ∀ v ∈ f.nodalVars, VarOK (f.nodes.map Prod.fst) v
  elemental : ∀ v ∈ f.elemVars, VarOK (Ucd.elemIds f.blocks) v

theorem femOKB_sound (f : Fem V) (h : femOKB f = true) : FemOK f := by
  simp only [femOKB, Bool.and_eq_true, nodupB_iff, List.all_eq_true, varOKB_iff] at h
  exact ⟨h.1.1.1, h.1.1.2, h.1.2, h.2⟩

/-- `tabs` (the tables read back) are the variables `vs` bound to the same ids: as many tables, and the `j`-th has
    the name and width of the `j`-th variable, lists the ids in the order `ids`, consists of exactly the
    (id, row) pairs of the variable's own table, and holds under every id `v.ids[k]` the row `v.rows[k]` -/
def BoundToSameIds (ids : List Nat) (vs tabs : List (VarTab V)) : Prop :=
  tabs.length = vs.length ∧
  ∀ (j : Nat) (v : VarTab V), vs[j]? = some v → ∃ tab, tabs[j]? = some tab ∧
    tab.name = v.name ∧ tab.width = v.width ∧ tab.ids = ids ∧ tab.rows.length = ids.length ∧
    (tab.ids.zip tab.rows).Perm (v.ids.zip v.rows) ∧
    ∀ (k : Nat) (hk : k < v.ids.length) (hk' : k < v.rows.length), (tab.ids.zip tab.rows).lookup v.ids[k] = some v.rows[k]

theorem boundToSameIds_read (ids : List Nat) (hnd : ids.Nodup) (vs : List (VarTab V)) (hv : ∀ v ∈ vs, VarOK ids v)
    (rows : List (Nat × List V)) (hrows : rows = ids.zip (catRows (vs.map (rowsFor Cfg.fixed ids)) ids.length)) :
    BoundToSameIds ids vs (readTables (expData (vs.map toVar) rows).1 (expData (vs.map toVar) rows).2) := by
  subst hrows
  rw [readTables_aligned ids vs hv]
  refine ⟨List.length_map _, ?_⟩
  intro j v hj
  obtain ⟨h1, h2, h3, h4⟩ := alignedTab_spec ids v hnd (hv v (List.mem_of_getElem? hj))
  exact ⟨alignedTab ids v, by rw [List.getElem?_map, hj]; rfl, rfl, rfl, h1, h2, h3, fun k hk _ => h4 k hk⟩

theorem toMesh_WF (cfg : Cfg) (f : Fem V) : WF (toMesh cfg f) :=
  ⟨(length_catRows _ _).trans (List.length_map _), (length_catRows _ _).trans (length_elemIds _)⟩

end Femio.C04
