import Femio.Model.Ucd
import Femio.Lemmas.ListLemmas
import Femio.Lemmas.InsertionSort

/-! C04 — token level.  `readDataBlock` and `read` are characterised by what they find at the positions they
    compute (`readDataBlock_eq_some`, `read_eq_some`); the written file is a prefix of the computed length followed
    by the block (`write_nodal_block`, `write_elem_block`); the round trip `read_write` puts the two together. -/
open Ucd
variable {V : Type}

theorem readRow_dataLine (p : Nat × List V) : readRow (dataLine p) = some p := by
  simp [readRow, dataLine, asNat, mapM_map_eq_some_self Tok.v asVal _ fun (_ : V) _ => rfl]

theorem readRow_nodeLine (p : Nat × List V) : readRow (nodeLine p) = some p :=
  readRow_dataLine p

theorem readElem_elemLine (ty : Nat) (e : Elem) :
    readElem (elemLine ty e : Line V) = some (firstOrder ty e) := by
  simp [readElem, elemLine, asNat, asTy, mapM_map_eq_some_self Tok.n (asNat (V := V)) _ fun _ _ => rfl]

theorem readBlockHeader_blockHeader (vars : List Var) :
    readBlockHeader (blockHeader vars : Line V) = some (vars.length, vars.map Var.width) := by
  rw [readBlockHeader, blockHeader, List.getElem?_cons_zero, Option.bind_some, List.drop_succ_cons, List.drop_zero,
    mapM_map_eq_some_map (fun x : Var => Tok.n x.width) (asNat (V := V)) Var.width _ fun _ _ => rfl]
  rfl

/-- what the element rows of the file decode to -/
def written (blocks : List (Nat × List Elem)) : List (Nat × Elem) :=
  blocks.flatMap fun b => b.2.map (firstOrder b.1)

theorem mapM_readElem (m : Mesh V) : (elemLines m).mapM readElem = some (written m.blocks) := by
  unfold elemLines written
  induction m.blocks with
  | nil => rfl
  | cons b bs ih =>
    rw [List.flatMap_cons, List.flatMap_cons, List.mapM_append, mapM_map_eq_some_map _ _ _ _ fun e _ => readElem_elemLine b.1 e, ih]
    rfl

theorem length_elemLines (m : Mesh V) : (elemLines m).length = nElem m := by
  unfold elemLines nElem
  induction m.blocks with
  | nil => rfl
  | cons b bs ih => simp [List.flatMap_cons, ih]

theorem ucd_zip_name_width (vs : List Var) :
    ((vs.map Var.name).zip (vs.map Var.width)).map (fun (p : List Char × Nat) => (⟨p.1, p.2⟩ : Var)) = vs := by
  induction vs with
  | nil => rfl
  | cons a t ih => simp [ih]

theorem seg {α : Type} (A B rest : List α) (a b : Nat) (ha : A.length = a) (hb : B.length = b) :
    ((A ++ (B ++ rest)).drop a).take b = B := by
  subst ha; subst hb; simp

theorem seg_get {α : Type} (A : List α) (x : α) (rest : List α) (a : Nat) (ha : A.length = a) :
    (A ++ (x :: rest))[a]? = some x := by
  subst ha
  rw [List.getElem?_append_right (Nat.le_refl _), Nat.sub_self]
  rfl

theorem getElem?_dataBlock (pre post : List (Line V)) (vars : List Var) (rows : List (Nat × List V))
    (hw : sumW vars ≠ 0) : (pre ++ (dataBlock vars rows ++ post))[pre.length]? = some (blockHeader vars) := by
  rw [dataBlock, if_neg hw]
  exact seg_get pre _ _ _ rfl

theorem readDataBlock_eq_some {ls : List (Line V)} {hpos npos nRows : Nat} {vars : List Var} {rows : List (Nat × List V)}
    (hh : ls[hpos]? = some (blockHeader vars))
    (hn : (ls.drop npos).take vars.length = vars.map nameLine)
    (hr : (ls.drop (npos + vars.length)).take nRows = rows.map dataLine) :
    readDataBlock ls hpos npos nRows = some (vars, rows, vars.length) := by
  simp only [readDataBlock, hh, Option.bind_eq_bind, Option.bind_some, readBlockHeader_blockHeader, hn, hr,
    mapM_map_eq_some_map nameLine (fun l : Line V => (l[0]?).bind asWord) Var.name _ fun _ _ => rfl,
    mapM_map_eq_some_self dataLine readRow _ fun p _ => readRow_dataLine p, ucd_zip_name_width, Option.pure_def]

/-- reading a data block that sits at line `pre.length` of the file; the positions are variables with equations
    because `read` spells them as sums of the header's counts -/
theorem readDataBlock_spec (pre post : List (Line V)) (vars : List Var) (rows : List (Nat × List V))
    (hw : sumW vars ≠ 0) (hp np : Nat) (hhp : hp = pre.length) (hnp : np = pre.length + 1) :
    readDataBlock (pre ++ (dataBlock vars rows ++ post)) hp np rows.length = some (vars, rows, vars.length) := by
  subst hhp hnp
  have hfile : pre ++ (dataBlock vars rows ++ post)
      = pre ++ [blockHeader vars] ++ vars.map nameLine ++ (rows.map (dataLine (V := V)) ++ post) := by
    simp only [dataBlock, if_neg hw, List.append_assoc, List.cons_append, List.nil_append]
  rw [hfile]
  apply readDataBlock_eq_some
  · rw [List.append_assoc, List.append_assoc]
    exact seg_get pre _ _ _ rfl
  · rw [List.append_assoc _ (vars.map nameLine)]
    exact seg _ _ _ _ _ (List.length_append ..) (List.length_map _)
  · exact seg _ _ _ _ _ (by simp only [List.length_append, List.length_map, List.length_singleton]) (List.length_map _)

#print axioms readDataBlock_spec

/-- what is read where `dataBlock vars rows` was written: a block of total width 0 is not written at all -/
def expData (vars : List Var) (rows : List (Nat × List V)) : List Var × List (Nat × List V) :=
  if sumW vars = 0 then ([], []) else (vars, rows)

theorem expData_of_ne {vars : List Var} (h : sumW vars ≠ 0) (rows : List (Nat × List V)) :
    expData vars rows = (vars, rows) :=
  if_neg h

def nodalPairs (m : Mesh V) : List (Nat × List V) := (m.nodes.map Prod.fst).zip m.nodalRows

def elemPairs (m : Mesh V) : List (Nat × List V) := (elemIds m.blocks).zip m.elemRows

/-- what `read` returns on `write m` (`read_write`): the nodes as stored, the first-order elements grouped by type, every
    data row paired with the id at its position -/
def expected (m : Mesh V) : Read V :=
  ⟨m.nodes, groupByType (written m.blocks) allTypes,
   (expData m.nodalVars (nodalPairs m)).1, (expData m.nodalVars (nodalPairs m)).2,
   (expData m.elemVars (elemPairs m)).1, (expData m.elemVars (elemPairs m)).2⟩

/-- a block that the header announces is read as written, one that it does not announce is not looked for -/
theorem readDataBlock_dataBlock (pre post : List (Line V)) (vars : List Var) (rows : List (Nat × List V))
    (hp np nRows : Nat) (hhp : hp = pre.length) (hnp : np = pre.length + 1) (hr : rows.length = nRows) :
    (if sumW vars = 0 then some ([], [], 0)
      else readDataBlock (pre ++ (dataBlock vars rows ++ post)) hp np nRows)
      = some ((expData vars rows).1, (expData vars rows).2, if sumW vars = 0 then 0 else vars.length) := by
  subst hr
  unfold expData
  split
  · rfl
  · exact readDataBlock_spec pre post vars rows ‹_› hp np hhp hnp

theorem mem_groupByType {es : List (Nat × Elem)} {types : List Nat} {ty : Nat} {e : Elem} :
    (∃ blk ∈ groupByType es types, blk.1 = ty ∧ e ∈ blk.2) ↔ ty ∈ types ∧ (ty, e) ∈ es := by
  simp only [groupByType, List.mem_filter, List.mem_map]
  constructor
  · rintro ⟨_, ⟨⟨t, ht, rfl⟩, -⟩, rfl, he⟩
    obtain ⟨p, hp, rfl⟩ := List.mem_map.mp he
    obtain ⟨hpe, hpt⟩ := List.mem_filter.mp hp
    obtain rfl : p.1 = t := of_decide_eq_true hpt
    exact ⟨ht, hpe⟩
  · rintro ⟨ht, he⟩
    have hm : e ∈ (es.filter fun p => p.1 = ty).map Prod.snd :=
      List.mem_map.mpr ⟨(ty, e), List.mem_filter.mpr ⟨he, decide_eq_true rfl⟩, rfl⟩
    refine ⟨_, ⟨⟨ty, ht, rfl⟩, ?_⟩, rfl, hm⟩
    cases hl : (es.filter fun p => p.1 = ty).map Prod.snd with
    | nil => rw [hl] at hm; cases hm
    | cons a t => rfl

theorem exists_mem_of_mem_groupByType {es : List (Nat × Elem)} {types : List Nat} {blk : Nat × List Elem}
    (h : blk ∈ groupByType es types) : ∃ e, e ∈ blk.2 := by
  have hne := (List.mem_filter.mp h).2
  cases hb : blk.2 with
  | nil => simp [hb] at hne
  | cons e t => exact ⟨e, List.mem_cons_self⟩

theorem mem_written {blocks : List (Nat × List Elem)} {p : Nat × Elem} :
    p ∈ written blocks ↔ ∃ b ∈ blocks, ∃ e ∈ b.2, p = firstOrder b.1 e := by
  simp only [written, List.mem_flatMap, List.mem_map, eq_comm]

/-- the elements that come back under the type `ty`: the first-order forms of the written elements -/
theorem mem_expected_blocks {m : Mesh V} {ty : Nat} {e : Elem} :
    (∃ blk ∈ (expected m).blocks, blk.1 = ty ∧ e ∈ blk.2) ↔
      ty ∈ allTypes ∧ ∃ b ∈ m.blocks, ∃ e0 ∈ b.2, (ty, e) = firstOrder b.1 e0 :=
  mem_groupByType.trans (and_congr_right fun _ => mem_written)

theorem firstOrder_fst_ne_tet2 (ty : Nat) (e : Elem) : (firstOrder ty e).1 ≠ tet2 := by
  unfold firstOrder
  split
  · exact (by decide : tet ≠ tet2)
  · assumption

theorem sortIds_eq (l : List Nat) : sortIds l = l.insertionSort (· ≤ ·) :=
  foldr_eq_insertionSort _ insertIdAsc (fun _ => rfl) (fun _ _ _ => rfl) l

theorem length_elemIds (blocks : List (Nat × List Elem)) :
    (elemIds blocks).length = (blocks.map fun b => b.2.length).sum := by
  have hgen : ∀ bs : List (Nat × List Elem),
      (sortIds (bs.flatMap fun b => b.2.map Elem.id)).length = (bs.map fun b => b.2.length).sum := by
    intro bs
    rw [sortIds_eq, List.length_insertionSort]
    induction bs with
    | nil => rfl
    | cons b t ih => simp [List.flatMap_cons, ih]
  unfold elemIds
  split
  · simp
  · exact hgen _

theorem length_nodalPairs (m : Mesh V) (hN : m.nodalRows.length = m.nodes.length) :
    (nodalPairs m).length = m.nodes.length := by
  rw [nodalPairs, List.length_zip, List.length_map, hN, Nat.min_self]

theorem length_elemPairs (m : Mesh V) (hE : m.elemRows.length = nElem m) : (elemPairs m).length = nElem m := by
  rw [elemPairs, List.length_zip, length_elemIds, hE, nElem, Nat.min_self]

theorem length_dataBlock (vars : List Var) (rows : List (Nat × List V)) :
    (dataBlock vars rows : List (Line V)).length = if sumW vars = 0 then 0 else 1 + vars.length + rows.length := by
  unfold dataBlock
  split
  · rfl
  · simp only [List.length_cons, List.length_append, List.length_map]; omega

theorem length_pos_of_sumW {vars : List Var} (h : sumW vars ≠ 0) : 1 ≤ vars.length := by
  cases vars with
  | nil => exact absurd rfl h
  | cons a t => simp

/-- `read_headers` finds the elemental block header from the number `kN` of nodal variables, `read_elemental_data`
    the first name line from the nodal width `w`: with `n` nodes, `e` elements and a nodal block of `d` lines both
    point behind the nodal block. -/
theorem elem_block_pos {n e k w kN d : Nat} (hk : w ≠ 0 → 1 ≤ k)
    (hkN : kN = if w = 0 then 0 else k) (hd : d = if w = 0 then 0 else 1 + k + n) :
    n + e + 1 + kN + min 1 kN * (n + 1) = 1 + n + e + d ∧
    n + 1 + e + 1 + min 1 w * (kN + n + 1) = 1 + n + e + d + 1 := by
  subst hkN hd
  by_cases hz : w = 0
  · subst hz
    simp only [if_true, Nat.min_zero, Nat.zero_mul]
    omega
  · rw [if_neg hz, if_neg hz, Nat.min_eq_left (hk hz), Nat.min_eq_left (Nat.pos_of_ne_zero hz), Nat.one_mul,
      Nat.one_mul]
    omega

theorem write_eq (m : Mesh V) :
    ∃ H : Line V, readHeader H = some ⟨m.nodes.length, nElem m, sumW m.nodalVars, sumW m.elemVars⟩ ∧
      write m = [H] ++ (m.nodes.map nodeLine ++ (elemLines m ++
        (dataBlock m.nodalVars (nodalPairs m) ++ dataBlock m.elemVars (elemPairs m)))) :=
  ⟨[.n m.nodes.length, .n (nElem m), .n (sumW m.nodalVars), .n (sumW m.elemVars), .n 0], rfl,
    by simp [write, nodalPairs, elemPairs]⟩

/-- the nodal block, if any, begins at the line `read_headers` computes, its name lines at the line
    `read_nodal_data` computes -/
theorem write_nodal_block (m : Mesh V) :
    ∃ pre, write m = pre ++ (dataBlock m.nodalVars (nodalPairs m) ++ dataBlock m.elemVars (elemPairs m)) ∧
      m.nodes.length + nElem m + 1 = pre.length ∧ m.nodes.length + 1 + nElem m + 1 = pre.length + 1 := by
  obtain ⟨H, -, hw⟩ := write_eq m
  refine ⟨[H] ++ m.nodes.map nodeLine ++ elemLines m, by rw [hw]; simp only [List.append_assoc], ?_⟩
  simp only [List.length_append, List.length_singleton, List.length_map, length_elemLines]; omega

/-- the elemental block, if any, begins at the line `read_headers` computes from the number `kN` of nodal
    variables, and the formula of `read_elemental_data` points at the line after it; nothing follows the block
    (`++ []`, the `post` of `readDataBlock_dataBlock`) -/
theorem write_elem_block (m : Mesh V) (hN : m.nodalRows.length = m.nodes.length) (kN : Nat)
    (hk : kN = if sumW m.nodalVars = 0 then 0 else m.nodalVars.length) :
    ∃ pre, write m = pre ++ (dataBlock m.elemVars (elemPairs m) ++ []) ∧
      pre.length = m.nodes.length + nElem m + 1 + kN + min 1 kN * (m.nodes.length + 1) ∧
      m.nodes.length + 1 + nElem m + 1 + min 1 (sumW m.nodalVars) * (kN + m.nodes.length + 1) = pre.length + 1 := by
  obtain ⟨H, -, hw⟩ := write_eq m
  have hpos := elem_block_pos (e := nElem m) length_pos_of_sumW hk
    (length_nodalPairs m hN ▸ length_dataBlock m.nodalVars (nodalPairs m))
  refine ⟨[H] ++ m.nodes.map nodeLine ++ elemLines m ++ dataBlock m.nodalVars (nodalPairs m),
    by rw [hw]; simp only [List.append_assoc, List.append_nil], ?_⟩
  rw [hpos.1, hpos.2]
  simp only [List.length_append, List.length_singleton, List.length_map, length_elemLines, and_self]

/-- an optional block in the `do` notation of `read`: both branches continue with the same `f` -/
theorem ite_pure_bind {α β : Type} (c : Prop) [Decidable c] (a : α) (x : Option α) (f : α → Option β) :
    (if c then pure a >>= f else x >>= f) = (if c then some a else x).bind f := by
  split <;> rfl

theorem read_eq_some {ls : List (Line V)} {n e wN wE : Nat} {nodes : List (Nat × List V)} {es : List (Nat × Elem)}
    {nv ev : List Var} {nr er : List (Nat × List V)} {kN kE : Nat}
    (hh : (ls[0]?).bind readHeader = some ⟨n, e, wN, wE⟩)
    (hn : ((ls.drop 1).take n).mapM readRow = some nodes)
    (he : ((ls.drop (1 + n)).take e).mapM readElem = some es)
    (hN : (if wN = 0 then some ([], [], 0) else readDataBlock ls (n + e + 1) (n + 1 + e + 1) n) = some (nv, nr, kN))
    (hE : (if wE = 0 then some ([], [], 0)
      else readDataBlock ls (n + e + 1 + kN + (min 1 kN) * (n + 1)) (n + 1 + e + 1 + (min 1 wN) * (kN + n + 1)) e)
        = some (ev, er, kE)) :
    Ucd.read ls = some ⟨nodes, groupByType es allTypes, nv, nr, ev, er⟩ := by
  rw [Ucd.read, hh, Option.bind_eq_bind, Option.bind_some]
  dsimp only
  rw [hn, Option.bind_eq_bind, Option.bind_some, he, Option.bind_eq_bind, Option.bind_some, ite_pure_bind, hN,
    Option.bind_some]
  dsimp only
  rw [ite_pure_bind, hE]
  rfl

/-- for every mesh (any number of nodes, type blocks, variables of any widths), reading the written lines by
    position recovers the nodes, the (first-order) elements grouped by type, and every nodal / elemental variable
    bound to the ids it was written for -/
theorem read_write (m : Mesh V)
    (hN : m.nodalRows.length = m.nodes.length) (hE : m.elemRows.length = nElem m) :
    Ucd.read (write m) = some (expected m) := by
  obtain ⟨H, hH, hw⟩ := write_eq m
  obtain ⟨preN, hwN, hlN, hnN⟩ := write_nodal_block m
  obtain ⟨preE, hwE, hlE, hnE⟩ := write_elem_block m hN _ rfl
  have hh : ((write m)[0]?).bind readHeader
      = some ⟨m.nodes.length, nElem m, sumW m.nodalVars, sumW m.elemVars⟩ := by rw [hw]; exact hH
  refine read_eq_some (kN := if sumW m.nodalVars = 0 then 0 else m.nodalVars.length)
    (kE := if sumW m.elemVars = 0 then 0 else m.elemVars.length) hh ?_ ?_ ?_ ?_
  · rw [hw, seg _ _ _ 1 _ rfl (List.length_map _)]
    exact mapM_map_eq_some_self _ _ _ fun p _ => readRow_nodeLine p
  · rw [hw, ← List.append_assoc, seg _ _ _ _ _ (by rw [List.length_append, List.length_map]; rfl) (length_elemLines m)]
    exact mapM_readElem m
  · rw [hwN]
    exact readDataBlock_dataBlock preN _ _ _ _ _ _ hlN hnN (length_nodalPairs m hN)
  · rw [hwE]
    exact readDataBlock_dataBlock preE [] _ _ _ _ _ hlE.symm hnE (length_elemPairs m hE)

#print axioms read_write

namespace Femio.C04

/-- lengths the real writer relies on (pandas raises otherwise): one data row per node / element -/
structure WF (m : Mesh V) : Prop where
  nodalRows : m.nodalRows.length = m.nodes.length
  elemRows : m.elemRows.length = nElem m

def mapMesh {S : Type} (f : V → S) (m : Mesh V) : Mesh S :=
  ⟨m.nodes.map fun p => (p.1, p.2.map f), m.blocks, m.nodalVars, m.nodalRows.map (·.map f), m.elemVars,
   m.elemRows.map (·.map f)⟩

def mapRead {S : Type} (g : S → V) (r : Read S) : Read V :=
  ⟨r.nodes.map fun p => (p.1, p.2.map g), r.blocks, r.nodalVars, r.nodalRows.map fun p => (p.1, p.2.map g),
   r.elemVars, r.elemRows.map fun p => (p.1, p.2.map g)⟩

theorem mapMesh_WF {S : Type} (f : V → S) {m : Mesh V} (h : WF m) : WF (mapMesh f m) :=
  ⟨by simp [mapMesh, h.nodalRows], by simpa [mapMesh, nElem] using h.elemRows⟩

theorem expData_map {S : Type} (g : Nat × List V → Nat × List S) (vars : List Var) (rows : List (Nat × List V)) :
    expData vars (rows.map g) = ((expData vars rows).1, (expData vars rows).2.map g) := by
  unfold expData
  split <;> rfl

theorem expected_mapMesh {S : Type} (f : V → S) (m : Mesh V) : expected (mapMesh f m) = mapRead f (expected m) := by
  have hN : nodalPairs (mapMesh f m) = (nodalPairs m).map fun p => (p.1, p.2.map f) := by
    simp only [nodalPairs, mapMesh, List.map_map, Function.comp_def]
    exact List.zip_map_right
  have hE : elemPairs (mapMesh f m) = (elemPairs m).map fun p => (p.1, p.2.map f) := List.zip_map_right
  simp only [expected, hN, hE, expData_map]
  rfl

theorem mapRead_mapRead {S : Type} (f : V → S) (g : S → V) (hgf : ∀ v, g (f v) = v) (r : Read V) :
    mapRead g (mapRead f r) = r := by
  have hrows : ∀ rows : List (Nat × List V),
      (rows.map fun p => (p.1, p.2.map f)).map (fun p => (p.1, p.2.map g)) = rows := by
    intro rows
    simp [Function.comp_def, hgf]
  simp only [mapRead, hrows]

end Femio.C04
