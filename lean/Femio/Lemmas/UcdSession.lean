import Femio.Model.UcdHist

/-! Lemmas for C04 about sessions (`Model/UcdHist.lean`): running a history in two parts, and which file a `write`
step leaves at each path. -/
namespace Femio.C04
open Ucd Femio.Text

theorem runSteps_append (cfg : HCfg) (s : Sess) (a b : List Step) :
    runSteps cfg s (a ++ b) = runSteps cfg (runSteps cfg s a) b :=
  List.foldl_append

theorem fileAt_write (cfg : HCfg) (s : Sess) (p o : Nat) :
    fileAt (step cfg s (Step.write p)) o = if o = p then some (writtenText cfg s.obj) else fileAt s o := by
  rw [fileAt, step, List.lookup_cons]
  by_cases h : o = p
  · rw [if_pos h, beq_iff_eq.mpr h]
  · rw [if_neg h, beq_eq_false_iff_ne.mpr h]; rfl

end Femio.C04
