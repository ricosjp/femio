import Femio.Model.UcdText
import Femio.Lemmas.TextLexProps
import Femio.Lemmas.UcdProps

/-! C04 — character level: `lexLine (lineText l) = l` for every line the UCD writer emits, hence the lines (and
    the whole file text) lex back to the token lines the token-level round trip is about. -/
namespace Femio.C04
open Ucd Femio.Text Numeral

theorem contains_comma_false {s : Str} : s.contains ',' = false ↔ ',' ∉ s := by
  simp

theorem classify_showNat (n : Nat) : classify (showNat n) = .n n := by
  simp [classify, parseNat_showNat]

theorem classify_val (x : Str) (h : valOKB x = true) : classify x = .v x := by
  simp only [valOKB, Bool.and_eq_true, Option.isNone_iff_eq_none] at h
  simp [classify, h.1.2, h.2]

/-- every element type name of the source table is a token that lexes back to its index -/
theorem typeName_ok : ∀ k, k < Femio.Gen.elementTypes.length →
    (tokOKB (typeName k) && !(typeName k).contains ',' && (parseNat (typeName k)).isNone
      && (typeIndex (typeName k) == some k)) = true := by
  decide +kernel

theorem showTok_ok (t : Tok Str) (h : ucdTokOKB t = true) :
    classify (showTok t) = t ∧ TokOK (showTok t) ∧ ',' ∉ showTok t := by
  cases t with
  | n k => exact ⟨classify_showNat k, showNat_tokOK k, not_mem_showNat ',' (by decide) k⟩
  | v x =>
    have h' := h
    simp only [ucdTokOKB, valOKB, Bool.and_eq_true, Bool.not_eq_true'] at h'
    exact ⟨classify_val x h, (tokOKB_iff x).mp h'.1.1.1, contains_comma_false.mp h'.1.1.2⟩
  | w s => simp [ucdTokOKB] at h
  | t k =>
    have hk : k < Femio.Gen.elementTypes.length := by simpa [ucdTokOKB] using h
    have := typeName_ok k hk
    simp only [Bool.and_eq_true, Bool.not_eq_true', Option.isNone_iff_eq_none, beq_iff_eq] at this
    obtain ⟨⟨⟨h1, h2⟩, h3⟩, h4⟩ := this
    refine ⟨?_, (tokOKB_iff _).mp h1, contains_comma_false.mp h2⟩
    simp [showTok, classify, h3, h4]

theorem takeWhile_ne_append_cons (c : Char) (s rest : Str) (h : c ∉ s) : (s ++ c :: rest).takeWhile (· ≠ c) = s := by
  have hs : ∀ a ∈ s, decide (a ≠ c) = true := fun a ha => decide_eq_true fun e => h (e ▸ ha)
  rw [List.takeWhile_append_of_pos hs, List.takeWhile_cons_of_neg (by simp), List.append_nil]

/-- the two kinds of line: value / count / type tokens only, or one name -/
theorem lineOKB_iff (l : Line Str) :
    lineOKB l = true ↔ (∀ t ∈ l, ucdTokOKB t = true) ∨ ∃ s, l = [.w s] ∧ nameOKB s = true := by
  unfold lineOKB
  rw [Bool.or_eq_true, List.all_eq_true]
  refine or_congr_right ⟨fun h => ?_, ?_⟩
  · match l, h with
    | [.w s], h => exact ⟨s, rfl, h⟩
  · rintro ⟨s, rfl, h⟩
    exact h

theorem showTok_line_ok (l : Line Str) (h : ∀ t ∈ l, ucdTokOKB t = true) :
    (∀ s ∈ l.map showTok, TokOK s ∧ ',' ∉ s) ∧ (l.map showTok).map classify = l := by
  constructor
  · intro s hs
    obtain ⟨t, ht, rfl⟩ := List.mem_map.mp hs
    exact (showTok_ok t (h t ht)).2
  · exact map_map_eq_self fun t ht => (showTok_ok t (h t ht)).1

theorem lineText_name (s : Str) : lineText [.w s] = s ++ unitSuffix := rfl

/-- **lexer ∘ printer on one line** -/
theorem lexLine_lineText (l : Line Str) (h : lineOKB l = true) : lexLine (lineText l) = l := by
  unfold lexLine
  rcases (lineOKB_iff l).mp h with h | ⟨s, rfl, hn⟩
  · obtain ⟨hs, hcl⟩ := showTok_line_ok l h
    have hcomma : ',' ∉ lineText l := not_mem_joinBlank ',' (by decide) _ fun t ht => (hs t ht).2
    rw [contains_comma_false.mpr hcomma, if_neg Bool.false_ne_true, lineText,
      splitBlank_joinBlank' _ fun t ht => (hs t ht).1]
    exact hcl
  · simp only [nameOKB, Bool.and_eq_true, Bool.not_eq_true'] at hn
    have hcont : (lineText [.w s]).contains ',' = true := by simp [lineText_name, unitSuffix]
    rw [hcont, if_pos rfl, lineText_name]
    exact congrArg (fun x => [Tok.w x]) (takeWhile_ne_append_cons ',' s _ (contains_comma_false.mp hn.2))

theorem lineText_props (l : Line Str) (hne : l ≠ []) (h : lineOKB l = true) : '\n' ∉ lineText l ∧ lineText l ≠ [] := by
  rcases (lineOKB_iff l).mp h with h | ⟨s, rfl, hn⟩
  · obtain ⟨hs, -⟩ := showTok_line_ok l h
    exact ⟨not_mem_joinBlank '\n' (by decide) _ fun t ht => not_newline_of_noWs (hs t ht).1.2,
      joinBlank_ne_nil _ (by simpa using hne) fun t ht => (hs t ht).1.1⟩
  · simp only [nameOKB, Bool.and_eq_true] at hn
    rw [lineText_name]
    refine ⟨?_, by simp [unitSuffix]⟩
    rw [List.mem_append, not_or]
    exact ⟨not_newline_of_noWs ((noWsB_iff s).mp hn.1), by decide⟩

/-! ### every line the writer emits is such a line -/
theorem allVal_line (i : Nat) (xs : List Str) (h : xs.all valOKB = true) :
    lineOKB (Tok.n i :: xs.map Tok.v) = true := by
  rw [List.all_eq_true] at h
  refine (lineOKB_iff _).mpr (Or.inl fun t ht => ?_)
  rcases List.mem_cons.mp ht with rfl | ht
  · rfl
  · obtain ⟨x, hx, rfl⟩ := List.mem_map.mp ht
    exact h x hx

theorem allNat_line (xs : List Nat) : lineOKB (xs.map (Tok.n : Nat → Tok Str)) = true := by
  refine (lineOKB_iff _).mpr (Or.inl fun t ht => ?_)
  obtain ⟨x, _, rfl⟩ := List.mem_map.mp ht
  rfl

theorem elemLine_ok (ty : Nat) (e : Elem) (h : ty < Femio.Gen.elementTypes.length) :
    lineOKB (elemLine ty e : Line Str) = true := by
  have hty : (firstOrder ty e).1 < Femio.Gen.elementTypes.length := by
    unfold firstOrder
    split
    · exact (by decide : tet < Femio.Gen.elementTypes.length)
    · exact h
  refine (lineOKB_iff _).mpr (Or.inl fun t ht => ?_)
  simp only [elemLine, List.mem_cons, List.mem_map] at ht
  rcases ht with rfl | rfl | rfl | ⟨x, _, rfl⟩
  · rfl
  · rfl
  · exact decide_eq_true hty
  · rfl

theorem dataBlock_ok (vars : List Var) (rows : List (Nat × List Str))
    (hv : vars.all (fun x => nameOKB x.name) = true) (hr : ∀ p ∈ rows, p.2.all valOKB = true) :
    ∀ l ∈ (dataBlock vars rows : List (Line Str)), lineOKB l = true ∧ l ≠ [] := by
  intro l hl
  unfold dataBlock at hl
  split at hl
  · simp at hl
  · simp only [List.mem_cons, List.mem_append, List.mem_map] at hl
    rcases hl with rfl | ⟨x, hx, rfl⟩ | ⟨p, hp, rfl⟩
    · refine ⟨?_, by simp [blockHeader]⟩
      have : blockHeader vars = (vars.length :: vars.map Var.width).map (Tok.n : Nat → Tok Str) := by
        simp [blockHeader, List.map_map, Function.comp_def]
      rw [this]; exact allNat_line _
    · refine ⟨?_, by simp [nameLine]⟩
      rw [List.all_eq_true] at hv
      simp [lineOKB, nameLine, ucdTokOKB, hv x hx]
    · exact ⟨allVal_line _ _ (hr p hp), by simp [dataLine]⟩

theorem write_lines_ok (m : Mesh Str) (h : meshOKB m = true) : ∀ l ∈ write m, lineOKB l = true ∧ l ≠ [] := by
  simp only [meshOKB, Bool.and_eq_true] at h
  obtain ⟨⟨⟨⟨⟨h1, h2⟩, h3⟩, h4⟩, h5⟩, h6⟩ := h
  intro l hl
  simp only [write, List.mem_append, List.mem_singleton, List.mem_map] at hl
  rcases hl with (((rfl | ⟨p, hp, rfl⟩) | hl) | hl) | hl
  · refine ⟨allNat_line [m.nodes.length, nElem m, sumW m.nodalVars, sumW m.elemVars, 0], by simp⟩
  · rw [List.all_eq_true] at h1
    exact ⟨allVal_line _ _ (h1 p hp), by simp [nodeLine]⟩
  · simp only [elemLines, List.mem_flatMap, List.mem_map] at hl
    obtain ⟨b, hb, e, _, rfl⟩ := hl
    rw [List.all_eq_true] at h2
    exact ⟨elemLine_ok _ _ (by simpa using h2 b hb), by simp [elemLine]⟩
  · refine dataBlock_ok _ _ h3 ?_ l hl
    intro p hp
    rw [List.all_eq_true] at h4
    exact h4 _ (List.of_mem_zip hp).2
  · refine dataBlock_ok _ _ h5 ?_ l hl
    intro p hp
    rw [List.all_eq_true] at h6
    exact h6 _ (List.of_mem_zip hp).2

theorem lex_print_write (m : Mesh Str) (h : meshOKB m = true) : ((write m).map lineText).map lexLine = write m :=
  map_map_eq_self fun l hl => lexLine_lineText l (write_lines_ok m h l hl).1

theorem fileLines_fileText (m : Mesh Str) (h : meshOKB m = true) : fileLines (fileText m) = (write m).map lineText := by
  have hl : ∀ s ∈ (write m).map lineText, '\n' ∉ s ∧ s ≠ [] := by
    intro s hs
    obtain ⟨l, hl, rfl⟩ := List.mem_map.mp hs
    have := write_lines_ok m h l hl
    exact lineText_props l this.2 this.1
  exact fileLines_unlines_nonempty _ (fun s hs => (hl s hs).1) fun s hs => (hl s hs).2

end Femio.C04
