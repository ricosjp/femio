import Femio.Lemmas.FluxD

/-! `C10_volume`: on a (mirror-)conforming mesh the flux through the extracted boundary equals the sum of the
    element volumes. -/
namespace Femio.C10
open Core Faces

variable {R : Type} [CommRing R]

theorem sum_map_flatMap {α β : Type} (f : α → List β) (w : β → R) (l : List α) :
    ((l.flatMap f).map w).sum = (l.map fun a => ((f a).map w).sum).sum := by
  rw [List.map_flatMap, List.flatMap_def, List.sum_flatten, List.map_map]; rfl

/-- every element is a tet / tet2 / pyr / prism / hex of the right arity -/
def solidMeshB (blocks : List (List Elem)) : Bool := blocks.all fun b => b.all solidB

theorem total_flux (pt : Nat → V3 R) (blocks : List (List Elem)) (h : solidMeshB blocks = true) :
    ((allFaces blocks).map (faceFlux24 4 0 pt)).sum = totalVol24 4 0 pt blocks := by
  have hfl : allFaces blocks = blocks.flatten.flatMap elemFaces := by
    rw [List.flatten_eq_flatMap, List.flatMap_assoc]; rfl
  simp only [solidMeshB, List.all_eq_true] at h
  rw [totalVol24, sumR_eq_sum, hfl, sum_map_flatMap]
  congr 1
  apply List.map_congr_left
  intro e he
  obtain ⟨b, hb, heb⟩ := List.mem_flatten.mp he
  rw [← sumR_eq_sum, elem_flux pt e (h b hb e heb)]

theorem volume_of_conforming (pt : Nat → V3 R) (blocks : List (List Elem))
    (hsolid : solidMeshB blocks = true) (hconf : mirrorConformingB (allFaces blocks) = true) :
    surfaceFlux24 4 0 pt (allFaces blocks) = totalVol24 4 0 pt blocks := by
  unfold surfaceFlux24
  rw [sumR_eq_sum, ← boundary_eq, ← total_flux pt blocks hsolid]
  apply boundary_sum_eq_total
  intro k hk
  rw [fiber_eq] at hk ⊢
  rcases fiberB_eq_nil_or (allFaces blocks) k with h0 | ⟨f, hf, rfl⟩
  · rw [h0]; rfl
  · simp only [mirrorConformingB, List.all_eq_true] at hconf
    have h := hconf f hf
    split at h
    · rename_i heq
      rw [heq] at hk
      exact absurd rfl hk
    · rename_i g g' heq
      rw [heq, List.map_cons, List.map_cons, List.map_nil, List.sum_cons, List.sum_cons, List.sum_nil,
        flux_mirror pt g g' h, add_zero, add_neg_cancel]
    · cases h

end Femio.C10
