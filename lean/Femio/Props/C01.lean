import Femio.Model.FistrOrient
import Femio.Model.FistrHist
import Femio.Model.FistrSections
import Femio.Lemmas.FistrRoundtrip
import Femio.Lemmas.FistrG3
import Mathlib.Tactic.Ring

/-! # C01 — FrontISTR `.msh` write → read is the identity; FrontISTR node order; format insensitivity

`C01_roundtrip : WF m → (writeMsh m).bind readMsh = some (canon m)` is a theorem for the whole file (`Model/FistrMsh.lean`,
`FistrCanon.lean`; proof in `Lemmas/FistrHdr.lean`, `FistrRoundtrip.lean`, `FistrRU.lean`).
Trusted / not a theorem: decimal ↔ binary rounding of `%.12E` / `float()`; the tie of `writeMsh` / `readMsh` to the
Python code (differential run). -/
namespace Femio.C01
open Femio.Fistr Femio.Fistr.RT Femio.Gen Numeral

/-- **C01_codes_inverse**: for every supported element type the code the writer emits
    (`detect_fistr_element_type`) is mapped back to that type by the reader's table (`DICT_FISTR_ELEMENTS`). -/
theorem C01_codes_inverse :
    ∀ t ∈ writerTypes, (lookupN t fistrTypeToCode).bind (fun c => codeToType (showNat c)) = some t := by decide +kernel

example : (lookupN 12 fistrTypeToCode).bind (fun c => codeToType (showNat c)) = some 12 := C01_codes_inverse 12 (by decide)
/-- recorded: `prism2` is written as 352, which the reader does not know (outside the property's type list) -/
example : (lookupN 13 fistrTypeToCode).bind (fun c => codeToType (showNat c)) = none := by decide +kernel

/-- **C01_prism_perm_involutive**: on any 6-node row the writer's prism permutation followed by the reader's is
    the identity (tables generated from `_reorder_prism_data` / `_reorder_prism`). -/
theorem C01_prism_perm_involutive {α : Type} (l : List α) (h : l.length = 6) :
    (permute prismPermWrite l).bind (permute prismPermRead) = some l := permute_prism l h

example : (permute prismPermWrite [2, 6, 11, 40, 12, 5]).bind (permute prismPermRead) = some [2, 6, 11, 40, 12, 5] :=
  C01_prism_perm_involutive _ rfl
example : permute prismPermWrite [2, 6, 11, 40, 12, 5] = some [2, 11, 6, 40, 5, 12] := by decide

/-- **C01_orientation**: for every solid type the writer supports, FrontISTR's outward face cycles of the *written*
    row (hand spec `fistrOutFaces`, read through the writer's node permutation) are exactly the outward face
    cycles femio uses for the element (`_generate_all_faces` tables) — as sets of cyclic sequences, so
    independent of geometry: a positively oriented femio element is positively oriented for FrontISTR. -/
theorem C01_orientation :
    ∀ t ∈ [8, 9, 12, 14, 15], sameCycles (writtenFaces t) (femioOutFaces t) = true := by decide +kernel

example : writtenFaces 12 = [[0, 1, 2], [3, 5, 4], [0, 2, 5, 3], [2, 1, 4, 5], [1, 0, 3, 4]] := by decide

/-- the prism permutation is what makes this true: written unpermuted, a femio prism has FrontISTR's faces
    inside out (the symmetric error "drop the permutation in writer *and* reader" that no read-after-write test sees) -/
theorem C01_prism_unpermuted_inverted :
    sameCycles (fistrOutFaces 12) (femioOutFaces 12) = false ∧
    sameCycles ((fistrOutFaces 12).map List.reverse) (femioOutFaces 12) = true := by decide +kernel

section vol
variable {R : Type} [CommRing R]
open Geom
/-- **C01_orientation_volume_affine**: on every affine prism (origin `o`, edge vectors `u v w`) FrontISTR's signed
    volume of the written (permuted) row equals femio's signed volume of the element. -/
theorem C01_orientation_volume_affine (o u v w : V3 R) :
    fistrPrism6 o (V3.add o v) (V3.add o u) (V3.add o w) (V3.add (V3.add o v) w) (V3.add (V3.add o u) w)
      = prismLin6 o (V3.add o u) (V3.add o v) (V3.add o w) (V3.add (V3.add o u) w) (V3.add (V3.add o v) w) := by
  simp only [fistrPrism6, prismLin6, tet6, V3.det, V3.sub, V3.add]; ring

theorem tet6_swap (a b c d : V3 R) : tet6 a c b d = -tet6 a b c d := by
  simp only [tet6, V3.det, V3.sub]; ring

theorem fistrPrism6_eq_neg_prismLin6 (p0 p1 p2 p3 p4 p5 : V3 R) :
    fistrPrism6 p0 p1 p2 p3 p4 p5 = -prismLin6 p0 p1 p2 p3 p4 p5 := by
  rw [fistrPrism6, prismLin6, tet6_swap p0 p1 p2 p3, tet6_swap p1 p2 p3 p4, tet6_swap p2 p3 p4 p5]
  ring

/-- … and of the unpermuted row it is the opposite. -/
theorem C01_prism_unpermuted_flips (o u v w : V3 R) :
    fistrPrism6 o (V3.add o u) (V3.add o v) (V3.add o w) (V3.add (V3.add o u) w) (V3.add (V3.add o v) w)
      = - prismLin6 o (V3.add o u) (V3.add o v) (V3.add o w) (V3.add (V3.add o u) w) (V3.add (V3.add o v) w) :=
  fistrPrism6_eq_neg_prismLin6 _ _ _ _ _ _

/-- tetrahedra: the two conventions are the same formula -/
theorem C01_orientation_tet (p0 p1 p2 p3 : V3 R) : fistrTet6 p0 p1 p2 p3 = tet6 p0 p1 p2 p3 := rfl
end vol

example : Geom.prismLin6 (⟨0,0,0⟩ : V3 Int) ⟨1,0,0⟩ ⟨0,1,0⟩ ⟨0,0,-1⟩ ⟨1,0,-1⟩ ⟨0,1,-1⟩ = 3 := by decide

/-- **C01_float_roundtrip**: what `%.pE` prints for a decimal datum, `float()` reads back as exactly that decimal
    (every precision, mantissa, exponent, sign, signed zero; blanks around the field are ignored). -/
theorem C01_float_roundtrip (p : Nat) (s : Sci) (a b : List Char) (ha : ∀ c ∈ a, isWs c = true) (hb : ∀ c ∈ b, isWs c = true) :
    parseDec (a ++ renderSci p s ++ b) = some (s.toDec p) := by
  rw [parseDec_pad a _ b ha hb, parseDec_renderSci]

example : renderSci 12 ⟨true, 1250000000000, 100⟩ = c!"-1.250000000000E+100" := by decide
example : parseDec c!" -1.250000000000E+100 " = some ⟨true, 1250000000000, 88⟩ :=
  C01_float_roundtrip 12 ⟨true, 1250000000000, 100⟩ [' '] [' '] (by decide) (by decide)

/-- **C01_row_roundtrip**: every data row the writer prints is lexed back to what was printed:
    `!NODE` rows (id through float, three `%.12E` coordinates), `!ELEMENT` rows on both reader branches,
    `!EGROUP` rows, `!INITIAL CONDITION` rows. -/
theorem C01_row_roundtrip :
    (∀ r : Nat × List Sci, parseRowF parseDec (nodeLine r) = some (r.1, r.2.map (Sci.toDec 12))) ∧
    (∀ r : Nat × List Nat, parseRowF parseNatTok (elemLine r) = some r) ∧
    (∀ r : Nat × List Nat, (parseRowI (elemLine r)).bind headTail = some r) ∧
    (∀ e : Nat, parseRowI (showNat e) = some [e]) ∧
    (∀ r : Nat × Sci, parseRowF parseDec (tempLine r) = some (r.1, [r.2.toDec 12])) := by
  refine ⟨parseRowF_nodeLine, parseRowF_elemLine, fun r => ?_, fun e => ?_, parseRowF_tempLine⟩
  · unfold elemLine; rw [parseRowI_natRow _ (by simp)]; rfl
  · exact parseRowI_natRow [e] (by simp)

example : nodeLine (99, [⟨false, 9000000000000, 0⟩, ⟨false, 0, 0⟩, ⟨true, 1250000000000, -7⟩]) =
    c!"99,9.000000000000E+00,0.000000000000E+00,-1.250000000000E-07" := by decide

/-- **C01_blocks_roundtrip**: the header scan (`to_header_data('!')` after the comment filter) of any sequence of
    blocks `header :: data lines` returns exactly those blocks — any number of blocks, any block sizes. -/
theorem C01_blocks_roundtrip (bs : List (Line × List Line)) (hwf : WFBlocks bs)
    (hclean : ∀ l ∈ renderBlocks bs, ignoreLine l = false) : toBlocks (renderBlocks bs) = bs := by
  rw [toBlocks_of_clean _ hclean, toBlocksAux_render bs hwf]

example : toBlocks [c!"!NODE", c!"1,0.0", c!"!ELEMENT,TYPE=341", c!"!END"] =
    [(c!"!NODE", [c!"1,0.0"]), (c!"!ELEMENT,TYPE=341", []), (c!"!END", [])] := by decide +kernel

/-- **C01_roundtrip_partial** (row lists of the sections; the whole file is `C01_roundtrip`): for every mesh — any ids, any storage order, any number of rows —
    the written `!NODE` rows are read back as the same id ↦ coordinates list (exact decimal values),
    the written `!ELEMENT` rows as the same id ↦ connectivity list on both reader branches, prism rows
    (length 6) through write-permutation, text and read-permutation unchanged, and the written
    temperature rows as the same id ↦ value list. -/
theorem C01_roundtrip_partial (m : MshIn) :
    (m.nodes.map nodeLine).mapM (fun l => (parseRowF parseDec l).map fun r => (r.1, r.2.take 3)) =
        some ((canonNodes m).map fun r => (r.1, r.2.take 3)) ∧
    (∀ rows : List (Nat × List Nat), (rows.map elemLine).mapM (parseRowF parseNatTok) = some rows) ∧
    (∀ rows : List (Nat × List Nat), (rows.map elemLine).mapM (fun l => (parseRowI l).bind headTail) = some rows) ∧
    (∀ r : Nat × List Nat, r.2.length = 6 →
        ((permute prismPermWrite r.2).bind fun w => ((parseRowF parseNatTok (elemLine (r.1, w))).bind fun q =>
          (permute prismPermRead q.2).map fun c => (q.1, c))) = some r) ∧
    (∀ t : List (Nat × Sci), (t.map tempLine).mapM (parseRowF parseDec) = some (t.map fun r => (r.1, [r.2.toDec 12]))) := by
  refine ⟨?_, fun rows => ?_, fun rows => ?_, fun r h6 => ?_, fun t => ?_⟩
  · unfold canonNodes
    rw [List.map_map]
    exact mapM_map_eq_some_map nodeLine _ _ m.nodes fun r _ => by simp [parseRowF_nodeLine]
  · exact mapM_map_eq_some_self elemLine _ rows fun r _ => parseRowF_elemLine r
  · exact mapM_map_eq_some_self elemLine _ rows fun r _ => C01_row_roundtrip.2.2.1 r
  · obtain ⟨w, hw, -, hr⟩ := permute_prism_spec r.2 h6
    simp [hw, parseRowF_elemLine, hr]
  · exact mapM_map_eq_some_map tempLine (parseRowF parseDec) _ t fun r _ => parseRowF_tempLine r

/-- the mesh of `C01_roundtrip_example`: tet + prism + hex over shuffled sparse ids, node 99 unreferenced -/
def exMesh : MshIn where
  nodes := [(10, [⟨false, 0, 0⟩, ⟨false, 0, 0⟩, ⟨false, 0, 0⟩]), (4, [⟨false, 1000000000000, 0⟩, ⟨false, 0, 0⟩, ⟨false, 0, 0⟩]),
            (7, [⟨false, 1000000000000, 0⟩, ⟨false, 1000000000000, 0⟩, ⟨true, 0, 0⟩]),
            (99, [⟨false, 9000000000000, 0⟩, ⟨false, 9000000000000, 0⟩, ⟨true, 1250000000000, 100⟩]),
            (22, [⟨false, 0, 0⟩, ⟨false, 1000000000000, 0⟩, ⟨false, 0, 0⟩]), (3, [⟨false, 0, 0⟩, ⟨false, 0, 0⟩, ⟨false, 1000000000000, 0⟩]),
            (15, [⟨false, 1000000000000, 0⟩, ⟨false, 0, 0⟩, ⟨false, 1000000000000, 0⟩]),
            (8, [⟨false, 1000000000000, 0⟩, ⟨false, 1000000000000, 0⟩, ⟨false, 1500000000000, -7⟩]),
            (30, [⟨false, 0, 0⟩, ⟨false, 1000000000000, 0⟩, ⟨false, 1000000000000, 0⟩])]
  blocks := [(8, [(100, [10, 4, 7, 3])]), (12, [(5, [10, 4, 7, 3, 15, 8])]), (14, [(7, [10, 4, 7, 22, 3, 15, 8, 30])])]
  hasAll := true
  groups := [(c!"GA", [7, 5]), (c!"G_2", [100, 7])]
  sec := some ⟨false, c!"G_2", c!"M1", ⟨false, 210000500, 5⟩, ⟨false, 300000000, -1⟩⟩
  temp := some [(10, ⟨false, 0, 0⟩), (4, ⟨false, 1500000000000, 0⟩), (7, ⟨false, 3000000000000, 0⟩), (99, ⟨true, 1, 0⟩),
                (22, ⟨false, 4500000000000, 0⟩), (3, ⟨false, 6000000000000, 0⟩), (15, ⟨false, 7500000000000, 0⟩),
                (8, ⟨false, 9000000000000, 0⟩), (30, ⟨false, 1050000000000, 1⟩)]

/-- **C01_roundtrip_example** (non-vacuity of the whole pipeline, kernel-evaluated): the complete text `writeMsh`
    produces for `exMesh` is read by `readMsh` to: the referenced nodes (ascending, 99 dropped) with their exact
    coordinates, the three blocks with the original connectivity (prism un-permuted), `ALL` + both groups, the
    section, the material values, and the temperatures re-bound to the surviving nodes. -/
theorem C01_roundtrip_example :
    (writeMsh exMesh).bind readMsh = some
      { nodes := [(3, [⟨false, 0, -12⟩, ⟨false, 0, -12⟩, ⟨false, 1000000000000, -12⟩]),
                  (4, [⟨false, 1000000000000, -12⟩, ⟨false, 0, -12⟩, ⟨false, 0, -12⟩]),
                  (7, [⟨false, 1000000000000, -12⟩, ⟨false, 1000000000000, -12⟩, ⟨true, 0, -12⟩]),
                  (8, [⟨false, 1000000000000, -12⟩, ⟨false, 1000000000000, -12⟩, ⟨false, 1500000000000, -19⟩]),
                  (10, [⟨false, 0, -12⟩, ⟨false, 0, -12⟩, ⟨false, 0, -12⟩]),
                  (15, [⟨false, 1000000000000, -12⟩, ⟨false, 0, -12⟩, ⟨false, 1000000000000, -12⟩]),
                  (22, [⟨false, 0, -12⟩, ⟨false, 1000000000000, -12⟩, ⟨false, 0, -12⟩]),
                  (30, [⟨false, 0, -12⟩, ⟨false, 1000000000000, -12⟩, ⟨false, 1000000000000, -12⟩])]
        elems := exMesh.blocks
        ngroups := [(c!"ALL", [10, 4, 7, 99, 22, 3, 15, 8, 30])]
        egroups := [(c!"ALL", [5, 7, 100]), (c!"GA", [7, 5]), (c!"G_2", [100, 7])]
        sections := [(c!"M1", c!"SOLID", c!"G_2")]
        materials := [(c!"M1", [⟨false, 210000500, -3⟩, ⟨false, 300000000, -9⟩])]
        nodal := [(c!"TEMPERATURE", [(3, [⟨false, 6000000000000, -12⟩]), (4, [⟨false, 1500000000000, -12⟩]),
                   (7, [⟨false, 3000000000000, -12⟩]), (8, [⟨false, 9000000000000, -12⟩]), (10, [⟨false, 0, -12⟩]),
                   (15, [⟨false, 7500000000000, -12⟩]), (22, [⟨false, 4500000000000, -12⟩]),
                   (30, [⟨false, 1050000000000, -11⟩])])] } := by decide +kernel

/-- **Full statement of the round trip** (proved: `C01_roundtrip_statement`): for every well-formed mesh the written
    file is read back to the id-keyed maps of the input restricted to the referenced nodes. -/
def RoundtripStatement : Prop :=
  ∀ m : MshIn, WF m → ∃ r : MshRead, (writeMsh m).bind readMsh = some r ∧
    (∀ i c, (i, c) ∈ r.nodes ↔ (i ∈ referenced m ∧ (i, c) ∈ canonNodes m)) ∧
    r.elems = m.blocks ∧
    (∀ g, g ∈ r.egroups ↔ (g ∈ m.groups ∨ g = (c!"ALL", allElemIds m.blocks))) ∧
    (∀ s ∈ m.sec, r.sections = [(s.mat, if s.shell then c!"SHELL" else c!"SOLID", s.egrp)] ∧
      r.materials = [(s.mat, [s.young.toDec 8, s.poisson.toDec 8])]) ∧
    (∀ t ∈ m.temp, ∀ i v, (∃ rows, (c!"TEMPERATURE", rows) ∈ r.nodal ∧ (i, [v]) ∈ rows) ↔
      (i ∈ referenced m ∧ ∃ s, (i, s) ∈ t ∧ v = s.toDec 12))


/-- **C01_roundtrip** (whole file): for every well-formed writer input `m` — any number of nodes, element blocks and
    groups, arbitrary (distinct) ids in any storage order, symbolic `\w+` group / section / material names, optional
    section + material, optional initial temperature — the text `writeMsh m` produces is read by `readMsh`
    (comment filter, header scan, `extract_data` by `str.contains`, every `_read_*` function, `remove_useless_nodes`)
    to exactly `canon m`. -/
theorem C01_roundtrip (m : MshIn) (hwf : WF m) : (writeMsh m).bind readMsh = some (canon m) :=
  readMsh_writeMsh m hwf

theorem C01_exMesh_wf : WF exMesh := by decide +kernel

example : (writeMsh exMesh).bind readMsh = some (canon exMesh) := C01_roundtrip exMesh C01_exMesh_wf
/-- `canon exMesh` is the value `C01_roundtrip_example` computes: node 99 dropped, survivors ascending, temperatures re-bound -/
example : (canon exMesh).nodes.map (·.1) = [3, 4, 7, 8, 10, 15, 22, 30] ∧ (canon exMesh).elems = exMesh.blocks ∧
    (canon exMesh).egroups = [(c!"ALL", [5, 7, 100]), (c!"GA", [7, 5]), (c!"G_2", [100, 7])] ∧
    (canon exMesh).nodal.map (fun p => p.2.map (·.1)) = [[3, 4, 7, 8, 10, 15, 22, 30]] := by decide +kernel
/-- a mesh in which every node is referenced keeps its storage order -/
example : (canon { exMesh with nodes := exMesh.nodes.filter (·.1 ≠ 99), temp := none }).nodes.map (·.1) =
    [10, 4, 7, 22, 3, 15, 8, 30] := by decide +kernel

/-- **C01_roundtrip_statement**: `RoundtripStatement` holds — the id-keyed reading of `C01_roundtrip`: a node is read
    back iff it is referenced, with its exact decimal coordinates; the element blocks are identical; the element
    groups are the given ones plus `ALL`; section and material as given; a node has the temperature it was given
    iff it is referenced. -/
theorem C01_roundtrip_statement : RoundtripStatement := by
  intro m hwf
  refine ⟨canon m, C01_roundtrip m hwf, ?_, rfl, ?_, ?_, ?_⟩
  · exact RU.mem_kept m.blocks (canonNodes m) _ (by simp [canonNodes]) (by rw [canonNodes_ids]; exact hwf.node_ids)
      (by rw [canonNodes_ids]; exact hwf.refs)
  · intro g
    simp only [canon, List.mem_cons]
    exact or_comm
  · intro s hs
    have hs' : m.sec = some s := hs
    simp [canon, hs', secType]
  · intro t ht i v
    have ht' : m.temp = some t := ht
    have hkeys : ((t.map fun r : Nat × Sci => (r.1, [r.2.toDec 12])).map (·.1)) = m.nodes.map (·.1) := by
      rw [← hwf.temp_ok t ht, List.map_map]; rfl
    have hnodal : (canon m).nodal = [(c!"TEMPERATURE",
        if m.nodes.length = (uniqueNat (referenced m)).length then t.map fun r => (r.1, [r.2.toDec 12])
        else RU.pick (uniqueNat (referenced m)) (t.map fun r => (r.1, [r.2.toDec 12])))] := by
      by_cases hlen : m.nodes.length = (uniqueNat (referenced m)).length <;> simp [canon, canonTemp, ht', hlen]
    simp only [hnodal, List.mem_singleton, Prod.mk.injEq, true_and, exists_eq_left]
    exact (RU.mem_kept m.blocks _ _ (by simpa using (congrArg List.length hkeys).symm) (by rw [hkeys]; exact hwf.node_ids)
      (by rw [hkeys]; exact hwf.refs) i [v]).trans (and_congr_right fun _ => mem_tempRows t i v)

example : ∃ r, (writeMsh exMesh).bind readMsh = some r ∧ ((99, [⟨false, 9000000000000, -12⟩, ⟨false, 9000000000000, -12⟩,
    ⟨true, 1250000000000, 88⟩]) ∈ canonNodes exMesh ∧ ∀ c, (99, c) ∉ r.nodes) := by
  obtain ⟨r, hr, hn, -⟩ := C01_roundtrip_statement exMesh C01_exMesh_wf
  exact ⟨r, hr, by decide +kernel, fun c hc => absurd ((hn 99 c).mp hc).1 (by decide +kernel)⟩

/-- **C01_format_insensitive (G1 blank lines, G2 `#` comment lines)**: the reader's result depends on the text only
    through the lines that survive the comment/blank filter; in particular inserting any line that contains `#` or
    consists of blanks, anywhere, changes nothing. -/
theorem C01_format_insensitive_blank_comment :
    (∀ t t' : List Line, (t.filter fun l => !ignoreLine l) = (t'.filter fun l => !ignoreLine l) → readMsh t = readMsh t') ∧
    (∀ (a b : List Line) (l : Line), ignoreLine l = true → readMsh (a ++ l :: b) = readMsh (a ++ b)) := by
  have h1 : ∀ t t' : List Line, (t.filter fun l => !ignoreLine l) = (t'.filter fun l => !ignoreLine l) →
      readMsh t = readMsh t' := by
    intro t t' h; unfold readMsh toBlocks; rw [h]
  refine ⟨h1, fun a b l hl => h1 _ _ ?_⟩
  simp [List.filter_append, hl]

example : ignoreLine c!"  # a comment, with 1,2,3" = true ∧ ignoreLine c!" \t " = true ∧ ignoreLine c!"!! x" = false := by decide

/-- **C01_format_insensitive (G4 split block)**: repeating a block's header between two of its data rows — the text
    `… h :: d1 ++ h :: d2 …` instead of `… h :: d1 ++ d2 …` — leaves `extract_data(key)` unchanged for every key;
    hence the `!NODE` section, the `!ELEMENT` section of a uniform mesh, and every other concatenating section
    (`concatenate=True`) read the same. (Stated on rendered blocks; arbitrary text and the mixed-element branch:
    `C01_format_insensitive_split_whole`. For `!EGROUP` the statement is false of the upstream code, see finding G6.) -/
theorem C01_format_insensitive_split (h : Line) (d1 d2 : List Line) (pre post : List (Line × List Line))
    (hwf : WFBlocks (pre ++ (h, d1 ++ d2) :: post))
    (hclean : ∀ l ∈ renderBlocks (pre ++ (h, d1) :: (h, d2) :: post), ignoreLine l = false) (key : List Char) :
    renderBlocks (pre ++ (h, d1) :: (h, d2) :: post) = renderBlocks pre ++ (h :: d1 ++ h :: d2 ++ renderBlocks post) ∧
    extractData key (toBlocks (renderBlocks (pre ++ (h, d1) :: (h, d2) :: post))) =
      extractData key (pre ++ (h, d1 ++ d2) :: post) ∧
    readNodes (toBlocks (renderBlocks (pre ++ (h, d1) :: (h, d2) :: post))) = readNodes (pre ++ (h, d1 ++ d2) :: post) := by
  have hb := C01_blocks_roundtrip _ (wf_split h d1 d2 pre post hwf) hclean
  refine ⟨renderBlocks_split h d1 d2 pre post, ?_, ?_⟩
  · rw [hb, extractData_split]
  · unfold readNodes; rw [hb, extractData_split]

example : extractData c!"!NODE" (toBlocks [c!"!NODE", c!"1,0", c!"!NODE", c!"2,0", c!"!END"]) = [c!"1,0", c!"2,0"] := by decide +kernel

/-- **C01_format_insensitive (G3 whitespace), per field**: integers and floats ignore surrounding blanks, header
    captures ignore blanks after the comma; whole files: `C01_format_insensitive_whitespace`. -/
theorem C01_format_insensitive_whitespace_partial (a b : List Char) (ha : ∀ c ∈ a, isWs c = true) (hb : ∀ c ∈ b, isWs c = true) :
    (∀ n : Nat, parseNatTok (a ++ showNat n ++ b) = parseNatTok (showNat n)) ∧
    (∀ (p : Nat) (s : Sci), parseDec (a ++ renderSci p s ++ b) = parseDec (renderSci p s)) ∧
    capture c!"TYPE=" c!"!ELEMENT,  TYPE=351" = capture c!"TYPE=" c!"!ELEMENT,TYPE=351" := by
  exact ⟨fun n => parseNatTok_pad a _ b ha hb, fun p s => parseDec_pad a _ b ha hb, by decide⟩

/-- **C01_format_insensitive (G3 whitespace), whole file**: for ARBITRARY texts `t`, `t'` related line by line by
    `G3.LineRel` — a data line (not starting with `!`) is replaced by a line with the same comma-separated fields up to
    surrounding blanks; a header line keeps its first field and its other fields up to blanks after the comma — the
    reader returns the same result (also under both repair flags).  `G3.PadLine` is literally the mutation the harness
    applies (`ws + field + ws'` in data rows, `ws + field.lstrip()` after header commas). -/
theorem C01_format_insensitive_whitespace :
    (∀ t t' : List Line, G3.G3 t t' → readMsh t = readMsh t') ∧
    (∀ (cfg : ReadCfg) (t t' : List Line), G3.G3 t t' → readMshCfg cfg t = readMshCfg cfg t') ∧
    (∀ t t' : List Line, List.Forall₂ G3.PadLine t t' → readMsh t = readMsh t') :=
  ⟨G3.readMsh_g3, G3.readMshCfg_g3, G3.readMsh_padded⟩

example : G3.G3 G3.g3Text G3.g3TextPadded ∧ readMsh G3.g3TextPadded = readMsh G3.g3Text ∧
    (readMsh G3.g3Text).isSome = true :=
  ⟨G3.g3Text_rel, (C01_format_insensitive_whitespace.1 _ _ G3.g3Text_rel).symm, G3.g3Text_reads⟩

/-- **C01_format_insensitive (G4 split block), whole file**: in ARBITRARY text, repeating the header `h` of a `!NODE`
    or `!ELEMENT` block (`G4.SplitHeader h`: `h` belongs to exactly one of the two sections and to no other) between
    two of its data rows does not change what the reader returns — uniform and mixed-element branch; for `!ELEMENT`
    both parts must keep a data row (otherwise the real reader raises on the empty block: see the `decide`d example in
    `Lemmas/FistrG4.lean`).  Iterated (`ReflTransGen`): a block split into several blocks; all repair flags. -/
theorem C01_format_insensitive_split_whole :
    (∀ (pre d1 d2 post : List Line) (h : Line), G4.SplitHeader h → (∀ l ∈ d1, isHeader l = false) →
      (∀ l ∈ d2, isHeader l = false) →
      (hasSub c!"!ELEMENT" h = true → (∃ l ∈ d1, ignoreLine l = false) ∧ (∃ l ∈ d2, ignoreLine l = false)) →
      readMsh (pre ++ h :: d1 ++ h :: d2 ++ post) = readMsh (pre ++ h :: d1 ++ d2 ++ post)) ∧
    (∀ t t' : List Line, Relation.ReflTransGen G4.Split1 t t' → readMsh t' = readMsh t) ∧
    (∀ (cfg : ReadCfg) (t t' : List Line), Relation.ReflTransGen G4.Split1 t t' → readMshCfg cfg t' = readMshCfg cfg t) :=
  ⟨fun pre d1 d2 post h hh h1 h2 hne => G4.readMsh_split pre d1 d2 post h hh h1 h2 hne,
   fun _ _ hs => G4.readMsh_splits hs, fun cfg _ _ hs => G4.readMshCfg_splits cfg hs⟩

/-- a mixed-type file (tet + two triangles) whose triangle block is cut in two: different blocks, same result -/
example : G4.Split1 G4.g4Text G4.g4TextSplit ∧ readMsh G4.g4TextSplit = readMsh G4.g4Text ∧
    (readMsh G4.g4Text).isSome = true ∧ toBlocks G4.g4TextSplit ≠ toBlocks G4.g4Text :=
  ⟨G4.g4_split1, C01_format_insensitive_split_whole.2.1 _ _ (Relation.ReflTransGen.single G4.g4_split1),
   G4.g4Text_reads.1, G4.g4Text_reads.2.2⟩

/-- one formatting step: G1 / G2 (the two texts have the same lines after the comment / blank filter), G3, G4 -/
inductive FmtStep : List Line → List Line → Prop
  | blankComment (t t' : List Line) :
      (t.filter fun l => !ignoreLine l) = (t'.filter fun l => !ignoreLine l) → FmtStep t t'
  | whitespace (t t' : List Line) : G3.G3 t t' → FmtStep t t'
  | split (t t' : List Line) : G4.Split1 t t' → FmtStep t t'

/-- **C01_format_insensitive**: `t ~fmt t' → readMsh t = readMsh t'` for the relation generated by G1 blank lines,
    G2 `#` comment lines, G3 whitespace around commas, G4 block splitting — any number of steps, in any order, on
    arbitrary text. -/
theorem C01_format_insensitive {t t' : List Line} (h : Relation.ReflTransGen FmtStep t t') : readMsh t = readMsh t' := by
  induction h with
  | refl => rfl
  | tail _ hstep ih =>
    rw [ih]
    cases hstep with
    | blankComment hf => exact C01_format_insensitive_blank_comment.1 _ _ hf
    | whitespace hg => exact G3.readMsh_g3 _ _ hg
    | split hs => exact (G4.readMsh_splits (Relation.ReflTransGen.single hs)).symm

/-- **C01_roundtrip_any_format**: the file written for a well-formed mesh, re-formatted by any sequence of G1–G4
    steps, is read back to `canon m`. -/
theorem C01_roundtrip_any_format (m : MshIn) (hwf : WF m) (t t' : List Line) (hw : writeMsh m = some t)
    (h : Relation.ReflTransGen FmtStep t t') : readMsh t' = some (canon m) := by
  have := C01_roundtrip m hwf
  rw [hw] at this
  rw [← C01_format_insensitive h]
  exact this

example : Relation.ReflTransGen FmtStep G4.g4Text (c!"# c" :: G4.g4TextSplit) :=
  (Relation.ReflTransGen.single (FmtStep.split _ _ G4.g4_split1)).tail
    (FmtStep.blankComment _ _ (by decide +kernel))

/-! ### findings G5 / G6: `Cfg` pattern (upstream = `⟨false, false⟩`) -/
/-- **G5, repaired configuration**: with `bang = true` a line starting with `!!` inserted anywhere changes nothing. -/
theorem C01_format_insensitive_bang_fixed (merge : Bool) (a b : List Line) (l : Line) (hl : isPrefix c!"!!" l = true) :
    readMshCfg ⟨true, merge⟩ (a ++ l :: b) = readMshCfg ⟨true, merge⟩ (a ++ b) := by
  simp [readMshCfg, List.filter_append, hl]

def g5Text : List Line := [c!"!NODE", c!"1,0,0,0", c!"!! comment", c!"2,1,0,0", c!"!ELEMENT,TYPE=301", c!"5,1,2", c!"!END"]
/-- **G5, upstream counterexample**: a `!!` comment line inside the `!NODE` block cuts the block — upstream the file
    is unreadable (node 2 is lost, `remove_useless_nodes` raises), repaired it reads as without the comment. -/
theorem C01_bang_counterexample_upstream :
    readMshCfg ⟨false, false⟩ g5Text = none ∧
    (readMshCfg ⟨true, false⟩ g5Text).map (·.nodes.map (·.1)) = some [1, 2] ∧
    readMshCfg ⟨true, false⟩ g5Text = readMshCfg ⟨false, false⟩ (g5Text.filter (· ≠ c!"!! comment")) := by decide +kernel

def g6Text (split : Bool) : List Line :=
  [c!"!NODE", c!"1,0,0,0", c!"2,1,0,0", c!"!ELEMENT,TYPE=301", c!"5,1,2", c!"6,2,1", c!"!EGROUP, EGRP=A", c!"5"]
  ++ (if split then [c!"!EGROUP, EGRP=A"] else []) ++ [c!"6", c!"!END"]
/-- **G6, upstream counterexample and repaired behaviour**: `!EGROUP, EGRP=A` given in two blocks — upstream keeps
    the last block only, repaired the group is the same as from the unsplit block. -/
theorem C01_split_egroup_counterexample_upstream :
    (readMshCfg ⟨false, false⟩ (g6Text true)).map (·.egroups) = some [(c!"ALL", [5, 6]), (c!"A", [6])] ∧
    (readMshCfg ⟨false, false⟩ (g6Text false)).map (·.egroups) = some [(c!"ALL", [5, 6]), (c!"A", [5, 6])] ∧
    readMshCfg ⟨false, true⟩ (g6Text true) = readMshCfg ⟨false, true⟩ (g6Text false) ∧
    readMshCfg ⟨false, true⟩ (g6Text false) = readMshCfg ⟨false, false⟩ (g6Text false) := by decide +kernel

end Femio.C01

namespace Femio.C01
open Femio.Fistr Femio.Fistr.Hist

/-- **C01_write_keeps_object**: whatever the history (public modifications, files left under the output name, earlier
    writes with or without `overwrite=True`), the object's state is the one its last public modification left: no
    write changes the object it is called on. -/
theorem C01_write_keeps_object (cfg : Hist.Cfg) (s : St) (ops : List Op) : (run cfg s ops).obj = lastObj s.obj ops := by
  induction ops generalizing s with
  | nil => rfl
  | cons op ops ih =>
    have hrun : run cfg s (op :: ops) = run cfg (step cfg s op) ops := rfl
    rw [hrun, ih]
    cases op with
    | modify m' => rfl
    | place t => rfl
    | remove => rfl
    | write ow =>
      have h : (step cfg s (.write ow)).obj = s.obj := by
        simp only [step]
        split <;> rfl
      rw [h]
      rfl

/-- **C01_history_roundtrip**: after ANY history `ops` on one object (started in any state `s`, the output name
    holding anything or nothing), a write that is allowed to proceed (`overwrite=True`, or no file under the name)
    leaves a file that `readMsh` reads to `canon` of the object's CURRENT state — the state its last public modification
    left, `lastObj` — provided that state is well-formed; and the object still is in that state afterwards.  Nothing of
    the earlier states of the object or of the earlier content of the file survives. -/
theorem C01_history_roundtrip (s : St) (ops : List Op) (ow : Bool)
    (hwf : WF (lastObj s.obj ops)) (hallowed : ow = true ∨ (run Cfg.fixed s ops).file = none) :
    ((run Cfg.fixed s (ops ++ [.write ow])).file.bind readMsh = some (canon (lastObj s.obj ops))) ∧
    (run Cfg.fixed s (ops ++ [.write ow])).obj = lastObj s.obj ops := by
  have hobj := C01_write_keeps_object Cfg.fixed s ops
  have hrun : run Cfg.fixed s (ops ++ [.write ow]) = step Cfg.fixed (run Cfg.fixed s ops) (.write ow) := by
    simp [run, List.foldl_append]
  have hrt := C01_roundtrip _ hwf
  rw [← hobj] at hrt
  have hguard : (!ow && (run Cfg.fixed s ops).file.isSome) = false := by
    rcases hallowed with h | h
    · simp [h]
    · simp [h]
  rw [hrun]
  cases hw : writeMsh (run Cfg.fixed s ops).obj with
  | none => rw [hw] at hrt; simp at hrt
  | some t =>
    rw [hw] at hrt
    have hwr : written Cfg.fixed (run Cfg.fixed s ops) ow = some t := by
      unfold written
      rw [hguard, hw]
      rfl
    constructor
    · simp only [step, hwr]
      rw [← hobj]
      simpa using hrt
    · simp only [step, hwr]
      exact hobj

/-- an earlier export of another (two-node, one-line-element) mesh under the output name -/
def staleText : List Line :=
  [c!"!HEADER", c!"Data written by femio", c!"!NODE", c!"77,0.000000000000E+00,0.000000000000E+00,0.000000000000E+00",
   c!"78,1.000000000000E+00,0.000000000000E+00,0.000000000000E+00", c!"!ELEMENT,TYPE=301", c!"900,77,78", c!"!END"]

/-- non-vacuity of `C01_history_roundtrip`: object built as another mesh, written, modified to `exMesh`, a stale export
    placed under the name, written again with `overwrite=True` -/
example : (run Cfg.fixed ⟨{ exMesh with temp := none, sec := none }, none⟩
      [.write false, .modify exMesh, .place staleText, .write false, .write true]).file.bind readMsh = some (canon exMesh) :=
  (C01_history_roundtrip ⟨{ exMesh with temp := none, sec := none }, none⟩
    [.write false, .modify exMesh, .place staleText, .write false] true C01_exMesh_wf (Or.inl rfl)).1

/-- **C01_append_counterexample** (the seeded change C01-6, kernel-evaluated): a writer that opens the `.msh` without
    truncating it appends the new mesh behind the `!END` of the stale export; the reader does not stop at `!END`, so the
    file does not read back to the mesh that was written (the stale line element 900 and its nodes come back). -/
theorem C01_append_counterexample :
    (run ⟨false⟩ ⟨exMesh, none⟩ [.place staleText, .write true]).file.bind readMsh ≠ some (canon exMesh) ∧
    (run Cfg.fixed ⟨exMesh, none⟩ [.place staleText, .write true]).file.bind readMsh = some (canon exMesh) := by
  refine ⟨by decide +kernel, ?_⟩
  exact (C01_history_roundtrip ⟨exMesh, none⟩ [.place staleText] true C01_exMesh_wf (Or.inl rfl)).1

end Femio.C01

namespace Femio.C01
open Femio.Fistr

theorem mem_assignRows {β} (groups : List (Name × List Nat)) (mats : List (Name × β)) :
    ∀ (secs : List (Name × Name)) (out : List (Nat × β)), assignRows groups mats secs = some out →
    ∀ (e : Nat) (v : β), (e, v) ∈ out ↔ ∃ m g ids, (m, g) ∈ secs ∧ lookupS g groups = some ids ∧
      lookupS m mats = some v ∧ e ∈ ids := by
  intro secs
  induction secs with
  | nil =>
    intro out h e v
    cases h
    simp
  | cons s t ih =>
    intro out h e v
    unfold assignRows at h
    split at h
    · rename_i ids' v' r hg' hm' hr
      cases h
      rw [List.mem_append, ih r hr e v]
      constructor
      · rintro (hl | ⟨m, g, ids, hs, h'⟩)
        · obtain ⟨i, hi, hiv⟩ := List.mem_map.mp hl
          cases hiv
          exact ⟨s.1, s.2, ids', List.mem_cons_self, hg', hm', hi⟩
        · exact ⟨m, g, ids, List.mem_cons_of_mem _ hs, h'⟩
      · rintro ⟨m, g, ids, hs, hg, hm, he⟩
        rcases List.mem_cons.mp hs with rfl | hs
        · simp only at hg' hm'
          rw [hg] at hg'; rw [hm] at hm'
          cases hg'; cases hm'
          exact Or.inl (List.mem_map.mpr ⟨e, he, rfl⟩)
        · exact Or.inr ⟨m, g, ids, hs, hg, hm, he⟩
    · cases h
/-- **C01_assign_complete**: the reader's resolution of materials onto elements (`_resolve_assignments_materials`, model
    `assignRows`) gives EVERY member of the group of EVERY row `(material, group)` of the section table the value of that
    row's material — whatever the order of the two tables and however many rows name the same material. -/
theorem C01_assign_complete {β} (groups : List (Name × List Nat)) (mats : List (Name × β)) :
    ∀ (secs : List (Name × Name)) (out : List (Nat × β)), assignRows groups mats secs = some out →
    ∀ (m g : Name) (ids : List Nat) (v : β) (e : Nat), (m, g) ∈ secs → lookupS g groups = some ids →
      lookupS m mats = some v → e ∈ ids → (e, v) ∈ out :=
  fun secs out h m g ids v e hs hg hm he => (mem_assignRows groups mats secs out h e v).mpr ⟨m, g, ids, hs, hg, hm, he⟩

/-- **C01_assign_sound**: and nothing else — every `(element, value)` of the result comes from a row of the section
    table: the element is a member of the row's group, the value is the row's material. -/
theorem C01_assign_sound {β} (groups : List (Name × List Nat)) (mats : List (Name × β)) :
    ∀ (secs : List (Name × Name)) (out : List (Nat × β)), assignRows groups mats secs = some out →
    ∀ (e : Nat) (v : β), (e, v) ∈ out → ∃ m g ids, (m, g) ∈ secs ∧ lookupS g groups = some ids ∧
      lookupS m mats = some v ∧ e ∈ ids :=
  fun secs out h e v => (mem_assignRows groups mats secs out h e v).mp

/-- two parts made of the same material: `GA → STEEL, GB → ALUMINIUM, GC → STEEL` -/
def sharedSecs : List (Name × Name) := [(c!"STEEL", c!"GA"), (c!"ALUMINIUM", c!"GB"), (c!"STEEL", c!"GC")]
def sharedGroups : List (Name × List Nat) := [(c!"GA", [12, 7]), (c!"GB", [3]), (c!"GC", [5, 100])]
def sharedMats : List (Name × Nat) := [(c!"ALUMINIUM", 70), (c!"STEEL", 205)]

/-- **C01_assign_dict_counterexample**: walking the sections through a dictionary keyed by the material name (instead of
    the list of rows) silently drops the elements of the earlier section that shares a material: elements 12 and 7 of
    `GA` get no material at all, although nothing raises and both walks agree with each other. -/
theorem C01_assign_dict_counterexample :
    assignRows sharedGroups sharedMats sharedSecs = some [(12, 205), (7, 205), (3, 70), (5, 205), (100, 205)] ∧
    assignRowsDict sharedGroups sharedMats sharedSecs = some [(5, 205), (100, 205), (3, 70)] := by decide +kernel

def g7Text (split : Bool) : List Line :=
  [c!"!NODE", c!"5,0,0,0", c!"2,1,0,0", c!"9,0,1,0", c!"!ELEMENT,TYPE=731", c!"1,5,2,9",
   c!"!INITIAL CONDITION, TYPE=TEMPERATURE", c!"5,10", c!"2,20"]
  ++ (if split then [c!"!INITIAL CONDITION, TYPE=TEMPERATURE"] else []) ++ [c!"9,30", c!"!END"]

/-- **G7, upstream counterexample**: the `!INITIAL CONDITION, TYPE=TEMPERATURE` block given in two blocks —
    the reader keeps the LAST block only (`nodal_data.update` overwrites), pads it with zeros to the number of nodes and
    binds the rows to the nodes by position: node 5 reads 30 (the value of node 9), nodes 2 and 9 read 0. -/
theorem C01_split_initial_counterexample :
    (readMsh (g7Text false)).map (fun r => r.nodal.map fun p => p.2.map fun row => (row.1, row.2.map (·.m)))
      = some [[(5, [10]), (2, [20]), (9, [30])]] ∧
    (readMsh (g7Text true)).map (fun r => r.nodal.map fun p => p.2.map fun row => (row.1, row.2.map (·.m)))
      = some [[(5, [30]), (2, [0]), (9, [0])]] := by
  decide +kernel

end Femio.C01
