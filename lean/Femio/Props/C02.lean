import Femio.Lemmas.ResFileProps
import Femio.Lemmas.ResTextProps
import Femio.Gen.Tables
import Femio.Model.ResDir
import Femio.Lemmas.ResDirProps

/-! C02 — FrontISTR result files: every value lands on its id, variable, component and step.

Model: `Model/Res.lean` (one section: `renderSec` = hand specification of the solver's layout, `parseSec` = `_parse_res`,
`splitSeries` = `_split_series`), `Model/ResFile.lean` (whole file, both header layouts, re-binding, step selection).
Lines are lists of typed tokens; `V` is the abstract value numeral, `eNot` says whether a value numeral matches
the reader's E-notation pattern. -/
namespace Femio.C02
open Res

variable {V : Type} {α : Type}

/-- tie T: the header constants of `_split_series` in the working tree (regenerated into `Gen/Tables.lean` on
    every run) are the model's -/
theorem C02_header_constants :
    Femio.Gen.resSkipOld = skipOld ∧ Femio.Gen.resSkipV2 = skipV2 ∧ Femio.Gen.resMarker = marker := by decide


/-- result data the solver can write: ≥ 1 nodal variable, ≥ 1 entity per section, every row as wide as the
    component counts say and not empty, wrap widths ≥ 1, nodal values in E-notation; for the old layout no
    variable name contains `TOTALTIME` (such a name would switch the reader to the 2.0 layout) -/
structure WFFile (wcN wvN wcE wvE : Nat) (eNot : V → Bool) (L : Layout) (f : ResFile V) : Prop where
  nodal : WFSec' wcN wvN f.nodal
  enot : ∀ r ∈ f.nodal.rows, ∀ x ∈ r.2, eNot x = true
  elemental : ∀ e, f.elemental = some e → WFSec' wcE wvE e
  names : L = .old → (∀ x ∈ f.nodal.vars, hasInfix marker x.name = false) ∧
    ∀ e, f.elemental = some e → ∀ x ∈ e.vars, hasInfix marker x.name = false

/-- **C02_parse_render** — for every result data `f` (any number of entities with arbitrary ids in any order,
    any non-empty nodal variable list, an elemental section or none, any component counts), both header
    layouts and all wrap widths ≥ 1 of the count and value lines: reading the rendered file gives back exactly
    `f` — every id, every variable with its component count, every value at its position in its entity's row. -/
theorem C02_parse_render (L : Layout) (comment : List Char) (time : Line V) (nEhdr : Nat)
    (wcN wvN wcE wvE : Nat) (eNot : V → Bool) (f : ResFile V) (hf : WFFile wcN wvN wcE wvE eNot L f)
    (nElems : Nat) (hnE : ∀ e, f.elemental = some e → nElems = e.rows.length) :
    readRes eNot (renderFile L comment time nEhdr wcN wvN wcE wvE f) f.nodal.rows.length nElems = some f := by
  unfold renderFile
  cases L with
  | old => exact parse_render_file .old _ (headerOld_ok _ _ _ _) eNot _ _ _ _ f hf.nodal hf.enot hf.elemental hf.names _ hnE
  | v2 => exact parse_render_file .v2 _ (headerV2_ok _ _ _ _ _ _) eNot _ _ _ _ f hf.nodal hf.enot hf.elemental hf.names _ hnE

/-- a small result file: 2 nodes (ids 10, 4), variables of 3 + 1 components wrapped at 2 values per line,
    one element with a 2-component variable -/
def exFile : ResFile Nat :=
  ⟨⟨[⟨['U'], 3⟩, ⟨['T'], 1⟩], [(10, [1, 2, 3, 4]), (4, [5, 6, 7, 8])]⟩, some ⟨[⟨['S'], 2⟩], [(7, [9, 10])]⟩⟩

example : WFFile 1 2 3 5 (fun _ => true) .old exFile :=
  ⟨⟨⟨by decide, by decide, by decide, by decide, by decide⟩, by decide⟩, by decide,
   fun e he => by cases he; exact ⟨⟨by decide, by decide, by decide, by decide, by decide⟩, by decide⟩,
   fun _ => ⟨by decide, fun e he => by cases he; decide⟩⟩

example : readRes (fun _ => true) (renderFile .v2 ['c'] [.v 0] 1 1 2 3 5 exFile) 2 1 = some exFile := by decide +kernel
example : (renderFile .old ['c'] [.v 0] 1 1 2 3 5 exFile).length = 3 + (2 + 2 + 2 * 3) + (1 + 1 + 2) := by decide +kernel

open Femio.Text in
/-- **C02_lex_print_line** — for every token line whose tokens are counts / ids, names (non-empty, no whitespace,
    first character a letter or `*`) and value numerals (non-empty, no whitespace, not a decimal integer, first
    character not a letter or `*` — e.g. `-1.2500000000000000E+03`): splitting the printed line
    (`' '.join(tokens)`, with or without the trailing blank the solver puts after numeric lines) at Python whitespace
    and classifying the pieces as the reader does (`\d+` → integer, `^[\*a-zA-Z]` → name, else value) gives the token
    line back. -/
theorem C02_lex_print_line (trail : Bool) (l : Line Str) (h : l.all resTokOKB = true) :
    lexLine (printLine trail l) = l :=
  lexLine_printLine trail l h

example : lexLine (printLine true [.n 12, .v "-1.2500000000000000E+03".toList, .v "0.0000000000000000E+00".toList])
    = [.n 12, .v "-1.2500000000000000E+03".toList, .v "0.0000000000000000E+00".toList] := by
  -- a literal is `String.ofList` of its characters by definition; the kernel would decode it in quadratic time
  repeat rw [String.toList_ofList (l := _)]
  decide +kernel
example : printLine true [.n 12, .v "-1.25E+03".toList] = "12 -1.25E+03 ".toList ∧ printLine true [.w "NodalSTRESS".toList] = "NodalSTRESS".toList := by
  repeat rw [String.toList_ofList (l := _)]
  decide +kernel
example : lexLine " 3\t 1  6 \r".toList = [.n 3, .n 1, .n 6] := by
  repeat rw [String.toList_ofList (l := _)]
  decide +kernel

open Femio.Text in
theorem WFFile.body_ok {wcN wvN wcE wvE : Nat} {L : Layout} {f : ResFile Str} (hf : WFFile wcN wvN wcE wvE eNotStr L f)
    (hok : fileOKB f = true) : ∀ l ∈ renderBody wcN wvN wcE wvE f, l.all resTokOKB = true ∧ l ≠ [] :=
  renderBody_ok wcN wvN wcE wvE f ⟨hf.nodal.wc, hf.nodal.wv⟩
    (fun e he => ⟨(hf.elemental e he).wc, (hf.elemental e he).wv⟩) hok

open Femio.Text in
/-- **C02_parse_render_lines** — `C02_parse_render` on lines of characters: every token line of the rendered file
    printed as text (trailing blank after numeric lines or not) and lexed again at whitespace, then read by
    `_read_res`, gives back exactly `f` — for both layouts, any header comment / time line, all wraps ≥ 1, with the
    E-notation test being the reader's regular expression on the numerals' text. -/
theorem C02_parse_render_lines (L : Layout) (comment : List Char) (time : Line Str) (nEhdr : Nat)
    (wcN wvN wcE wvE : Nat) (f : ResFile Str) (hf : WFFile wcN wvN wcE wvE eNotStr L f) (hok : fileOKB f = true)
    (trail : Bool) (nElems : Nat) (hnE : ∀ e, f.elemental = some e → nElems = e.rows.length) :
    readRes eNotStr (((renderFile L comment time nEhdr wcN wvN wcE wvE f).map (printLine trail)).map lexLine)
      f.nodal.rows.length nElems = some f := by
  have hbody := map_lex_print_id trail (renderBody wcN wvN wcE wvE f) fun l hl => (hf.body_ok hok l hl).1
  unfold renderFile
  rw [List.map_append, List.map_append, hbody]
  exact parse_render_file L _ (header_lexed_ok L comment time _ _ _ _ trail) eNotStr _ _ _ _ f hf.nodal hf.enot
    hf.elemental hf.names _ hnE

open Femio.Text in
/-- **C02_parse_render_chars** — the whole result file as one string of characters (every line terminated by
    `'\n'`): `_read_res` run on the lines between the newlines (`StringSeries.read_file`), each lexed at whitespace,
    recovers exactly `f` from the text `fileText trail (renderFile …)`. `hdrOKB`: in the 2.0 layout the comment is
    one whitespace-free word and the time line is not empty. -/
theorem C02_parse_render_chars (L : Layout) (comment : List Char) (time : Line Str) (nEhdr : Nat)
    (wcN wvN wcE wvE : Nat) (f : ResFile Str) (hf : WFFile wcN wvN wcE wvE eNotStr L f) (hok : fileOKB f = true)
    (hhdr : hdrOKB L comment time = true)
    (trail : Bool) (nElems : Nat) (hnE : ∀ e, f.elemental = some e → nElems = e.rows.length) :
    readResText (fileText trail (renderFile L comment time nEhdr wcN wvN wcE wvE f)) f.nodal.rows.length nElems
      = some f := by
  have hall : ∀ l ∈ renderFile L comment time nEhdr wcN wvN wcE wvE f, printableB l = true := by
    intro l hl
    rcases List.mem_append.mp hl with hl | hl
    · exact header_printable L comment time _ _ _ _ hhdr l hl
    · exact printable_of_ok l (hf.body_ok hok l hl).1 (hf.body_ok hok l hl).2
  unfold readResText lexFile fileText
  rw [fileLines_unlines_nonempty]
  · exact C02_parse_render_lines L comment time nEhdr wcN wvN wcE wvE f hf hok trail nElems hnE
  · intro s hs
    obtain ⟨l, hl, rfl⟩ := List.mem_map.mp hs
    exact (printLine_props trail l (hall l hl)).1
  · intro s hs
    obtain ⟨l, hl, rfl⟩ := List.mem_map.mp hs
    exact (printLine_props trail l (hall l hl)).2

open Femio.Text in
/-- a small printed result file (old layout): 2 nodes, `U` (3) + `T` (1) wrapped at 2 values per line, one element -/
def exFileText : ResFile Str :=
  ⟨⟨[⟨['U'], 3⟩, ⟨['T'], 1⟩], [(10, ["1.5E+00".toList, "-2.0E-03".toList, "0.0E+00".toList, "4.0E+00".toList]),
      (4, ["5.0E+00".toList, "6.0E+00".toList, "7.0E+00".toList, "8.0E+300".toList])]⟩,
   some ⟨[⟨['S'], 2⟩], [(7, ["9.0E+00".toList, "1.0E+01".toList])]⟩⟩

theorem exFileText_ok : fileOKB exFileText = true := by
  rw [exFileText]
  repeat rw [String.toList_ofList (l := _)]
  decide +kernel
theorem exFileText_wf : WFFile 1 2 3 5 eNotStr .old exFileText :=
  ⟨⟨⟨by decide, by decide, by decide, by decide, by decide⟩, by decide⟩,
   by rw [exFileText]; repeat rw [String.toList_ofList (l := _)]
      decide +kernel,
   fun e he => by cases he; exact ⟨⟨by decide, by decide, by decide, by decide, by decide⟩, by decide⟩,
   fun _ => ⟨by decide, fun e he => by cases he; decide⟩⟩

example : fileOKB exFileText = true := exFileText_ok
example : WFFile 1 2 3 5 eNotStr .old exFileText := exFileText_wf
example : fileText true (renderFile .old [] [] 1 1 2 3 5 exFileText) =
    ("*fstrresult\n2 1 \n2 1 \n3 \n1 \nU\nT\n10 \n1.5E+00 -2.0E-03 \n0.0E+00 4.0E+00 \n4 \n5.0E+00 6.0E+00 \n7.0E+00 8.0E+300 \n"
      ++ "2 \nS\n7 \n9.0E+00 1.0E+01 \n").toList := by
  rw [String.toList_append]
  repeat rw [String.toList_ofList (l := _)]
  decide +kernel
example : readResText (fileText true (renderFile .old [] [] 1 1 2 3 5 exFileText)) 2 1 = some exFileText :=
  C02_parse_render_chars .old [] [] 1 1 2 3 5 exFileText exFileText_wf exFileText_ok rfl true 1
    (fun e he => by cases he; rfl)

/-- **C02_split_point** — the nodal / elemental boundary found by walking back from the second cluster of name
    lines is exactly the end of the nodal section, whenever the nodal values are in E-notation (`he`: an
    explicit predicate on the text, which `renderSec` of solver data satisfies). -/
theorem C02_split_point (eNot : V → Bool) (wc wv wc' wv' : Nat) (sN sE : Sec V)
    (hN : WFSec' wc wv sN) (hE : WFSec' wc' wv' sE) (he : ∀ r ∈ sN.rows, ∀ x ∈ r.2, eNot x = true) :
    splitSeries eNot (renderSec wc wv sN ++ renderSec wc' wv' sE)
      = some (renderSec wc wv sN, some (renderSec wc' wv' sE)) :=
  split_two eNot wc wv wc' wv' sN sE hN hE he

/-- with no elemental variables (a single cluster of name lines) everything is nodal -/
theorem C02_split_point_nodal_only (eNot : V → Bool) (wc wv : Nat) (sN : Sec V) (hN : WFSec wc wv sN) :
    splitSeries eNot (renderSec wc wv sN) = some (renderSec wc wv sN, none) :=
  split_one eNot wc wv sN hN

example : splitSeries (fun _ => true) (renderSec 1 2 exFile.nodal) = some (renderSec 1 2 exFile.nodal, none) := by decide +kernel

/-- the generating data of one section: per entity its id and, per variable, that variable's components -/
def mkSec (vars : List Var) (rows : List (Nat × List (List V))) : Sec V :=
  ⟨vars, rows.map fun r => (r.1, r.2.flatten)⟩

/-- **C02_columns** — `to_dict_fem_attributes`: the table of the `j`-th variable consists, for every entity, of
    exactly the components written for that variable (column ranges from the cumulative component counts),
    under the entity's id — for any number of variables and any component counts. -/
theorem C02_columns (vars : List Var) (rows : List (Nat × List (List V)))
    (hw : ∀ r ∈ rows, r.2.map List.length = vars.map Var.width) (j : Nat) (x : Var) (hx : vars[j]? = some x) :
    (secAttrs (mkSec vars rows))[j]? = some ⟨x.name, rows.map (·.1), rows.map fun r => (r.2[j]?).getD []⟩ := by
  rw [secAttrs, mkSec, attrsFrom_getElem? _ hx 0, List.map_map, List.map_map]
  refine congrArg some (congrArg (Attr.mk x.name _) (List.map_congr_left fun r hr => ?_))
  have hj : (r.2[j]?.getD []).length = x.width := by
    have := congrArg (·[j]?) (hw r hr)
    simp only [List.getElem?_map, hx, Option.map_some] at this
    obtain ⟨p, hp, hpx⟩ := Option.map_eq_some_iff.mp this
    rw [hp]; exact hpx
  have hoff : sumW (vars.take j) = ((r.2.take j).map List.length).sum := by
    rw [sumW, List.map_take, ← hw r hr, ← List.map_take]
  simp only [Function.comp_apply, Nat.zero_add, hoff, ← hj]
  exact flatten_slice r.2 j

example : (secAttrs (mkSec [⟨['U'], 3⟩, ⟨['T'], 1⟩] [(10, [[1, 2, 3], [4]]), (4, [[5, 6, 7], [8]])]))[1]?
    = some (⟨['T'], [10, 4], [[4], [8]]⟩ : Attr Nat) := by decide +kernel


/-- **C02_rebinding** — `generate_elemental_attribute` followed by `_update_self`: for every element id of the
    result file that belongs to some type block of the mesh, the row found under that id afterwards is the row
    the file gave for it — whatever the order of the ids in the file, for one type block or several. -/
theorem C02_rebinding (typeIds : List (Nat × List Nat)) (ids : List Nat) (data : List α)
    (hlen : ids.length ≤ data.length) (i : Nat) (hi : i ∈ ids) (hty : ∃ b ∈ typeIds, i ∈ b.2) :
    (rebindRows typeIds ids data).lookup i = lookupRow ids data i := by
  obtain ⟨d, hd⟩ := lookupRow_isSome hi hlen
  have hmem : (i, d) ∈ rebindRows typeIds ids data := mem_rebindRows.mpr ⟨hty, hi, hd⟩
  obtain ⟨d', hd'⟩ := lookup_isSome_of_mem hmem
  have := (mem_rebindRows.mp (mem_of_lookup_eq_some hd')).2.2
  rw [hd', ← this]

/-- **C02_rebinding_ids** — the ids of the re-bound attribute are ascending and are exactly the file's ids
    that belong to the mesh: nothing is invented, nothing of the mesh is dropped. -/
theorem C02_rebinding_ids (typeIds : List (Nat × List Nat)) (ids : List Nat) (data : List α)
    (hlen : ids.length ≤ data.length) :
    ((rebindRows typeIds ids data).map Prod.fst).Pairwise (· ≤ ·) ∧
    ∀ j, j ∈ (rebindRows typeIds ids data).map Prod.fst ↔ (j ∈ ids ∧ ∃ b ∈ typeIds, j ∈ b.2) := by
  refine ⟨rebindRows_sorted typeIds ids data, fun j => ?_⟩
  constructor
  · intro hj
    obtain ⟨p, hp, rfl⟩ := List.mem_map.mp hj
    have := mem_rebindRows.mp (show (p.1, p.2) ∈ _ from hp)
    exact ⟨this.2.1, this.1⟩
  · rintro ⟨hj, hty⟩
    obtain ⟨d, hd⟩ := lookupRow_isSome hj hlen
    exact List.mem_map.mpr ⟨(j, d), mem_rebindRows.mpr ⟨hty, hj, hd⟩, rfl⟩

-- mixed mesh (tet block stored as [70, 118], prism block [35]), file order 118, 35, 70
example : rebindRows [(8, [70, 118]), (12, [35])] [118, 35, 70] ['a', 'b', 'c'] = [(35, 'b'), (70, 'c'), (118, 'a')] := by decide +kernel
-- uniform mesh stored in descending order
example : rebindRows [(8, [7, 3])] [7, 3] ['a', 'b'] = [(3, 'b'), (7, 'a')] := by decide +kernel


/-- **C02_steps** — the files read as a time series are all the files found, in ascending step order
    (numeric, not lexicographic). -/
theorem C02_steps (files : List (Nat × α)) :
    (selectSteps true files).Perm files ∧ (selectSteps true files).Pairwise (fun a b => a.1 ≤ b.1) := by
  unfold selectSteps
  split
  · exact ⟨List.Perm.refl _, List.Pairwise.nil⟩
  · exact ⟨List.Perm.refl _, List.pairwise_singleton _ _⟩
  · exact ⟨sortByKey_perm _, sortByKey_sorted _⟩

/-- **C02_steps_latest** — without time series exactly one file is read and its step number is the largest
    (for distinct step numbers: *the* file with the largest step). -/
theorem C02_steps_latest (files : List (Nat × α)) (hne : files ≠ []) :
    ∃ l, selectSteps false files = [l] ∧ l ∈ files ∧ ∀ f ∈ files, f.1 ≤ l.1 := by
  cases files with
  | nil => exact absurd rfl hne
  | cons f t =>
    cases t with
    | nil => exact ⟨f, rfl, by simp, by simp⟩
    | cons g t =>
      have hperm := sortByKey_perm (f :: g :: t)
      cases hl : (sortByKey (f :: g :: t)).getLast? with
      | none =>
        have h0 := List.getLast?_eq_none_iff.mp hl
        have := hperm.length_eq
        rw [h0] at this
        simp at this
      | some l =>
        refine ⟨l, ?_, hperm.mem_iff.mp (List.mem_of_getLast? hl),
          fun x hx => le_getLast_of_sorted (sortByKey_sorted _) hl x (hperm.mem_iff.mpr hx)⟩
        simp [selectSteps, sortSteps, hl]

example : (selectSteps true [(10, 'a'), (2, 'b'), (9, 'c')]).map (·.1) = [2, 9, 10] := by decide +kernel
example : selectSteps false [(10, 'a'), (2, 'b'), (9, 'c')] = [(10, 'a')] := by decide +kernel

theorem stepOf_append_showNat (pre : List Char) (c : Char) (hc : Numeral.charDigit c = none) (k : Nat) :
    stepOf (pre ++ c :: Numeral.showNat k) = some k := by
  rw [stepOf, List.reverse_append, List.reverse_cons, List.append_assoc,
    takeWhile_append_stop _ _ _
      (fun d hd => Option.isSome_iff_ne_none.mpr fun h => Femio.Text.not_mem_showNat d h k (List.mem_reverse.mp hd))
      (fun b hb => by cases hb; rw [hc]; rfl),
    List.reverse_reverse]
  exact parseNat_showNat k

/-- **C02_step_of_name** — the step number taken from a file name `<stem>.<k>` is `k` -/
theorem C02_step_of_name (stem : List Char) (k : Nat) : stepOf (stem ++ '.' :: Numeral.showNat k) = some k :=
  stepOf_append_showNat stem '.' (by decide) k

example : stepOf ['m', '.', 'r', 'e', 's', '.', '0', '.', '1', '2'] = some 12 := by decide +kernel


/-- the single-step reading of one result file (`read_files('fistr', [msh, res])`) -/
def readSingle (eNot : V → Bool) (typeIds : List (Nat × List Nat)) (nNodes nElems : Nat) (ls : List (Line V)) :
    Option (Reading V) :=
  (readRes eNot ls nNodes nElems).map (reading typeIds)

/-- **C02_timeseries_is_stack** — with the repair of F7 (`Cfg.fixed`), reading `k ≥ 1` result files as a time
    series is: read every file on its own, in ascending step order (`C02_steps`), and stack (`stackAttrs`) —
    `time_steps` are the ascending step numbers; for `k = 1` this is a one-step stack. -/
theorem C02_timeseries_is_stack (eNot : V → Bool) (typeIds : List (Nat × List Nat)) (nNodes nElems : Nat)
    (files : List (Nat × List (Line V))) (hne : files ≠ []) :
    readDirSeries Cfg.fixed eNot typeIds nNodes nElems files =
      (do let rs ← (selectSteps true files).mapM fun f => readSingle eNot typeIds nNodes nElems f.2
          let n ← stackAttrs (rs.map (·.nodal))
          let e ← stackAttrs (rs.map (·.elemental))
          pure ⟨(selectSteps true files).map (·.1), n, e⟩) := by
  have hsel : selectSteps true files ≠ [] := by
    intro h
    have := (C02_steps files).1.length_eq
    rw [h] at this
    exact hne (List.length_eq_zero_iff.mp this.symm)
  unfold readDirSeries
  cases hs : selectSteps true files with
  | nil => exact absurd hs hsel
  | cons a t => simp [Cfg.fixed, readSingle]

open Femio.Text in
/-- **C02_single_chars** — the single-step reading (`readSingle`, the unit of `C02_timeseries_is_stack` and
    `C02_latest_is_single`, which hold for arbitrary lexed files) of the characters of a rendered result file is the
    reading of its data: every step of a directory of text files contributes exactly `reading typeIds f`. -/
theorem C02_single_chars (L : Layout) (comment : List Char) (time : Line Str) (nEhdr : Nat)
    (wcN wvN wcE wvE : Nat) (f : ResFile Str) (hf : WFFile wcN wvN wcE wvE eNotStr L f) (hok : fileOKB f = true)
    (hhdr : hdrOKB L comment time = true) (trail : Bool) (nElems : Nat)
    (hnE : ∀ e, f.elemental = some e → nElems = e.rows.length) (typeIds : List (Nat × List Nat)) :
    readSingle eNotStr typeIds f.nodal.rows.length nElems
        (lexFile (fileText trail (renderFile L comment time nEhdr wcN wvN wcE wvE f)))
      = some (reading typeIds f) := by
  have := C02_parse_render_chars L comment time nEhdr wcN wvN wcE wvE f hf hok hhdr trail nElems hnE
  unfold readResText at this
  simp [readSingle, this]

/-- what `stackAttrs` (= `update_time_series`) returns: the variables and ids of the first step, and for every
    variable one slice per step, slice `k` being that variable's table in the `k`-th reading — positionally. -/
theorem C02_stack_spec (l : List (List (Attr V))) (out : List (SeriesAttr V)) (h : stackAttrs l = some out) :
    ∃ first rest, l = first :: rest ∧
      List.Forall₂ (fun (a0 : Attr V) (a : SeriesAttr V) => a.name = a0.name ∧ a.ids = a0.ids ∧
        List.Forall₂ (fun as step => ∃ b, findAttr as a0.name = some b ∧ step = b.data) l a.steps) first out := by
  cases l with
  | nil => cases h
  | cons first rest =>
    refine ⟨first, rest, rfl, (mapM_eq_some_iff.mp h).imp fun a0 a ha => ?_⟩
    obtain ⟨per, hper, ha⟩ := Option.bind_eq_some_iff.mp ha
    cases ha
    refine ⟨rfl, rfl, (mapM_eq_some_iff.mp hper).imp fun as step hstep => ?_⟩
    obtain ⟨b, hb, rfl⟩ := Option.map_eq_some_iff.mp hstep
    exact ⟨b, hb, rfl⟩

/-- **C02_timeseries_by_id** — id-keyed form: if a step lists the entities of a variable in the same order as
    the first step (as a solver does; elemental variables always do after re-binding), the value found under
    an id in that slice of the stack is the value of the single-step reading. -/
theorem C02_timeseries_by_id (a : SeriesAttr V) (b : Attr V) (step : List (List V)) (hstep : step = b.data)
    (hids : b.ids = a.ids) (i : Nat) : (a.ids.zip step).lookup i = (b.ids.zip b.data).lookup i := by
  rw [hstep, hids]

/-- **C02_latest_is_single** — reading a directory without time series is the single-step reading of one
    file, and that file has the largest step number. -/
theorem C02_latest_is_single (eNot : V → Bool) (typeIds : List (Nat × List Nat)) (nNodes nElems : Nat)
    (files : List (Nat × List (Line V))) (hne : files ≠ []) :
    ∃ l ∈ files, (∀ f ∈ files, f.1 ≤ l.1) ∧
      readDirLatest eNot typeIds nNodes nElems files =
        (readSingle eNot typeIds nNodes nElems l.2).map fun r => some (l.1, r) := by
  obtain ⟨l, hsel, hl, hmax⟩ := C02_steps_latest files hne
  refine ⟨l, hl, hmax, ?_⟩
  unfold readDirLatest
  rw [hsel]
  simp [readSingle, Option.map_map, Function.comp_def]

/-- two steps of a one-node, one-variable result, found in the order 10, 2 -/
def exStep (x : Nat) : List (Line Nat) := renderFile .old [] [] 1 1 1 1 1 ⟨⟨[⟨['T'], 1⟩], [(5, [x])]⟩, none⟩

example : readDirSeries Cfg.fixed (fun _ => true) [] 1 1 [(10, exStep 100), (2, exStep 20)]
    = some ⟨[2, 10], [⟨['T'], [5], [[[20]], [[100]]]⟩], []⟩ := by decide +kernel
example : readDirLatest (fun _ => true) [] 1 1 [(10, exStep 100), (2, exStep 20)]
    = some (some (10, ⟨[⟨['T'], [5], [[100]]⟩], []⟩)) := by decide +kernel

/-- **C02_res_glob_any_stem** — a file named `<stem>.res.<anything>` is taken for a result file by
    `read_directory('fistr', dir)` whatever its stem is (non-empty and not starting with a dot, as `glob` demands): in particular
    whatever the mesh file of the directory is called.  With `C02_res_glob_listing` (the selection is a filter of the
    listing by a predicate on the single name) the result files found do not depend on the other files of the
    directory, and with `C02_step_of_name` the step number of `<stem>.res.<rank>.<step>` is `step`. -/
theorem C02_res_glob_any_stem (stem tail : List Char) (hne : stem ≠ []) (h : stem.head? ≠ some '.') :
    resGlob (stem ++ resInfix ++ tail) = true := by
  unfold resGlob
  rw [hasInfix_append]
  cases stem with
  | nil => exact absurd rfl hne
  | cons c s =>
    have hc : c ≠ '.' := by simpa using h
    simp only [List.cons_append, Bool.and_true]
    split
    · rename_i heq; simp at heq; exact absurd heq.1 hc
    · rfl

/-- **C02_res_glob_listing** — the result files of a directory are exactly the names of the listing that match,
    in listing order; adding or renaming other files (mesh, control file, logs) does not change them. -/
theorem C02_res_glob_listing (l₁ l₂ : List (List Char)) (name : List Char) :
    findRes (l₁ ++ l₂) = findRes l₁ ++ findRes l₂ ∧
    (name ∈ findRes l₁ ↔ name ∈ l₁ ∧ resGlob name = true) ∧
    (resGlob name = false → findRes (l₁ ++ name :: l₂) = findRes (l₁ ++ l₂)) := by
  refine ⟨by simp [findRes], by simp [findRes], fun h => ?_⟩
  simp [findRes, h]

/-- **C02_res_file_name** — the solver's name `<stem>.res.<rank>.<step>` is found and carries step `step`. -/
theorem C02_res_file_name (stem : List Char) (rank step : Nat) (hne : stem ≠ []) (h : stem.head? ≠ some '.') :
    resGlob (resFileName stem rank step) = true ∧ stepOf (resFileName stem rank step) = some step := by
  constructor
  · unfold resFileName
    rw [List.append_assoc (stem ++ resInfix)]
    exact C02_res_glob_any_stem stem _ hne h
  · unfold resFileName
    exact C02_step_of_name _ step

/-- a directory as a solver run leaves it: mesh `model.msh`, control file `model.cnt`, results `job.res.0.<step>`, logs -/
example : findRes ["model.msh".toList, "job.res.0.12".toList, "hecmw_ctrl.dat".toList, "job.res.0.4".toList,
    "model.cnt".toList, "FSTR.restart_0.res".toList, ".job.res.0.1".toList, "res.0.1".toList, "0.log".toList]
    = ["job.res.0.12".toList, "job.res.0.4".toList] := by
  repeat rw [String.toList_ofList (l := _)]
  decide +kernel
example : resFileName "job".toList 0 12 = "job.res.0.12".toList := by
  repeat rw [String.toList_ofList (l := _)]
  decide +kernel
/-- variable names are data: a blank-free token that starts with a letter is a name whatever else it contains
    (FrontISTR's shell results `NodalSTRESS+`, `ElementalSTRAIN-`) -/
example : lexLine "NodalSTRESS+".toList = [.w "NodalSTRESS+".toList] ∧ wordOKB "ElementalSTRAIN-".toList = true ∧
    wordOKB "E+01".toList = true ∧ lexLine "1.5E+01 ".toList = [.v "1.5E+01".toList] := by
  repeat rw [String.toList_ofList (l := _)]
  decide +kernel

/-- **F7** — the unrepaired code (`Cfg.upstream`) raises on a singleton step set read as a time series, the
    repaired one returns the one-step stack. -/
theorem C02_singleton_series_counterexample_upstream :
    readDirSeries Cfg.upstream (fun _ => true) [] 1 1 [(3, exStep 30)] = none ∧
    readDirSeries Cfg.fixed (fun _ => true) [] 1 1 [(3, exStep 30)] = some ⟨[3], [⟨['T'], [5], [[[30]]]⟩], []⟩ := by
  decide +kernel

end Femio.C02
