import Femio.Lemmas.CntProps
import Femio.Lemmas.CntFile
import Femio.Lemmas.CntGroups

/-! # C03 — FrontISTR `.cnt` write → read keeps the analysis conditions

Model: `Femio/Model/FistrCnt.lean` (text level) over `Femio/Model/Cnt.lean` (tables, `Presc`).
A table row is `(node id, cells)`, `none` = NaN = free; `Cnt.Presc t (i, d, x)` says that table `t`
prescribes value `x` on dof `d` of node `i` — the property's "(node id, degree of freedom, value)" set. -/
namespace Femio.C03
open Femio.Fistr Cnt Numeral

variable {V : Type}

/-- **C03 (boundary)**: the table read from the `!BOUNDARY` rows the writer emits for `t` denotes exactly
    the prescriptions of `t` — every NaN pattern, node subset, row order; 3 translational dofs. -/
theorem C03_boundary_roundtrip (t : List (Row V)) (hw : ∀ r ∈ t, r.2.length = 3) (p : Nat × Nat × V) :
    Presc ((boundaryRows t).map readBLine) p ↔ Presc t p :=
  (presc_boundaryRows t 3 hw p).trans (and_iff_left_of_imp fun h => h.dof_le hw)

example : Presc ((boundaryRows [(7, [none, some (5 : Nat), none]), (3, [some 1, none, some 2])]).map readBLine) (3, 3, 2) :=
  (C03_boundary_roundtrip _ (by decide) _).mpr ⟨(3, [some 1, none, some 2]), by decide, rfl, by decide, rfl⟩

/-- the hypothesis "3 dofs" is necessary: a prescription on dof 4 of a 6-wide table is written but not read
    back (`d[start-1:end] = value` on a 3-wide row) — F14, outside the property's tables -/
theorem C03_boundary_dof_gt3_lost :
    Presc [(1, [none, none, none, some (9 : Nat), none, none])] (1, 4, 9) ∧
    ¬ Presc ((boundaryRows [(1, [none, none, none, some (9 : Nat), none, none])]).map readBLine) (1, 4, 9) :=
  ⟨⟨_, List.mem_singleton_self _, rfl, by decide, rfl⟩,
    fun h => absurd ((presc_boundaryRows _ 6 (by decide) _).mp h).2 (by decide)⟩

/-- **C03 (cload)**: same statement for `!CLOAD` rows (`id, dof, value`; `d[dof-1] = value`). -/
theorem C03_cload_roundtrip (t : List (Row V)) (hw : ∀ r ∈ t, r.2.length = 3) (p : Nat × Nat × V) :
    Presc ((cloadRows t).map readDLine) p ↔ Presc t p := by
  rw [cloadRows_read]
  exact C03_boundary_roundtrip t hw p

example : Presc ((cloadRows [(4, [none, some (2 : Nat), none])]).map readDLine) (4, 2, 2) :=
  (C03_cload_roundtrip _ (by decide) _).mpr ⟨(4, [none, some 2, none]), by decide, rfl, by decide, rfl⟩

/-- **C03 (spring)**: same statement for `!SPRING` rows, which the writer emits row-major (`np.where`). -/
theorem C03_spring_roundtrip (t : List (Row V)) (hw : ∀ r ∈ t, r.2.length = 3) (p : Nat × Nat × V) :
    Presc ((springRows t).map readDLine) p ↔ Presc t p := by
  have hmem : p ∈ (springRows t).map (fun l => (l.id, l.dof, l.val)) ↔ Presc t p := by
    simp only [List.mem_map, mem_springRows]
    exact ⟨fun ⟨l, h, e⟩ => e ▸ h, fun h => ⟨⟨p.1, p.2.1, p.2.2⟩, h, rfl⟩⟩
  have e : (springRows t).map readDLine =
      ((springRows t).map fun l => (l.id, l.dof, l.val)).map fun c => readBLine ⟨c.1, c.2.1, c.2.1, c.2.2⟩ := by
    rw [List.map_map]
    exact List.map_congr_left fun l hl => readDLine_eq l ((mem_springRows t l).mp hl).one_le
  rw [e, presc_read_triples, hmem]
  exact and_iff_left_of_imp fun h => ⟨h.one_le, h.dof_le hw⟩

example : Presc ((springRows [(3, [none, some (25 : Nat), some 1]), (8, [some 7, none, none])]).map readDLine) (8, 1, 7) :=
  (C03_spring_roundtrip _ (by decide) _).mpr ⟨(8, [some 7, none, none]), by decide, rfl, by decide, rfl⟩

/-- **C03 (data lines)**: every data line the writer prints (`%d,%d,%d,%.5E`, `%d,%d,%E`, `%d,%.12E`) is parsed
    back to the same integers and to exactly the decimal value printed — any id, dof, mantissa, exponent, sign. -/
theorem C03_line_roundtrip :
    (∀ l : BLine Sci, parseBLine (bLineText l) = some ⟨l.id, l.first, l.last, l.val.toDec 5⟩) ∧
    (∀ l : DLine Sci, parseDLine (dLineText l) = some ⟨l.id, l.dof, l.val.toDec 6⟩) ∧
    (∀ r : Nat × Sci, parseSLine (sLineText r) = some (r.1, r.2.toDec 12)) := by
  refine ⟨fun l => ?_, fun l => ?_, fun r => ?_⟩
  · unfold parseBLine bLineText
    rw [split_join ',' _ (by simp) fun f hf => not_mem_of_forall (CntFile.sciFields_b l f hf) (by decide)]
    simp [parseNatTok_showNat, parseDec_renderSci]
  · unfold parseDLine dLineText
    rw [split_join ',' _ (by simp) fun f hf => not_mem_of_forall (CntFile.sciFields_d l f hf) (by decide)]
    simp [parseNatTok_showNat, parseDec_renderSci]
  · unfold parseSLine sLineText
    rw [split_join ',' _ (by simp) fun f hf => not_mem_of_forall (CntFile.sciFields_s r f hf) (by decide)]
    simp [parseNatTok_showNat, parseDec_renderSci]

example : parseBLine (bLineText ⟨10, 3, 3, ⟨false, 150000, 0⟩⟩) = some ⟨10, 3, 3, ⟨false, 150000, -5⟩⟩ := by decide +kernel
example : bLineText ⟨10, 3, 3, ⟨false, 150000, 0⟩⟩ = c!"10,3,3,1.50000E+00" := by decide +kernel

/-- **C03 (fixtemp)**: the rows of a written `!FIXTEMP` section parse back to the same (node, value) list, in order -/
theorem C03_fixtemp_roundtrip (t : List (Nat × Sci)) :
    (t.map sLineText).mapM parseSLine = some (t.map fun r => (r.1, r.2.toDec 12)) :=
  mapM_map_eq_some_map sLineText parseSLine _ t fun r _ => C03_line_roundtrip.2.2 r

/-- **C03 (cflux / pure cflux)**: same rows, same reader -/
theorem C03_cflux_roundtrip (t : List (Nat × Sci)) :
    (t.map sLineText).mapM parseSLine = some (t.map fun r => (r.1, r.2.toDec 12)) := C03_fixtemp_roundtrip t

example : ([(15, (⟨true, 2250000000000, 0⟩ : Sci))].map sLineText).mapM parseSLine = some [(15, ⟨true, 2250000000000, -12⟩)] :=
  C03_fixtemp_roundtrip _

/-- **C03 (group expansion)**: rows addressed to node-group names denote exactly the prescriptions of the same
    rows listed for each member of the group, for every group map and every mix of group and explicit rows
    (the reader's re-ordering — expanded rows first — is immaterial). -/
theorem C03_group_expansion (groups : Nat → List Nat) (ls : List (GLine V)) (p : Nat × Nat × V) :
    Presc (readBoundary (extend groups ls)) p ↔ Presc (readBoundary (explicit groups ls)) p :=
  group_expansion groups ls p

example : Presc (readBoundary (extend (fun _ => [4, 9]) [⟨.group 0, 1, 3, (5 : Nat)⟩, ⟨.node 2, 2, 2, 6⟩])) (9, 2, 5) := by
  refine ⟨readBLine ⟨9, 1, 3, 5⟩, by decide +kernel, rfl, by decide, by decide⟩

/-- **C03 (solution type)**: for every solution-type token `s` (non-empty, `\w` characters — in particular every type
    the writer knows) the `!SOLUTION` line the writer prints is read back as `s`. -/
theorem C03_solution_type (s : Name) (hne : s ≠ []) (hs : ∀ c ∈ s, isWord c = true) :
    capture c!"TYPE=" (solutionLine s) = some s := by
  simp only [solutionLine, List.cons_append, List.nil_append]
  -- `TYPE=` does not start at any of the 11 characters of `!SOLUTION, `
  iterate 11 rw [capture_skip _ _ _ rfl]
  exact capture_hit c!"TYPE=" s hne hs

/-- … and the whole written control file of the known types reads back its solution type (`decide`d on the
    model's complete output, the `!WRITE` … `!SOLVER` … boilerplate and its headers without `TYPE=` included) -/
theorem C03_solution_type_known :
    ∀ s ∈ [c!"STATIC", c!"HEAT"], ∀ os ∈ [true, false],
      (writeCnt ⟨s, os, none, none, none, none, none, none⟩).bind readSolution = some s := by decide +kernel

open Femio.Fistr.CntFile

/-- the table of the exact decimal values the text `%.kE` carries -/
def decTable (k : Nat) (t : List (Row Sci)) : List (Row Dec) :=
  t.map fun r => (r.1, r.2.map (Option.map (Sci.toDec k)))

/-- **C03 (whole file, every input `write_cnt` accepts)**: the reader on the lines `write_cnt` emits returns
    `expectedCnt c` for every node-group map, unless `pure_cflux` is given: then the rows of `cflux` come back under
    `pure_cflux` as well, since the key `!CFLUX` matches both headers. -/
theorem readCnt_writeCnt (ng : List (Name × List Nat)) (c : CntIn) (h : WFCntBase c) :
    (writeCnt c).bind (readCnt ng) = some
      (if c.pureCflux.isNone then expectedCnt c
       else { expectedCnt c with
          cflux := none, pureCflux := nonemptyOr ((optL c.cflux id ++ optL c.pureCflux id).map decS) }) := by
  obtain ⟨⟨hne, hs⟩, hb, hsp, hl⟩ := h
  rw [writeCnt_eq c (fun t ht => (hb t ht).2) (fun t ht => (hl t ht).2), Option.bind_some,
    readCnt_eq ng c.pureCflux
      (by rw [readSolution_cntText c hs]; exact C03_solution_type _ hne hs) (toBlocks_cntText c hs)
      (readSection_rows ng (extractData_cnt_boundary c hs) goodRow_bLine C03_line_roundtrip.1 (readBLineG_written _))
      (readSection_rows ng (extractData_cnt_spring c hs) goodRow_dLine C03_line_roundtrip.2.1
        (readDLineG_spring_written _ hsp))
      (readSection_rows ng (extractData_cnt_cload c hs) goodRow_dLine C03_line_roundtrip.2.1
        (readDLineG_cload_written _ fun t ht => (hl t ht).1))
      (readSection_rows ng (extractData_cnt_fixtemp c hs) goodRow_sLine C03_line_roundtrip.2.2 (fun _ _ => rfl))
      (readSection_rows ng (extractData_cnt_cflux c hs) goodRow_sLine C03_line_roundtrip.2.2 (fun _ _ => rfl))
      (cflux_types c hs),
    nonemptyOr_optL_of_ne _ _ _ (fun t ht => (hb t ht).2), nonemptyOr_optL_of_ne _ _ _ (fun t ht => (hl t ht).2)]
  simp only [nonemptyOr_optL]
  cases hp : c.pureCflux with
  | none =>
    rw [expectedCnt, hp, show optL none id = ([] : List (Nat × Sci)) from rfl, List.append_nil, nonemptyOr_optL]
    rfl
  | some t2 => rfl

/-- a control-file input with every kind of section: boundary with a mixed NaN pattern, an all-NaN row and shuffled
    ids, spring, cload, fixtemp, cflux -/
def exCnt : CntIn where
  solution := c!"STATIC"
  onlySolid := true
  boundary := some [(7, [none, some ⟨false, 150000, 0⟩, none]), (3, [some ⟨true, 100000, -2⟩, none, some ⟨false, 0, 0⟩]),
                    (12, [none, none, none])]
  spring := some [(5, [none, some ⟨false, 2500000, 3⟩, some ⟨false, 1000000, 0⟩]), (2, [some ⟨false, 7000000, 1⟩, none, none])]
  cload := some [(4, [none, some ⟨true, 2000000, 1⟩, none])]
  fixtemp := some [(9, ⟨false, 3000000000000, 2⟩), (1, ⟨false, 2731500000000, 2⟩)]
  cflux := some [(15, ⟨true, 2250000000000, 0⟩)]
  pureCflux := none

example : WFCnt exCnt := by decide +kernel

/-- **C03 (whole file)**: for every well-formed input `c` (`WFCnt`: `\w+` solution type, 3-wide tables, boundary and
    cload not all-NaN, not both cflux kinds) and **every** node-group map `ng`, `write_cnt` succeeds and `_read_cnt`
    applied to the whole written file — boilerplate included, through the comment / blank filter, the header scan,
    the key search, `_extend_assignments` and the row parsers — returns exactly `expectedCnt c`: the solution type,
    per section the table rebuilt from the written rows (exact decimal values), and "absent" for every section that
    was not given or has no entry. -/
theorem C03_file_roundtrip (ng : List (Name × List Nat)) (c : CntIn) (h : WFCnt c) :
    (writeCnt c).bind (readCnt ng) = some (expectedCnt c) := by
  rw [readCnt_writeCnt ng c h.1, expectedCnt]
  rcases h.2 with hx | hx
  · cases hp : c.pureCflux <;> rw [hx] <;> rfl
  · rw [hx]; rfl

example : (writeCnt exCnt).bind (readCnt []) = some (expectedCnt exCnt) := C03_file_roundtrip [] exCnt (by decide +kernel)
example : (writeCnt exCnt).bind (readCnt [(c!"ALL", [1, 2, 3]), (c!"E1", [7])]) = some (expectedCnt exCnt) :=
  C03_file_roundtrip _ exCnt (by decide +kernel)

/-- empty tables: a spring table without entries and an empty fixtemp list are written as a header plus one empty
    line and read back as absent -/
def exCntEmpty : CntIn where
  solution := c!"HEAT"
  onlySolid := false
  boundary := none
  spring := some [(5, [none, none, none])]
  cload := none
  fixtemp := some []
  cflux := none
  pureCflux := some [(8, ⟨false, 1500000000000, 1⟩)]

example : (writeCnt exCntEmpty).bind (readCnt []) = some (expectedCnt exCntEmpty) ∧
    (expectedCnt exCntEmpty).spring = none ∧ (expectedCnt exCntEmpty).fixtemp = none ∧
    (expectedCnt exCntEmpty).pureCflux = some [(8, ⟨false, 1500000000000, -11⟩)] :=
  ⟨C03_file_roundtrip [] exCntEmpty (by decide +kernel), rfl, rfl, rfl⟩

/-- **C03 (the property, whole file)**: for every well-formed input and every node-group map, writing the control
    file and reading the whole file back succeeds and keeps the analysis conditions:
    the solution type; for `boundary` and `cload` a table is read iff one was given and it denotes exactly the
    prescriptions `(node id, dof, value)` of the given table (values = the exact decimals of `%.5E` / `%E`);
    for `spring` the prescriptions read (an absent section prescribes nothing) are exactly those given;
    `fixtemp` / `cflux` / `pure_cflux` come back as the same (node id, value) list in order (`%.12E`), absent iff
    not given or empty. Every NaN pattern, node subset and row order. -/
theorem C03_roundtrip (ng : List (Name × List Nat)) (c : CntIn) (h : WFCnt c) :
    ∃ r, (writeCnt c).bind (readCnt ng) = some r ∧ r.solution = c.solution ∧
      ((c.boundary = none → r.boundary = none) ∧
        ∀ t, c.boundary = some t → ∃ t', r.boundary = some t' ∧ ∀ p, Presc t' p ↔ Presc (decTable 5 t) p) ∧
      ((c.spring = none → r.spring = none) ∧
        ∀ t, c.spring = some t → ∀ p, prescOpt r.spring p ↔ Presc (decTable 6 t) p) ∧
      ((c.cload = none → r.cload = none) ∧
        ∀ t, c.cload = some t → ∃ t', r.cload = some t' ∧ ∀ p, Presc t' p ↔ Presc (decTable 6 t) p) ∧
      scalarKept c.fixtemp r.fixtemp ∧ scalarKept c.cflux r.cflux ∧ scalarKept c.pureCflux r.pureCflux := by
  have hfile := C03_file_roundtrip ng c h
  obtain ⟨⟨-, hb, hsp, hl⟩, -⟩ := h
  refine ⟨expectedCnt c, hfile, rfl, ⟨?_, ?_⟩, ⟨?_, ?_⟩, ⟨?_, ?_⟩, scalarKept_expected _, scalarKept_expected _,
    scalarKept_expected _⟩
  · intro hc; simp only [expectedCnt, hc, Option.map_none]
  · intro t hc
    refine ⟨(boundaryRows t).map fun l => readBLine (decB l), by simp only [expectedCnt, hc, Option.map_some], fun p => ?_⟩
    exact presc_map_rows (Sci.toDec 5) readBLine _ (readBLine_map _) _ t (C03_boundary_roundtrip t (hb t hc).1) p
  · intro hc; simp only [expectedCnt, hc, Option.bind_none]
  · intro t hc p
    have : (expectedCnt c).spring = nonemptyOr ((springRows t).map fun l => readDLine (decD l)) := by
      simp [expectedCnt, hc]
    rw [this, prescOpt_nonemptyOr]
    exact presc_map_rows (Sci.toDec 6) readDLine _ (readDLine_map _) _ t (C03_spring_roundtrip t (hsp t hc)) p
  · intro hc; simp only [expectedCnt, hc, Option.map_none]
  · intro t hc
    refine ⟨(cloadRows t).map fun l => readDLine (decD l), by simp only [expectedCnt, hc, Option.map_some], fun p => ?_⟩
    exact presc_map_rows (Sci.toDec 6) readDLine _ (readDLine_map _) _ t (C03_cload_roundtrip t (hl t hc).1) p

/-- on `exCnt` (through the theorem): node 3 is fixed to `-1.00000E-02 = -100000·10⁻⁷` on dof 1 after the round trip,
    and the `fixtemp` list comes back in its order -/
example : ∃ r, (writeCnt exCnt).bind (readCnt []) = some r ∧
    (∃ t', r.boundary = some t' ∧ Presc t' (3, 1, ⟨true, 100000, -7⟩)) ∧
    r.fixtemp = some [(9, ⟨false, 3000000000000, -10⟩), (1, ⟨false, 2731500000000, -10⟩)] := by
  obtain ⟨r, hr, -, ⟨-, hb⟩, -, -, hft, -, -⟩ := C03_roundtrip [] exCnt (by decide +kernel)
  obtain ⟨t', ht', hp⟩ := hb _ rfl
  refine ⟨r, hr, ⟨t', ht', (hp _).mpr ?_⟩, (hft.2 _ rfl).2 (by decide)⟩
  exact ⟨(3, [some ⟨true, 100000, -7⟩, none, some ⟨false, 0, -5⟩]), by decide, rfl, by decide, rfl⟩

/-- **C03 (both cflux kinds, outside `WFCnt`)**: when `cflux` and `pure_cflux` are both given, `write_cnt` prints a
    `!CFLUX` and a `!CFLUX, TYPE=PURE` block, the reader's key `!CFLUX` matches both, and all rows come back merged
    under `pure_cflux` while `cflux` is lost — this is why `WFCnt` excludes the combination. -/
theorem C03_cflux_both_merged (ng : List (Name × List Nat)) (c : CntIn) (h : WFCntBase c) (t1 t2 : List (Nat × Sci))
    (h1 : c.cflux = some t1) (h2 : c.pureCflux = some t2) :
    ∃ r, (writeCnt c).bind (readCnt ng) = some r ∧ r.cflux = none ∧ r.pureCflux = nonemptyOr ((t1 ++ t2).map decS) := by
  rw [readCnt_writeCnt ng c h, h1, h2]
  exact ⟨_, rfl, rfl, rfl⟩

/-- `exCnt` with a `pure_cflux` list as well -/
def exCntBoth : CntIn := { exCnt with pureCflux := some [(2, ⟨false, 1000000000000, 0⟩)] }

example : ∃ r, (writeCnt exCntBoth).bind (readCnt []) = some r ∧
    r.cflux = none ∧ r.pureCflux = some [(15, ⟨true, 2250000000000, -12⟩), (2, ⟨false, 1000000000000, -12⟩)] :=
  C03_cflux_both_merged [] exCntBoth (by decide +kernel) _ _ rfl rfl

/-! ### histories: the object is modified through public means between construction and `write()`

Model: `Femio/Model/FistrCntHist.lean` - a live constraint kind is `(ids, arr, frame)` (`FEMAttribute._data` and
`._data_frame`, which do not share memory), `ObjOp` = in-place edits through the arrays returned by `.data`, the data
setter / `update_data` / `overwrite`, `.loc` / `.iloc` write-through, replacing / adding / removing a kind, changing the
solution type.  `ObjSt.state` is the CURRENT public state `(.ids, .data)`; `HistCfg.fromArray` is whether the writer takes
the `!BOUNDARY` / `!CLOAD` rows from `.data` (the tree) or from `data_frame` (seeded change C03-6). -/

/-- **C03 (objects written as constructed cannot tell the writers apart)**: for an object that was not modified
    between construction and `write()` the control file is `writeCnt c` whether the writer reads `.data` or the pandas
    frame - which is why a check that writes every object exactly as constructed cannot see a writer that reads the
    stale representation (seeded C03-6), and why the history dimension is needed. -/
theorem C03_history_fresh_any_cfg (cfg : HistCfg) (c : CntIn) : writeObj cfg (ObjSt.fresh c) = writeCnt c := by
  rw [writeObj, view_fresh]

/-- **C03 (history, whole file)**: for every object `o`, every sequence `ops` of public modifications between
    construction and `write()` (in-place edits through `.data`, data setter, write-through, replacing / adding /
    removing kinds, solution type) whose final public state is well-formed, and every node-group map: the control file
    written for the modified object reads back to exactly `expectedCnt` of its CURRENT public state
    `(o.run ops).state` - prescriptions added, changed and released by the edits included. -/
theorem C03_history_roundtrip (ng : List (Name × List Nat)) (o : ObjSt) (ops : List ObjOp) (h : WFCnt (o.run ops).state) :
    (writeObj HistCfg.fixed (o.run ops)).bind (readCnt ng) = some (expectedCnt (o.run ops).state) :=
  C03_file_roundtrip ng _ h

/-- **C03 (history, the property)**: `C03_roundtrip` for the current public state of a modified object: the file written
    after the modifications keeps the solution type and, per kind, exactly the prescription set `(node id, dof, value)`
    of the table the object holds when `write()` is called. -/
theorem C03_history_property (ng : List (Name × List Nat)) (o : ObjSt) (ops : List ObjOp) (h : WFCnt (o.run ops).state) :
    ∃ r, (writeObj HistCfg.fixed (o.run ops)).bind (readCnt ng) = some r ∧ r.solution = (o.run ops).state.solution ∧
      (∀ t, (o.run ops).state.boundary = some t → ∃ t', r.boundary = some t' ∧ ∀ p, Presc t' p ↔ Presc (decTable 5 t) p) ∧
      (∀ t, (o.run ops).state.spring = some t → ∀ p, prescOpt r.spring p ↔ Presc (decTable 6 t) p) ∧
      (∀ t, (o.run ops).state.cload = some t → ∃ t', r.cload = some t' ∧ ∀ p, Presc t' p ↔ Presc (decTable 6 t) p) ∧
      scalarKept (o.run ops).state.fixtemp r.fixtemp ∧ scalarKept (o.run ops).state.cflux r.cflux ∧
      scalarKept (o.run ops).state.pureCflux r.pureCflux := by
  obtain ⟨r, hr, hs, hb, hsp, hl, h1, h2, h3⟩ := C03_roundtrip ng (o.run ops).state h
  exact ⟨r, hr, hs, hb.2, hsp.2, hl.2, h1, h2, h3⟩

/-- **C03 (history independence)**: the control file of a modified object is byte for byte the file of a FRESH object
    constructed with the content the modified object holds at `write()`. -/
theorem C03_history_fresh (o : ObjSt) (ops : List ObjOp) :
    writeObj HistCfg.fixed (o.run ops) = writeObj HistCfg.fixed (ObjSt.fresh (o.run ops).state) := by
  rw [C03_history_fresh_any_cfg]; rfl

/-- an in-place edit through the array returned by `.data` IS part of the state that is written: after
    `boundary.data[r] = f boundary.data[r]` the state's boundary table is the old one with row `r` replaced -/
theorem C03_history_poke_state (o : ObjSt) (r : Nat) (f : TRow → TRow) :
    (o.step (.table .boundary (.poke r f))).state.boundary = o.boundary.map fun a => a.ids.zip (modifyAt a.arr r f) := by
  cases hb : o.boundary <;> simp [ObjSt.step, ObjSt.getT, ObjSt.setT, ObjSt.view, HistCfg.fixed, AttrSt.step, AttrSt.rows, hb]

/-- `exCnt` constructed, then - the idiom of femio's `tests/util/test_random_generator.py`,
    `constraints['boundary'].data[-1] = …` - edited in place: dof 1 of node 3 RELEASED, dof 1 of node 7 newly prescribed
    (`2.50000E+00`), the all-NaN row of node 12 set to `1.00000E-03` on every dof; the load of node 4 changed -/
def exHistOps : List ObjOp :=
  [.table .boundary (.poke 1 (·.set 0 none)),
   .table .boundary (.poke 0 (·.set 0 (some ⟨false, 250000, 0⟩))),
   .table .boundary (.poke 2 (fun _ => [some ⟨false, 100000, -3⟩, some ⟨false, 100000, -3⟩, some ⟨false, 100000, -3⟩])),
   .table .cload (.poke 0 (·.set 1 (some ⟨false, 7500000, -1⟩)))]

def exHistObj : ObjSt := (ObjSt.fresh exCnt).run exHistOps

example : exHistObj.state.boundary =
    some [(7, [some ⟨false, 250000, 0⟩, some ⟨false, 150000, 0⟩, none]), (3, [none, none, some ⟨false, 0, 0⟩]),
          (12, [some ⟨false, 100000, -3⟩, some ⟨false, 100000, -3⟩, some ⟨false, 100000, -3⟩])] := by decide +kernel
example : WFCnt exHistObj.state := by decide +kernel
/-- through the theorem: after the round trip node 7 is fixed to `2.5` on dof 1 (added by the edit) -/
example : ∃ r, (writeObj HistCfg.fixed exHistObj).bind (readCnt []) = some r ∧
    ∃ t', r.boundary = some t' ∧ Presc t' (7, 1, ⟨false, 250000, -5⟩) := by
  obtain ⟨r, hr, -, hb, -⟩ := C03_history_property [] (ObjSt.fresh exCnt) exHistOps (by decide +kernel)
  obtain ⟨t', ht', hp⟩ := hb _ rfl
  refine ⟨r, hr, t', ht', (hp _).mpr ?_⟩
  exact ⟨(7, [some ⟨false, 250000, -5⟩, some ⟨false, 150000, -5⟩, none]), by decide, rfl, by decide, rfl⟩

/-- **C03 (counterexample: a writer that reads the pandas frame)**: with `fromArray := false` (the `!BOUNDARY` /
    `!CLOAD` rows taken from `data_frame`, seeded change C03-6) the file written for the object edited in place is the
    file of the table as it was when the attribute was created - read back, it is NOT the current state of the object
    (the released dof of node 3 comes back as a prescription, the new values are missing), while both files are
    well-formed and read without error. -/
theorem C03_history_counterexample_frame_writer :
    ∃ (o : ObjSt) (ops : List ObjOp), WFCnt (o.run ops).state ∧
      (writeObj ⟨false⟩ (o.run ops)).bind (readCnt []) = some (expectedCnt exCnt) ∧
      (writeObj HistCfg.fixed (o.run ops)).bind (readCnt []) = some (expectedCnt (o.run ops).state) ∧
      (expectedCnt exCnt).boundary ≠ (expectedCnt (o.run ops).state).boundary ∧
      (expectedCnt exCnt).cload ≠ (expectedCnt (o.run ops).state).cload := by
  refine ⟨ObjSt.fresh exCnt, exHistOps, by decide +kernel, ?_, C03_history_roundtrip [] _ _ (by decide +kernel), by decide +kernel, by decide +kernel⟩
  have hv : ((ObjSt.fresh exCnt).run exHistOps).view ⟨false⟩ = exCnt := rfl
  rw [writeObj, hv]
  exact C03_file_roundtrip [] exCnt (by decide +kernel)

/-- **C03 (layout of a node-group definition)**: whichever way the members of a node group are distributed over the data
    lines of an `!NGROUP` block - every chunking `chunks` of the member list into non-empty lines: one id per line, all
    on one line, `k` per line, `k` per line with a shorter last line, arbitrary - the block denotes exactly the member
    list `chunks.flatten`: for the reader with the ragged-block repair always, for the upstream reader (`to_values` on the
    whole block) whenever the lines have the same number of ids. -/
theorem C03_ngroup_layout (chunks : List (List Nat)) (hne : ∀ c ∈ chunks, c ≠ []) :
    ngBlockIds NgCfg.repaired (chunks.map renderNatRow) = some chunks.flatten ∧
    (∀ k, (∀ c ∈ chunks, c.length = k) → ngBlockIds NgCfg.upstream (chunks.map renderNatRow) = some chunks.flatten) := by
  constructor
  · simp [ngBlockIds, NgCfg.repaired, ngBlock_mapM chunks hne]
  · intro k hk
    simp [ngBlockIds, NgCfg.upstream, ngBlock_mapM chunks hne, sameLengths_of_forall k chunks hk]

/-- two layouts of the same member list are the same definition -/
theorem C03_ngroup_layout_independent (c₁ c₂ : List (List Nat)) (h₁ : ∀ c ∈ c₁, c ≠ []) (h₂ : ∀ c ∈ c₂, c ≠ [])
    (hf : c₁.flatten = c₂.flatten) :
    ngBlockIds NgCfg.repaired (c₁.map renderNatRow) = ngBlockIds NgCfg.repaired (c₂.map renderNatRow) := by
  rw [(C03_ngroup_layout c₁ h₁).1, (C03_ngroup_layout c₂ h₂).1, hf]

example : ngBlockIds NgCfg.upstream ([[9, 10], [11, 12]].map renderNatRow) = some [9, 10, 11, 12] :=
  (C03_ngroup_layout [[9, 10], [11, 12]] (by decide)).2 2 (by decide)
example : ngBlockIds NgCfg.repaired ([[1, 2, 3], [4, 5]].map renderNatRow) =
    ngBlockIds NgCfg.repaired ([[1], [2], [3], [4], [5]].map renderNatRow) :=
  C03_ngroup_layout_independent _ _ (by decide) (by decide) rfl

/-- a 4-node mesh text whose group `FIX` = {1, 2, 3, 4} is laid out as the given lines -/
def exGroupMsh (chunks : List (List Nat)) : List Line :=
  [c!"!HEADER", c!"Data written by femio", c!"!NODE", c!"1,0.00000000E+00,0.00000000E+00,0.00000000E+00",
   c!"2,1.00000000E+00,0.00000000E+00,0.00000000E+00", c!"3,0.00000000E+00,1.00000000E+00,0.00000000E+00",
   c!"4,0.00000000E+00,0.00000000E+00,1.00000000E+00", c!"!ELEMENT, TYPE=341", c!"1,1,2,3,4"]
  ++ ngBlockText c!"FIX" chunks ++ [c!"!END"]
def exCntByName : List Line :=
  [c!"!VERSION", c!"5", c!"!SOLUTION, TYPE=STATIC", c!"!BOUNDARY", c!"FIX,1,2,0.00000E+00", c!"!END"]
def exCntExplicit : List Line :=
  [c!"!VERSION", c!"5", c!"!SOLUTION, TYPE=STATIC", c!"!BOUNDARY", c!"1,1,2,0.00000E+00", c!"2,1,2,0.00000E+00",
   c!"3,1,2,0.00000E+00", c!"4,1,2,0.00000E+00", c!"!END"]
/-- the node ids of the `!BOUNDARY` table read from a mesh text + control-file text -/
def boundaryNodes (cfg : NgCfg) (msh cnt : List Line) : Option (Option (List Nat)) :=
  (readCntFiles cfg msh cnt).map fun r => r.boundary.map fun t => t.map (·.1)

/-- **C03 (counterexample: a reader that takes the first id of every `!NGROUP` line)** - the structure of seeded change
    C03-10: with two ids per line the group-name row fixes nodes 1 and 3 only, the explicit listing nodes 1-4, without any
    error; the upstream reader gives 1-4 for both; with one id per line the two readers cannot be told apart. -/
theorem C03_ngroup_first_id_counterexample :
    boundaryNodes ⟨true, true⟩ (exGroupMsh [[1, 2], [3, 4]]) exCntByName = some (some [1, 3]) ∧
    boundaryNodes ⟨true, true⟩ (exGroupMsh [[1, 2], [3, 4]]) exCntExplicit = some (some [1, 2, 3, 4]) ∧
    boundaryNodes NgCfg.upstream (exGroupMsh [[1, 2], [3, 4]]) exCntByName = some (some [1, 2, 3, 4]) ∧
    boundaryNodes ⟨true, true⟩ (exGroupMsh [[1], [2], [3], [4]]) exCntByName = some (some [1, 2, 3, 4]) := by
  decide +kernel

/-- **C03 (counterexample, upstream: a ragged block)**: a block with three ids on the first line and one on the second
    (`k` per line, shorter last line) cannot be read by the upstream reader at all (`to_values` pads the short line and the
    integer conversion raises: finding `group-layout:ragged-block`), the repaired reader reads the same group as from any
    other layout. -/
theorem C03_ngroup_ragged_counterexample_upstream :
    boundaryNodes NgCfg.upstream (exGroupMsh [[1, 2, 3], [4]]) exCntByName = none ∧
    boundaryNodes NgCfg.repaired (exGroupMsh [[1, 2, 3], [4]]) exCntByName = some (some [1, 2, 3, 4]) ∧
    boundaryNodes NgCfg.repaired (exGroupMsh [[1, 2, 3], [4]]) exCntExplicit = some (some [1, 2, 3, 4]) := by
  decide +kernel

end Femio.C03
