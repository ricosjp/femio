import Femio.Lemmas.NpyDirProps

/-! C05 — native npy cache: exact, transparent, crash-safe.  Property theorems over the directory machine
`Femio.C05` (`Model/NpyDir.lean`).  `Cfg.fixed` is the configuration the working tree must implement. -/
namespace Femio.C05

/-- a completed save by any good plan leaves exactly the files of that object, whatever
was there before. -/
theorem C05_full_save_plan (m : List Step) (x : Obj) (mo : Bool) (hg : GoodMid m x mo = true) (d : Dir) :
    (wrap m x.tag).foldl Step.apply d = expected x mo := by
  funext f
  simp only [wrap, List.foldl_cons, List.foldl_append, List.foldl_nil, apply_write]
  by_cases hf : f = .sentinel
  · subst hf; rfl
  · rw [if_neg hf]; exact good_data m x mo hg f hf _

/-- whatever the directory held and in whatever order a good plan rewrites the data
files, a `save` that dies after any number of effects — optionally inside the next file write — leaves either no
sentinel or a complete, coherent cache. -/
theorem C05_crash_inv_plan (d : Dir) (x : Obj) (mo : Bool) (m : List Step) (hg : GoodMid m x mo = true)
    (k : Nat) (torn : Bool) (h : DInv d) : DInv (crashSteps (wrap m x.tag) d k torn) := by
  rcases Nat.eq_zero_or_pos k with rfl | hk
  · -- nothing done, and the first effect is a removal: nothing to tear
    have : crashSteps (wrap m x.tag) d 0 torn = d := by cases torn <;> rfl
    rwa [this]
  · by_cases hfull : k < m.length + 2
    · exact DInv_of_none (crash_inside_no_sentinel m ((goodMid_iff m x mo).mp hg).1 x.tag d k torn hk hfull)
    · rw [crashSteps_of_length_le _ _ _ _ (by simp [wrap]; omega), C05_full_save_plan m x mo hg]
      exact DInv_expected x mo

theorem save_inv_plan (m : List Step) (x : Obj) (mo : Bool) (hg : GoodMid m x mo = true) (d : Dir) :
    DInv ((wrap m x.tag).foldl Step.apply d) := by
  rw [C05_full_save_plan m x mo hg]; exact DInv_expected x mo

theorem C05_read_inv_plan (d : Dir) (src : Obj) (m : List Step) (hg : GoodMid m src false = true) (h : DInv d) :
    DInv (readDirG d src m).2 := by
  unfold readDirG
  split
  · exact h
  · exact save_inv_plan m src false hg d

theorem readDirG_fresh (d : Dir) (h : d .sentinel = none) (src : Obj) (m m' : List Step)
    (hg : GoodMid m src false = true) : (readDirG d src m).1 = expected src false ∧
      (readDirG (readDirG d src m).2 src m').1 = expected src false := by
  constructor
  · simp [readDirG, h]
  · simp [readDirG, h, C05_full_save_plan m src false hg, expected]

/-- a plan that re-creates the sentinel before the last data file is rejected by `GoodMid` -/
example : GoodMid [.write .nodes 2, .write .sentinel 2, .write .elements 2, .write .settings 2] ⟨2, false, false, false⟩ false
    = false := by decide +kernel
/-- a plan in another order than the current code's is accepted -/
example : GoodMid [.write .settings 2, .remove .constraints, .write .elements 2, .remove .elemental, .write .nodal 2,
    .write .nodes 2] ⟨2, true, false, false⟩ false = true := by decide +kernel

/-- whatever the directory held, in whatever order a good plan rewrites the data files, a
`save` that is interrupted after any number of effects — optionally inside the next file write — and then performs ANY
clean-up effects accepted by `GoodUnwind` while the exception unwinds the stack (`finally`, `except`, context-manager
exits; none for a process death) leaves either no sentinel or a complete, coherent cache. -/
theorem C05_crash_inv_unwind (d : Dir) (x : Obj) (mo : Bool) (m : List Step) (hg : GoodMid m x mo = true)
    (k : Nat) (torn : Bool) (unw : List Step) (hu : GoodUnwind (m.length + 2) k unw = true) (h : DInv d) :
    DInv (interruptSteps (wrap m x.tag) d k torn unw) := by
  by_cases hb : k = 0 ∨ m.length + 2 ≤ k
  · unfold GoodUnwind at hu
    rw [decide_eq_true hb] at hu
    exact unwind_inv unw _ (C05_crash_inv_plan d x mo m hg k torn h) hu
  · exact DInv_of_none
      (interrupt_inside_no_sentinel m ((goodMid_iff m x mo).mp hg).1 x.tag d k torn unw (by omega) (by omega) hu)

/-- an interrupted automatic save of `read_directory` (nothing happens when the read is served from the cache) -/
theorem C05_read_interrupt_inv (d : Dir) (src : Obj) (m : List Step) (hg : GoodMid m src false = true)
    (k : Nat) (torn : Bool) (unw : List Step) (hu : GoodUnwind (m.length + 2) k unw = true) (h : DInv d) :
    DInv (ustep d (.readInterrupt src m k torn unw)) := by
  simp only [ustep]
  split
  · exact h
  · exact C05_crash_inv_unwind d src false m hg k torn unw hu h

theorem ustep_inv (d : Dir) (op : UOp) (hop : op.good = true) (h : DInv d) : DInv (ustep d op) := by
  cases op with
  | read src m => exact C05_read_inv_plan d src m hop h
  | save x mo m => exact save_inv_plan m x mo hop d
  | interrupt x mo m k torn unw =>
    simp only [UOp.good, Bool.and_eq_true] at hop
    exact C05_crash_inv_unwind d x mo m hop.1 k torn unw hop.2 h
  | readInterrupt src m k torn unw =>
    simp only [UOp.good, Bool.and_eq_true] at hop
    exact C05_read_interrupt_inv d src m hop.1 k torn unw hop.2 h

/-- for every history of reads, saves, interrupted saves and reads whose automatic save is interrupted — each with any
good plan, any interruption point, torn or not, and any good clean-up effects — starting from a directory without cache,
the sentinel promises a complete coherent cache -/
theorem C05_history_inv_unwind (ops : List UOp) (hg : ∀ op ∈ ops, op.good = true) (d0 : Dir) (h0 : d0 .sentinel = none) :
    DInv (ops.foldl ustep d0) :=
  List.foldlRecOn ops _ (DInv_of_none h0) fun d h op hop => ustep_inv d op (hg op hop) h

/-- a read after any history of good `UOp`s returns the parse of the source or one complete saved object -/
theorem C05_crash_safe_unwind (ops : List UOp) (hg : ∀ op ∈ ops, op.good = true) (d0 : Dir) (h0 : d0 .sentinel = none)
    (src : Obj) (m : List Step) : Coherent (readDirG (ops.foldl ustep d0) src m).1 :=
  readDirG_coherent _ src m (C05_history_inv_unwind ops hg d0 h0)

/-- the machine of the `*_plan` theorems is the special case "no clean-up effect" (`unw = []`, always good) -/
theorem C05_unwind_extends_plan (d : Dir) (op : GOp) : ustep d op.toU = gstep d op ∧ op.toU.good = op.good := by
  cases op <;> simp [GOp.toU, ustep, gstep, UOp.good, GOp.good, interruptSteps, GoodUnwind, safeUnwind]

/-- for every history of reads, saves and interrupted saves, each with any good plan of effects, starting from a
directory without cache, the sentinel promises a complete coherent cache -/
theorem C05_history_inv_plan (ops : List GOp) (hg : ∀ op ∈ ops, op.good = true) (d0 : Dir) (h0 : d0 .sentinel = none) :
    DInv (ops.foldl gstep d0) :=
  List.foldlRecOn ops _ (DInv_of_none h0) fun d h op hop => by
    rw [← (C05_unwind_extends_plan d op).1]
    exact ustep_inv d op.toU ((C05_unwind_extends_plan d op).2.trans (hg op hop)) h

/-- a read after any history of good `GOp`s returns the parse of the source or one complete saved object -/
theorem C05_crash_safe_plan (ops : List GOp) (hg : ∀ op ∈ ops, op.good = true) (d0 : Dir) (h0 : d0 .sentinel = none)
    (src : Obj) (m : List Step) : Coherent (readDirG (ops.foldl gstep d0) src m).1 :=
  readDirG_coherent _ src m (C05_history_inv_plan ops hg d0 h0)

/-- a first read whose automatic save is interrupted strictly inside (any point,
torn or not, any good clean-up) is not trusted: the next read parses the source again, and the read after that is served
from the cache the second one wrote and still returns the parse of the source. -/
theorem C05_interrupted_read_transparent (d0 : Dir) (h0 : d0 .sentinel = none) (src : Obj) (m m' m'' : List Step)
    (hg : GoodMid m src false = true) (hg' : GoodMid m' src false = true)
    (k : Nat) (torn : Bool) (unw : List Step) (hk : 0 < k) (hk' : k < m.length + 2)
    (hu : GoodUnwind (m.length + 2) k unw = true) :
    let d1 := ustep d0 (.readInterrupt src m k torn unw)
    d1 .sentinel = none ∧ (readDirG d1 src m').1 = expected src false ∧
      (readDirG (readDirG d1 src m').2 src m'').1 = expected src false := by
  have h1 : (ustep d0 (.readInterrupt src m k torn unw)) .sentinel = none := by
    simp only [ustep, h0, Option.isSome_none, Bool.false_eq_true, if_false]
    exact interrupt_inside_no_sentinel m ((goodMid_iff m src false).mp hg).1 src.tag d0 k torn unw hk hk' hu
  exact ⟨h1, readDirG_fresh _ h1 src m' m'' hg'⟩

/-- a completed `save` leaves exactly the files of that object, whatever was there before
(no stale optional file survives). -/
theorem C05_full_save (d : Dir) (x : Obj) (mo : Bool) : fullSave Cfg.fixed d x mo = expected x mo := by
  rw [fullSave, saveSteps_fixed]
  exact C05_full_save_plan (mid x mo) x mo (mid_good x mo) d

/-- crash safety of one save, for the order of effects of the current code -/
theorem C05_crash_inv (d : Dir) (x : Obj) (mo : Bool) (k : Nat) (torn : Bool) (h : DInv d) :
    DInv (crashSave Cfg.fixed d x mo k torn) := by
  unfold crashSave
  rw [saveSteps_fixed]
  exact C05_crash_inv_plan d x mo (mid x mo) (mid_good x mo) k torn h

/-- a completed save is a special case -/
theorem C05_save_inv (d : Dir) (x : Obj) (mo : Bool) : DInv (fullSave Cfg.fixed d x mo) := by
  rw [C05_full_save]; exact DInv_expected x mo

theorem C05_read_inv (d : Dir) (src : Obj) (h : DInv d) : DInv (readDir Cfg.fixed d src).2 := by
  rw [readDir_fixed]; exact C05_read_inv_plan d src _ (mid_good src false) h

/-- for every history of reads, saves and interrupted saves (any crash point, torn or not) of the current code, starting
from a directory without cache, the invariant holds -/
theorem C05_history_inv (ops : List DOp) (d0 : Dir) (h0 : d0 .sentinel = none) :
    DInv (ops.foldl (dstep Cfg.fixed) d0) :=
  List.foldlRecOn ops _ (DInv_of_none h0) fun d h op _ => by
    cases op with
    | read src => exact C05_read_inv d src h
    | save x mo => exact C05_save_inv d x mo
    | crash x mo k torn => exact C05_crash_inv d x mo k torn h

/-- a read after any history of `DOp`s returns the parse of the source or one complete saved object — never a mixture,
never a torn file -/
theorem C05_crash_safe (ops : List DOp) (d0 : Dir) (h0 : d0 .sentinel = none) (src : Obj) :
    Coherent (readDir Cfg.fixed (ops.foldl (dstep Cfg.fixed) d0) src).1 := by
  rw [readDir_fixed]; exact readDirG_coherent _ src _ (C05_history_inv ops d0 h0)

/-- the second read of a source directory is served from the cache written by
the first read and returns the same data as parsing the source. -/
theorem C05_cache_transparent (d0 : Dir) (h0 : d0 .sentinel = none) (src : Obj) :
    (readDir Cfg.fixed d0 src).1 = expected src false ∧
    (readDir Cfg.fixed (readDir Cfg.fixed d0 src).2 src).1 = expected src false := by
  simpa only [readDir_fixed] using readDirG_fresh d0 h0 src _ (mid src false) (mid_good src false)

/-- reading after a completed save loads exactly that object's files. -/
theorem C05_load_complete_save (d : Dir) (x : Obj) (mo : Bool) (src : Obj) :
    (readDir Cfg.fixed (fullSave Cfg.fixed d x mo) src).1 = expected x mo := by
  simp [readDir, C05_full_save, expected]

def A : Obj := ⟨1, true, false, true⟩
def B : Obj := ⟨2, true, false, false⟩
def empty : Dir := fun _ => none

example : (crashSave Cfg.fixed (fullSave Cfg.fixed empty A false) B false 7 true) .sentinel = none ∧
    (crashSave Cfg.fixed (fullSave Cfg.fixed empty A false) B false 7 true) .nodal = some .torn := by decide +kernel

/-- F6b: upstream, a second save that dies after rewriting the nodes leaves sentinel + new nodes + old elements -/
theorem C05_crash_counterexample_upstream :
    let d := crashSave Cfg.upstream (fullSave Cfg.upstream empty A false) B false 1 false
    (d .sentinel).isSome = true ∧ d .nodes = some (.ok 2) ∧ d .elements = some (.ok 1) := by decide +kernel

/-- F6c: upstream, the constraints file of an earlier save survives a complete later save without constraints -/
theorem C05_stale_counterexample_upstream :
    (fullSave Cfg.upstream (fullSave Cfg.upstream empty A false) B false) .constraints = some (.ok 1) := by decide +kernel

/-- seeded change C05-6, one `try … finally: touch(sentinel)` around the writes: rejected by `GoodUnwind` … -/
example : GoodUnwind 9 6 [.write .sentinel 2] = false := by decide +kernel
/-- … a clean-up that removes the files written so far is accepted strictly inside the save … -/
example : GoodUnwind 9 6 [.remove .nodes, .remove .elements] = true := by decide +kernel
/-- … but not before the sentinel was removed (interruption before the first effect), unless it removes the sentinel first -/
example : GoodUnwind 9 0 [.remove .nodes, .remove .elements] = false ∧
    GoodUnwind 9 0 [.remove .sentinel, .remove .nodes, .remove .elements] = true := by decide +kernel
/-- non-vacuity of `C05_crash_inv_unwind`: second save of `B` over the complete cache of `A`, interrupted inside the
write of the nodal file, clean-up removes what was written: no sentinel, the half-written nodal file stays -/
example : GoodMid (mid B false) B false = true ∧ GoodUnwind ((mid B false).length + 2) 7 [.remove .nodes, .remove .elements] = true ∧
    (interruptSteps (wrap (mid B false) B.tag) (fullSave Cfg.fixed empty A false) 7 true [.remove .nodes, .remove .elements]) .sentinel = none ∧
    (interruptSteps (wrap (mid B false) B.tag) (fullSave Cfg.fixed empty A false) 7 true [.remove .nodes, .remove .elements]) .nodal = some .torn := by
  decide +kernel

/-- the sentinel created while unwinding (`finally: touch`): a second save interrupted by an exception after rewriting the
nodes leaves sentinel + new nodes + old elements — the reason for the hypothesis `GoodUnwind` -/
theorem C05_unwind_counterexample_marker_in_finally :
    let d := interruptSteps (wrap (mid B false) B.tag) (fullSave Cfg.fixed empty A false) 6 false [.write .sentinel B.tag]
    (d .sentinel).isSome = true ∧ d .nodes = some (.ok 2) ∧ d .elements = some (.ok 1) := by decide +kernel

/-! ### a save through a staging directory

Seen from the cache directory such a save is: remove the sentinel and the stale files, then one atomic write of a COMPLETE
file per rename into place, in the order of the renames (this is the plan the harness traces for it: a rename into the
directory is a write of its target; what happens inside the staging directory changes no cache file). -/

def stagedPlan (x : Obj) (order : List File) : List Step :=
  [.remove .sentinel, .remove .nodal, .remove .elemental, .remove .constraints, .remove .settings] ++
  order.map (fun f => .write f x.tag)

/-- renamed in alphabetical order of the file NAMES (`femio_npy_saved.npy` sorts before `femio_settings.npz`) the sentinel is
in place before the settings: the plan does not end with the sentinel, and a death between these two renames (after 9 of
the 10 effects) leaves the sentinel and every data file of the new object but NOT its settings — a partial cache that
every later read trusts -/
theorem C05_staged_sorted_counterexample :
    let plan := stagedPlan B [.elements, .nodal, .nodes, .sentinel, .settings]
    let d := crashSteps plan (fullSave Cfg.fixed empty A false) 9 false
    plan.getLast? ≠ some (.write .sentinel B.tag) ∧
    (d .sentinel).isSome = true ∧ d .nodes = some (.ok 2) ∧ d .settings = none ∧
    expected B false .settings = some (.ok 2) := by decide +kernel

/-- with the sentinel renamed LAST the same staged save is a plan `wrap mid` accepted by `GoodMid`: every `*_plan` /
`*_unwind` theorem applies to it -/
theorem C05_staged_marker_last_good :
    stagedPlan B [.elements, .nodal, .nodes, .settings, .sentinel] =
      wrap [.remove .nodal, .remove .elemental, .remove .constraints, .remove .settings,
            .write .elements 2, .write .nodal 2, .write .nodes 2, .write .settings 2] B.tag ∧
    GoodMid [.remove .nodal, .remove .elemental, .remove .constraints, .remove .settings,
             .write .elements 2, .write .nodal 2, .write .nodes 2, .write .settings 2] B false = true := by decide +kernel

/-- with the default options `readOpt` is `readDirG`, the read of `ustep` and `gstep` -/
theorem C05_read_opt_default (d : Dir) (src : Obj) (m : List Step) : readOpt false ROpt.default d src m = readDirG d src m := by
  unfold readOpt readDirG cacheTrusted ROpt.default
  cases h : d .sentinel <;> simp

/-- a read with any options preserves the invariant (it writes nothing, or it performs a complete save of the parse) -/
theorem C05_read_opt_inv (o : ROpt) (d : Dir) (src : Obj) (m : List Step) (hg : GoodMid m src false = true) (h : DInv d) :
    DInv (readOpt false o d src m).2 := by
  unfold readOpt
  simp only
  split
  · exact save_inv_plan m src false hg d
  · exact h

/-- on a directory satisfying the invariant a read with ANY options returns the parse of the source
or the files of one complete save - for `read_mesh_only=True` the node and element tables of ONE object. -/
theorem C05_read_opt_safe (o : ROpt) (d : Dir) (src : Obj) (m : List Step) (h : DInv d) :
    if o.meshOnly then MeshCoherent (readOpt false o d src m).1 else Coherent (readOpt false o d src m).1 := by
  have hc : Coherent (if cacheTrusted false o d then d else expected src false) := by
    unfold cacheTrusted
    split
    · rename_i hs
      simp only [Bool.false_and, Bool.or_false, Bool.and_eq_true] at hs
      exact h hs.2
    · exact ⟨src, false, rfl⟩
  unfold readOpt
  cases hm : o.meshOnly
  · simpa [hm] using hc
  · simpa [hm] using coherent_mesh _ hc

/-- the invariant holds after every history of saves, interrupted saves, (interrupted) default
reads AND reads with any combination of `read_mesh_only` / `read_npy` / `save`, each with any good plan. -/
theorem C05_history_inv_opt (ops : List XOp) (hg : ∀ op ∈ ops, op.good = true) (d0 : Dir) (h0 : d0 .sentinel = none) :
    DInv (ops.foldl xstep d0) :=
  List.foldlRecOn ops _ (DInv_of_none h0) fun d h op hop => by
    cases op with
    | u op => exact ustep_inv d op (hg _ hop) h
    | readOpt o src m => exact C05_read_opt_inv o d src m (hg _ hop) h

/-- a read with any options after any history of good `XOp`s returns the parse of the source or one complete saved object
(mesh-only: the node and element tables of one object) -/
theorem C05_crash_safe_opt (ops : List XOp) (hg : ∀ op ∈ ops, op.good = true) (d0 : Dir) (h0 : d0 .sentinel = none)
    (o : ROpt) (src : Obj) (m : List Step) :
    if o.meshOnly then MeshCoherent (readOpt false o (ops.foldl xstep d0) src m).1
    else Coherent (readOpt false o (ops.foldl xstep d0) src m).1 :=
  C05_read_opt_safe o _ src m (C05_history_inv_opt ops hg d0 h0)

/-- non-vacuity: a mesh-only read after a second save of `B` that died after rewriting the nodes (no sentinel: the parse),
and after the completed save (the cache of `B`) -/
example : (readOpt false ⟨true, true, true⟩ (crashSteps (wrap (mid B false) B.tag) (fullSave Cfg.fixed empty A false) 6 false)
      ⟨3, true, false, false⟩ []).1 .nodes = some (.ok 3) ∧
    (readOpt false ⟨true, true, true⟩ (fullSave Cfg.fixed empty B false) ⟨3, true, false, false⟩ []).1 .elements = some (.ok 2) := by
  decide +kernel

/-- the slip "a mesh-only read is served from femio_nodes + femio_elements whenever both exist": after a second save of `B`
over the complete cache of `A` that dies after rewriting the nodes (6 effects) there is no sentinel, and the mesh-only read
returns the nodes of `B` with the elements of `A` - neither the parse of the source (tag 3) nor one saved object -/
theorem C05_mesh_only_by_existence_counterexample :
    let d := crashSteps (wrap (mid B false) B.tag) (fullSave Cfg.fixed empty A false) 6 false
    let r := (readOpt true ⟨true, true, true⟩ d ⟨3, true, false, false⟩ []).1
    d .sentinel = none ∧ r .nodes = some (.ok 2) ∧ r .elements = some (.ok 1) := by decide +kernel

end Femio.C05
