import Femio.Lemmas.NpyKeysProps

/-! C05 — the npz key scheme round-trips (`from_dict ∘ to_dict = id`), for every attribute collection whose
names and element types contain no `'/'`.  Property theorems for `Cfg.fixed`; `decide`d counterexamples
for the upstream code (F6a, F6e) and for the two-key scheme without a `time_series` key (F6d). -/
namespace Femio.C05K

/-- `FEMAttribute.from_dict(to_dict(prefix))` returns the saved arrays and the
`time_series` flag, for every prefix — for a time series (three keys) and for every other attribute (two keys). -/
theorem C05_keys_attr_roundtrip (pre : List Str) (a : Attr) : attrFromDict Cfg.fixed (attrToDict pre a) = some a := by
  have hi : sIds ∈ kinds := by decide
  have hd : sData ∈ kinds := by decide
  have ht : sTs ∈ kinds := by decide
  have h1 : sTs ≠ sIds := by decide
  have h2 : sTs ≠ sData := by decide
  have h3 : sIds ≠ sData := by decide
  obtain ⟨i, d, ts⟩ := a
  cases ts <;>
    simp [attrFromDict, attrToDict, isIdsKey, isDataKey, isTsKey, Cfg.fixed, suffix_key, hi, hd, ht, h1, h2, h3]

/-- an attribute saved with the flag comes back with the flag (three keys), one
saved without comes back without (the two keys of the upstream scheme, nothing else), for every prefix — hence for nodal variables (`[name]`) and per element type (`[name, type]`). -/
theorem C05_keys_time_series_flag_roundtrip (pre : List Str) (i d : Nat) :
    attrFromDict Cfg.fixed (attrToDict pre ⟨i, d, true⟩) = some ⟨i, d, true⟩ ∧
    attrFromDict Cfg.fixed (attrToDict pre ⟨i, d, false⟩) = some ⟨i, d, false⟩ ∧
    (attrToDict pre ⟨i, d, true⟩).map Prod.fst =
      [joinSep '/' (pre ++ [sIds]), joinSep '/' (pre ++ [sData]), joinSep '/' (pre ++ [sTs])] ∧
    (attrToDict pre ⟨i, d, false⟩).map Prod.fst = [joinSep '/' (pre ++ [sIds]), joinSep '/' (pre ++ [sData])] :=
  ⟨C05_keys_attr_roundtrip pre _, C05_keys_attr_roundtrip pre _, by simp [attrToDict], by simp [attrToDict]⟩

example : attrFromDict Cfg.fixed (attrToDict [['t', 's'], ['t', 'e', 't']] ⟨4, 5, true⟩) = some ⟨4, 5, true⟩ := by decide +kernel

/-- a collection of nodal attributes / constraints: for pairwise distinct names
without `'/'`, loading the saved dict gives, under every name, exactly the arrays saved for it. -/
theorem C05_keys_roundtrip (c : List (Str × Attr)) (hnd : (c.map Prod.fst).Nodup) (hs : ∀ na ∈ c, '/' ∉ na.1)
    (name : Str) (a : Attr) (hmem : (name, a) ∈ c) : collLookup Cfg.fixed (collToDict c) name = some a := by
  rw [collLookup, collToDict, entriesOfName_flatMap c _ (fun x hx => firstComp_attrToDict x.1 [] x.2 (hs x hx) (by simp))
    hnd name a hmem]
  exact C05_keys_attr_roundtrip [name] a

/-- the element file (`prefix=None`) and every elemental variable
(`prefix=<name>`): for pairwise distinct element types without `'/'` — `tet` next to `tet2`, a variable whose
name contains a type name, … — the attribute loaded for type `t` is exactly the one saved for it. -/
theorem C05_keys_elements_roundtrip (pre : List Str) (e : EAttr) (hpre : pre.length ≤ 1) (hp : ∀ f ∈ pre, '/' ∉ f)
    (hnd : (e.map Prod.fst).Nodup) (hs : ∀ ta ∈ e, '/' ∉ ta.1) (t : Str) (a : Attr) (hmem : (t, a) ∈ e) :
    eattrLookup Cfg.fixed (eattrToDict pre e) t = some a := by
  unfold eattrLookup entriesOfType eattrToDict
  rw [filter_flatMap_name e (fun ta => attrToDict (pre ++ [ta.1]) ta.2) _ t
    (fun x hx en hen => by simp [Cfg.fixed, extractType_attrToDict pre x.1 x.2 hpre hp (hs x hx) en hen]) hnd a hmem]
  exact C05_keys_attr_roundtrip (pre ++ [t]) a

/-- a collection of elemental variables — first split by name,
then by element type. -/
theorem C05_keys_elemental_collection_roundtrip (c : List (Str × EAttr)) (hnd : (c.map Prod.fst).Nodup)
    (hs : ∀ ne ∈ c, '/' ∉ ne.1 ∧ (ne.2.map Prod.fst).Nodup ∧ ∀ ta ∈ ne.2, '/' ∉ ta.1)
    (name : Str) (e : EAttr) (hmem : (name, e) ∈ c) (t : Str) (a : Attr) (hta : (t, a) ∈ e) :
    ecollLookup Cfg.fixed (ecollToDict c) name t = some a := by
  have hlab : ∀ x ∈ c, ∀ en ∈ eattrToDict [x.1] x.2, firstComp en.1 = x.1 := by
    intro x hx en hen
    obtain ⟨ta, hta', hen⟩ := List.mem_flatMap.mp hen
    have hx' := hs x hx
    exact firstComp_attrToDict x.1 [ta.1] ta.2 hx'.1 (by simpa using hx'.2.2 ta hta') en hen
  have hx' := hs (name, e) hmem
  rw [ecollLookup, ecollToDict, entriesOfName_flatMap c _ hlab hnd name e hmem]
  exact C05_keys_elements_roundtrip [name] e (by simp) (by simpa using hx'.1) hx'.2.1 hx'.2.2 t a hta

def sTet : Str := ['t', 'e', 't']
def sTet2 : Str := ['t', 'e', 't', '2']
def sSolids : Str := ['s', 'o', 'l', 'i', 'd', 's']

/-- non-vacuity: an elemental variable called `hexa` on a mesh with `tet`, `tet2` and `hex` blocks -/
example : ecollLookup Cfg.fixed (ecollToDict [(['h', 'e', 'x', 'a'], [(sTet, ⟨1, 2, false⟩), (sTet2, ⟨3, 4, true⟩), (['h', 'e', 'x'], ⟨5, 6, false⟩)])])
    ['h', 'e', 'x', 'a'] sTet2 = some ⟨3, 4, true⟩ := by decide +kernel
/-- … and a nodal time series called `time_series` next to an ordinary variable called `series` -/
example : collLookup Cfg.fixed (collToDict [(sTs, ⟨1, 2, true⟩), (['s', 'e', 'r', 'i', 'e', 's'], ⟨3, 4, false⟩)]) sTs = some ⟨1, 2, true⟩ ∧
    collLookup Cfg.fixed (collToDict [(sTs, ⟨1, 2, true⟩), (['s', 'e', 'r', 'i', 'e', 's'], ⟨3, 4, false⟩)]) ['s', 'e', 'r', 'i', 'e', 's'] = some ⟨3, 4, false⟩ := by decide +kernel

/-- F6a: a mesh with `tet` and `tet2` blocks saves, but `tet` collects the four keys of both types and cannot be loaded -/
theorem C05_keys_counterexample_substring_type :
    eattrLookup Cfg.upstream (eattrToDict [] [(sTet, ⟨1, 2, false⟩), (sTet2, ⟨3, 4, false⟩)]) sTet = none ∧
    eattrLookup Cfg.fixed (eattrToDict [] [(sTet, ⟨1, 2, false⟩), (sTet2, ⟨3, 4, false⟩)]) sTet = some ⟨1, 2, false⟩ := by decide +kernel

/-- F6e: a variable called `solids` — both of its keys contain `ids` -/
theorem C05_keys_counterexample_ids_in_name :
    collLookup Cfg.upstream (collToDict [(sSolids, ⟨1, 2, false⟩)]) sSolids = none ∧
    collLookup Cfg.fixed (collToDict [(sSolids, ⟨1, 2, false⟩)]) sSolids = some ⟨1, 2, false⟩ := by decide +kernel

/-- F6d: the two-key scheme cannot tell a `(T, n, w)` time series from ordinary data.  In the order of the conjuncts:
written without the repair (`Cfg.twoKey` writes `attrToDict pre a.twoKey`) a series and an ordinary attribute with the same
arrays are the same two entries, so NO loader can tell them apart; these two entries are the three-key dict without its
`time_series` entry; they still load, with the repaired loader and with the two-key loader, as an attribute whose flag is
lost; the three-key dict is what carries the flag; the two-key loader rejects its three entries. -/
theorem C05_keys_counterexample_no_flag :
    attrToDict [sTs] (Attr.twoKey ⟨1, 2, true⟩) = attrToDict [sTs] (Attr.twoKey ⟨1, 2, false⟩) ∧
    dropTs (attrToDict [sTet] ⟨1, 2, true⟩) = attrToDict [sTet] (Attr.twoKey ⟨1, 2, true⟩) ∧
    attrFromDict Cfg.fixed (dropTs (attrToDict [sTet] ⟨1, 2, true⟩)) = some ⟨1, 2, false⟩ ∧
    attrFromDict Cfg.twoKey (attrToDict [sTet] (Attr.twoKey ⟨1, 2, true⟩)) = some ⟨1, 2, false⟩ ∧
    attrFromDict Cfg.fixed (attrToDict [sTet] ⟨1, 2, true⟩) = some ⟨1, 2, true⟩ ∧
    attrFromDict Cfg.twoKey (attrToDict [sTet] ⟨1, 2, true⟩) = none := by decide +kernel

end Femio.C05K
