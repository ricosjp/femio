import Femio.Model.SubMeshTables
import Femio.Lemmas.MeshioProps
/-! # C06 — legacy VTK export describes the same mesh

Model: `Femio/Model/Meshio.lean` (`FEMData.to_meshio`, the object handed to `meshio.write(..., 'vtk')`).
The file encoding itself is meshio's (the independent reader the property names) and is covered by the
correspondence run (real `write('vtk')` + `meshio.read` against `toMeshio`).
Tables (`elementTypes`, `femioToMeshio`, `meshioToFemio`, `tet2ToMeshio`, `tet2FromMeshio`) are regenerated from the
working tree; the theorems over them are re-checked by the kernel on every run. -/
namespace Femio.C06
open Core Femio.SubMesh Femio.Meshio Femio.Gen

variable {α : Type}

/-- **C06_index_translation**: whenever the export succeeds, the points are the node coordinates in storage order,
    there is one cell block per element-type block (same order) carrying that type's meshio name, one cell row per
    element (same order), and entry `l` of a row is a zero-based position `k` with `nodes.ids[k] = (VTK order of the
    element's connectivity)[l]` — so `points[row[l]]` is the coordinate row stored for that node id. -/
theorem C06_index_translation {typeName : Nat → Option (List Char)} {perm : List Nat} {m : VtkIn α} {o : Out α}
    (h : toMeshio typeName perm m = .ok o) :
    o.points = m.nodes.data ∧ o.cells.length = m.elems.length ∧
    ∀ j (hj : j < m.elems.length) (hj' : j < o.cells.length),
      BlockTranslated typeName perm m.nodes.ids m.elems[j] o.cells[j] := by
  unfold toMeshio at h
  split at h
  · cases h
  · rename_i cs hcs
    cases h
    obtain ⟨hl, hall⟩ := cellBlocks_ok hcs
    exact ⟨rfl, hl, fun j hj _ => cellBlock_ok (hall j hj)⟩

/-- well-formed input of the export: every block is non-empty and has a meshio name, every referenced node exists,
    `tet2` rows are long enough for the permutation -/
structure Exportable (typeName : Nat → Option (List Char)) (perm : List Nat) (m : VtkIn α) : Prop where
  nonempty : ∀ b ∈ m.elems, b ≠ []
  named : ∀ b ∈ m.elems, ∀ e0, b.head? = some e0 → (typeName e0.ty).isSome
  refs : ∀ e ∈ m.elems.flatten, ∀ n ∈ e.val, n ∈ m.nodes.ids
  arity : ∀ b ∈ m.elems, ∀ e0, b.head? = some e0 → e0.ty = 9 → ∀ e ∈ b, ∀ p ∈ perm, p < e.val.length

/-- **the export does not fail** on a well-formed mesh of exportable types (error branches of the model: empty block,
    unknown type -> `KeyError`, dangling node id -> `KeyError`, short `tet2` row -> `IndexError`) -/
theorem C06_export_succeeds {typeName : Nat → Option (List Char)} {perm : List Nat} {m : VtkIn α}
    (hx : Exportable typeName perm m) : ∃ o, toMeshio typeName perm m = .ok o := by
  have hb : ∀ b ∈ m.elems, ∃ c, cellBlock typeName perm m.nodes.ids b = .ok c := by
    intro b hbm
    cases b with
    | nil => exact absurd rfl (hx.nonempty [] hbm)
    | cons e0 t =>
      obtain ⟨rows, hrows⟩ : ∃ rows, gather (fun (e : Ent (List Id)) => vtkOrder perm e0.ty e.val) (e0 :: t) = some rows :=
        gather_isSome fun e he => by
          unfold vtkOrder
          split
          · rename_i h9
            exact Option.isSome_iff_exists.mpr (gather_isSome fun p hp => by
              simp [List.getElem?_eq_getElem (hx.arity _ hbm e0 rfl h9 e he p hp)])
          · rfl
      obtain ⟨idx, hidx⟩ : ∃ idx, gather (gather (idPos m.nodes.ids)) rows = some idx :=
        gather_isSome fun v hv => Option.isSome_iff_exists.mpr (gather_isSome fun n hn => by
          obtain ⟨e, he, hev⟩ := gather_mem hrows hv
          obtain ⟨k, hk⟩ := idPos_of_mem (hx.refs e (List.mem_flatten.mpr ⟨_, hbm, he⟩) n (vtkOrder_mem hev n hn))
          simp [hk])
      obtain ⟨nm, hnm⟩ := Option.isSome_iff_exists.mp (hx.named _ hbm e0 rfl)
      exact ⟨⟨e0.ty, nm, idx⟩, by simp only [cellBlock, hrows, hidx, hnm]⟩
  obtain ⟨cs, hcs⟩ := cellBlocks_succeeds hb
  refine ⟨⟨m.nodes.data, cs, (m.nodal.filter (·.rank < 3)).map fun v => (v.name, v.attr.data)⟩, ?_⟩
  simp only [toMeshio, hcs]

/-- **C06_point_data**: every nodal variable of rank ≤ 2 is exported under its name, and when the variable is stored in
    the mesh's node order (distinct node ids) row `k` of the exported array is the variable's value at the node
    stored at position `k`. -/
theorem C06_point_data {typeName : Nat → Option (List Char)} {perm : List Nat} {m : VtkIn α} {o : Out α}
    (h : toMeshio typeName perm m = .ok o) (hn : m.nodes.ids.Nodup) :
    ∀ v ∈ m.nodal, v.rank < 3 → ∃ rows, (v.name, rows) ∈ o.pointData ∧
      (v.attr.ids = m.nodes.ids → ∀ k (hk : k < m.nodes.ids.length), rows[k]? = v.attr.lookup m.nodes.ids[k]) := by
  unfold toMeshio at h
  split at h
  · cases h
  · cases h
    intro v hv hr
    refine ⟨v.attr.data, List.mem_map.mpr ⟨v, List.mem_filter.mpr ⟨hv, by simpa using hr⟩, rfl⟩, fun hal k hk => ?_⟩
    simp [Attr.lookup, hal, idPos_get hn k hk]

/-- hand specification (`vtkCellType.h`, via meshio's `meshio_to_vtk_type`): VTK cell-type number of a meshio cell name -/
def vtkCellType (name : List Char) : Option Nat :=
  if name = "line".toList then some 3 else if name = "triangle".toList then some 5
  else if name = "quad".toList then some 9 else if name = "tetra".toList then some 10
  else if name = "tetra10".toList then some 24 else if name = "pyramid".toList then some 14
  else if name = "wedge".toList then some 13 else if name = "hexahedron".toList then some 12 else none

/-- the eight element types of the property as indices into `ELEMENT_TYPES`, with the VTK cell type of that shape
    (hand specification): line, tri, quad, tet, tet2 (quadratic tetra), pyr, prism (wedge), hex -/
def namedTypes : List (Nat × Nat) := [(0, 3), (3, 5), (5, 9), (8, 10), (9, 24), (10, 14), (12, 13), (14, 12)]

/-- **C06_type_table**: on the eight named types `DICT_FEMIO_ELEMENT_TO_MESHIO_ELEMENT` yields a meshio cell whose VTK
    cell-type number is that of the element's shape, the eight meshio names are pairwise distinct (injectivity), and
    `DICT_MESHIO_ELEMENT_TO_FEMIO_ELEMENT` maps each back to the femio type name. -/
theorem C06_type_table :
    (namedTypes.all fun (t, vtk) => (meshioName t).bind vtkCellType == some vtk) = true ∧
    (namedTypes.map fun (t, _) => meshioName t).Nodup ∧
    (namedTypes.all fun (t, _) => (meshioName t).bind (lookupName · meshioToFemio) == elementTypes[t]?) = true := by
  refine ⟨by decide +kernel, by decide +kernel, by decide +kernel⟩

/-- **C06_tet2_perms_inverse**: on every row of ten entries (any entry type) the reordering applied on export
    (`_to_meshio_tet2`) followed by the one applied on import (`_from_meshio_tet2`) is the identity, and the other way
    round. -/
theorem C06_tet2_perms_inverse {β : Type} (l : List β) (hl : l.length = 10) :
    (permute tet2ToMeshio l).bind (permute tet2FromMeshio) = some l ∧
    (permute tet2FromMeshio l).bind (permute tet2ToMeshio) = some l := by
  match l, hl with
  | [a0, a1, a2, a3, a4, a5, a6, a7, a8, a9], _ => exact ⟨rfl, rfl⟩

/-- hand specification: FrontISTR element 342 / femio `tet2` — position `4 + j` holds the mid node of edge `j` -/
def fistrTet2Edges : List (Nat × Nat) := [(1, 2), (0, 2), (0, 1), (0, 3), (1, 3), (2, 3)]
/-- hand specification: `vtkQuadraticTetra` — position `4 + k` holds the mid node of edge `k` (ends ascending) -/
def vtkTet2Edges : List (Nat × Nat) := [(0, 1), (1, 2), (0, 2), (0, 3), (1, 3), (2, 3)]

/-- **C06_tet2_edges**: the export permutation keeps the four corners in place and puts at VTK position `4 + k` the femio
    mid-edge node of the same edge (FrontISTR's mid-edge table is carried to VTK's). -/
theorem C06_tet2_edges :
    tet2ToMeshio.take 4 = [0, 1, 2, 3] ∧ tet2ToMeshio.length = 10 ∧
    ((List.range 6).all fun k =>
      match tet2ToMeshio[4 + k]? with
      | some p => decide (4 ≤ p) && (fistrTet2Edges[p - 4]? == vtkTet2Edges[k]?)
      | none => false) = true := by
  refine ⟨by decide +kernel, by decide +kernel, by decide +kernel⟩

def exVtk : VtkIn Nat :=
  { nodes := ⟨[40, 10, 30, 20, 34, 12, 23, 13, 14, 24, 77], [4, 1, 3, 2, 34, 12, 23, 13, 14, 24, 77]⟩
    elems := [[⟨5, 3, [30, 10, 20]⟩], [⟨9, 9, [10, 20, 30, 40, 23, 13, 12, 14, 24, 34]⟩]]
    nodal := [⟨0, 1, ⟨[40, 10, 30, 20, 34, 12, 23, 13, 14, 24, 77], [400, 100, 300, 200, 340, 120, 230, 130, 140, 240, 770]⟩⟩,
              ⟨1, 3, ⟨[40, 10, 30, 20, 34, 12, 23, 13, 14, 24, 77], [0, 0, 0, 0, 0, 0, 0, 0, 0, 0, 0]⟩⟩] }

example : Exportable meshioName tet2ToMeshio exVtk := ⟨by decide +kernel, by decide +kernel, by decide +kernel, by decide +kernel⟩
example : exVtk.nodes.ids.Nodup := by decide +kernel
-- the triangle addresses positions 2, 1, 3; the tet2 row is permuted (mid nodes 12, 23, 13 = edges 01, 12, 02) and translated;
-- the rank-3 variable is not exported
example : (toMeshio meshioName tet2ToMeshio exVtk).toOption.map (fun o => o.cells.map (fun c => (c.name, c.rows))) =
    some [("triangle".toList, [[2, 1, 3]]), ("tetra10".toList, [[1, 3, 2, 0, 5, 6, 7, 8, 9, 4]])] := by decide +kernel
example : (toMeshio meshioName tet2ToMeshio exVtk).toOption.map (fun o => (o.points, o.pointData)) =
    some ([4, 1, 3, 2, 34, 12, 23, 13, 14, 24, 77], [(0, [400, 100, 300, 200, 340, 120, 230, 130, 140, 240, 770])]) := by decide +kernel
-- error branch: a dangling node id is a `KeyError`, never a silently wrong position
example : toMeshio meshioName tet2ToMeshio ({ exVtk with elems := [[⟨5, 3, [30, 10, 21]⟩]] } : VtkIn Nat) = .error .key := by decide +kernel
example : (permute tet2ToMeshio [10, 20, 30, 40, 23, 13, 12, 14, 24, 34]) = some [10, 20, 30, 40, 12, 23, 13, 14, 24, 34] := by decide +kernel

/-! ## histories on one live object (`Model/MeshioHist.lean`): the export is a function of the CURRENT public state

The real export translates node ids with the cached table `nodes.id2index`, not with `nodes.ids`.  `Coherent` (the table is
`enumerate(nodes.ids)`) is evaluated by the harness on the live object before every export of the `history` stream; the
theorems say that every public modifier keeps it, that under it the export of the live object is `toMeshio` of its public
state (so `C06_index_translation`, `C06_point_data`, `C06_export_succeeds` apply to it), hence equals the export of a freshly
constructed object with the same content, and that exports in the middle of a history are invisible. -/

open Femio.MeshioHist

/-- **C06_history_export**: when the table is coherent the export of the live object is `toMeshio` of its current public
    state — whatever history produced that state. -/
theorem C06_history_export {typeName : Nat → Option (List Char)} {perm : List Nat} {o : Obj α} (h : Coherent o) :
    exportObj typeName perm o = toMeshio typeName perm o.pub := by
  unfold exportObj toMeshio
  rw [h, tableLookup_mkTable, cellBlocksWith_idPos]
  rfl

/-- **C06_history_coherent**: every public modifier re-establishes / keeps the table — for the repaired `ids` setter all
    histories, for the upstream one the histories that do not use it. -/
theorem C06_history_coherent {cfg : Cfg} (ops : List (Op α)) {o : Obj α}
    (hc : cfg.idsSetterRefreshes = true ∨ ∀ op ∈ ops, op.isSetNodeIds = false) (h : Coherent o) :
    Coherent (run cfg o ops) := by
  induction ops generalizing o with
  | nil => exact h
  | cons op t ih =>
    have h1 : Coherent (step cfg o op) :=
      step_coherent op (hc.imp id fun hall => hall op (by simp)) h
    exact ih (hc.imp id fun hall op' hop' => hall op' (List.mem_cons_of_mem _ hop')) h1

/-- **C06_export_after_history**: after ANY history of public modifications (and exports) on a freshly constructed object the
    export is `toMeshio` of the object's current public state, which is also what an independently constructed fresh object
    with the same content exports. -/
theorem C06_export_after_history {typeName : Nat → Option (List Char)} {perm : List Nat} {cfg : Cfg} (m : VtkIn α)
    (ops : List (Op α)) (hc : cfg.idsSetterRefreshes = true ∨ ∀ op ∈ ops, op.isSetNodeIds = false) :
    exportObj typeName perm (run cfg (fresh m) ops) = toMeshio typeName perm (run cfg (fresh m) ops).pub ∧
    exportObj typeName perm (run cfg (fresh m) ops) = exportObj typeName perm (fresh (run cfg (fresh m) ops).pub) := by
  have h1 := C06_history_export (typeName := typeName) (perm := perm) (C06_history_coherent ops hc (o := fresh m) rfl)
  have h2 := C06_history_export (typeName := typeName) (perm := perm) (o := fresh (run cfg (fresh m) ops).pub) rfl
  exact ⟨h1, h1.trans h2.symm⟩

/-- **C06_exports_invisible**: exports in the middle of a history do not change the object — removing them from the history
    gives the same final object (so the second of two exports writes what the first wrote, and an export after
    `[export, modification]` writes what it writes after `[modification]`). -/
theorem C06_exports_invisible {cfg : Cfg} (ops : List (Op α)) (o : Obj α) :
    run cfg o (ops.filter fun op => !op.isExport) = run cfg o ops := by
  induction ops generalizing o with
  | nil => rfl
  | cons op t ih =>
    -- an export step is dropped by the filter and leaves the object as it is; every other step is kept
    cases op <;> exact ih _

/-- a four-node mesh with one triangle (ids 1..4 stored ascending) -/
def exHist : VtkIn Nat := { nodes := ⟨[1, 2, 3, 4], [10, 20, 30, 40]⟩, elems := [[⟨1, 3, [1, 2, 3]⟩]], nodal := [] }

/-- the history of finding `C06-ids-setter-stale-id2index`: the nodes are renumbered 4, 3, 2, 1 through the `ids` setter and
    the triangle is rewritten accordingly (the same three nodes) -/
def exRenumber : List (Op Nat) := [.setNodeIds [4, 3, 2, 1], .editElems fun _ => [[⟨1, 3, [4, 3, 2]⟩]]]

/-- **C06_ids_setter_counterexample**: with the upstream `ids` setter the export after that history addresses the positions
    of the OLD ids (`[3, 2, 1]`), whereas the mesh the object describes (and the repaired configuration) has the triangle on
    positions `[0, 1, 2]`. -/
theorem C06_ids_setter_counterexample :
    (exportObj meshioName tet2ToMeshio (run Cfg.upstream (fresh exHist) exRenumber)).toOption.map (fun o => o.cells.map (·.rows))
      = some [[[3, 2, 1]]] ∧
    (toMeshio meshioName tet2ToMeshio (run Cfg.upstream (fresh exHist) exRenumber).pub).toOption.map (fun o => o.cells.map (·.rows))
      = some [[[0, 1, 2]]] ∧
    (exportObj meshioName tet2ToMeshio (run Cfg.fixed (fresh exHist) exRenumber)).toOption.map (fun o => o.cells.map (·.rows))
      = some [[[0, 1, 2]]] := by
  refine ⟨by decide +kernel, by decide +kernel, by decide +kernel⟩

-- non-vacuity: a history with every kind of step on the mixed example mesh; the hypothesis of `C06_export_after_history`
-- holds for it under both configurations when the `ids` setter is not used, and the export is the one of the final state
def exOps : List (Op Nat) :=
  [.doExport, .editNodeData (fun d => d.map (· + 1)), .doExport, .doExport,
   .setNodeFrame [10, 12, 13, 14, 20, 23, 24, 30, 34, 40, 77] [1, 12, 13, 14, 2, 23, 24, 3, 34, 4, 77],
   .editElems (fun bs => bs.reverse), .editNodal (fun vs => vs.take 1), .doExport]
example : ∀ op ∈ exOps, op.isSetNodeIds = false := by decide +kernel
example : (exportObj meshioName tet2ToMeshio (run Cfg.upstream (fresh exVtk) exOps)).toOption.map
      (fun o => (o.points, o.cells.map (fun c => (c.name, c.rows)))) =
    some ([1, 12, 13, 14, 2, 23, 24, 3, 34, 4, 77],
          [("tetra10".toList, [[0, 4, 7, 9, 1, 5, 2, 3, 6, 8]]), ("triangle".toList, [[7, 0, 4]])]) := by decide +kernel
example : Coherent (run Cfg.upstream (fresh exVtk) exOps) := by unfold Coherent; decide +kernel

end Femio.C06
