import Femio.Model.WritePaths

/-! C07 — `write()` never changes an existing file unless `overwrite=True`.

`Cfg.fixed` is the configuration the working tree must implement (the
correspondence run determines which `Cfg` the tree implements); the `…_counterexample`s show that
the property is false of the other configurations. -/
namespace Femio.C07

/-- every `create p` / `remove p` in the list is preceded by a `checkAbsent p`; `checked` collects the paths the
`checkAbsent`s passed so far have tested -/
def Guarded : List Action → List Path → Prop
  | [], _ => True
  | .checkAbsent p :: t, checked => Guarded t (p :: checked)
  | .create p _ :: t, checked => p ∈ checked ∧ Guarded t checked
  | .remove p :: t, checked => p ∈ checked ∧ Guarded t checked

/-- A guarded plan never changes a file that existed.  `fs0` is the file system before the call and stays fixed, `fs` the
one the remaining actions run on: `fs` still holds every file of `fs0`, and every path in `checked` was absent in `fs0`. -/
theorem exec_preserves (acts : List Action) (checked : List Path) (fs0 fs : FS)
    (hg : Guarded acts checked)
    (hpres : ∀ p c, fs0 p = some c → fs p = some c)
    (hchk : ∀ p ∈ checked, fs0 p = none) :
    ∀ p c, fs0 p = some c → (exec fs acts).2 p = some c := by
  induction acts generalizing checked fs with
  | nil => exact hpres
  | cons a t ih =>
    -- writing to a path that was checked absent keeps what existed
    have upd : ∀ q x, q ∈ checked → ∀ p c, fs0 p = some c → (if p = q then x else fs p) = some c := by
      intro q x hq p c hp
      have hpq : p ≠ q := fun e => by rw [e, hchk q hq] at hp; cases hp
      rw [if_neg hpq]
      exact hpres p c hp
    cases a with
    | checkAbsent q =>
      simp only [exec]
      split
      · exact hpres
      · rename_i hq
        apply ih (q :: checked) fs hg hpres
        intro p hp
        rcases List.mem_cons.mp hp with h | h
        · subst h
          cases h0 : fs0 p with
          | none => rfl
          | some c => rw [hpres p c h0] at hq; simp at hq
        · exact hchk p h
    | create q c0 => exact ih checked _ hg.2 (upd q _ hg.1) hchk
    | remove q => exact ih checked _ hg.2 (upd q _ hg.1) hchk

/-- every format but FrontISTR: the final name is checked, then created, and nothing else happens -/
theorem plan_fixed_single (ctrl : Path) (f : Fmt) (name : Path) (mshOnly : Bool) (content : Path → Nat) (hf : f ≠ .fistr) :
    plan Cfg.fixed ctrl f name false mshOnly content =
      [.checkAbsent (finalName f name), .create (finalName f name) (content (finalName f name))] := by
  cases f <;> simp_all [plan, Cfg.fixed]

theorem plan_guarded (ctrl : Path) (f : Fmt) (name : Path) (mshOnly : Bool) (content : Path → Nat) :
    Guarded (plan Cfg.fixed ctrl f name false mshOnly content) [] := by
  by_cases hf : f = .fistr
  · subst hf; cases mshOnly <;> simp [plan, Guarded]
  · rw [plan_fixed_single ctrl f name mshOnly content hf]
    exact ⟨List.mem_cons_self, trivial⟩

/-- For every format, every spelling of the name, every file system and whether or
not the call raises: whatever existed before a `write(..., overwrite=False)` is unchanged after it. -/
theorem C07_no_clobber (ctrl : Path) (f : Fmt) (name : Path) (mshOnly : Bool) (content : Path → Nat) (fs : FS) :
    ∀ p c, fs p = some c → (exec fs (plan Cfg.fixed ctrl f name false mshOnly content)).2 p = some c :=
  exec_preserves _ [] fs fs (plan_guarded ctrl f name mshOnly content) (fun _ _ h => h) (by simp)

/-- Hence every path whose content differs after the call was absent before. -/
theorem C07_only_new_files (ctrl : Path) (f : Fmt) (name : Path) (mshOnly : Bool) (content : Path → Nat) (fs : FS)
    (p : Path) (h : (exec fs (plan Cfg.fixed ctrl f name false mshOnly content)).2 p ≠ fs p) : fs p = none := by
  cases hp : fs p with
  | none => rfl
  | some c => exact absurd (by rw [C07_no_clobber ctrl f name mshOnly content fs p c hp, hp]) h

/-- The file finally opened is the same for `stem` and `stem.ext`
(for a stem not itself ending in the extension letters the first spelling gets the extension appended). -/
theorem C07_spelling_independent (f : Fmt) (e : List Char) (stem : Path) (he : ext f = some e)
    (hs : ¬ e.isSuffixOf stem) :
    finalName f stem = finalName f (stem ++ '.' :: e) := by
  have h2 : e.isSuffixOf (stem ++ '.' :: e) = true := by
    rw [List.isSuffixOf_iff_suffix]
    exact ⟨stem ++ ['.'], by simp⟩
  simp [finalName, he, addExt, hs, h2]

/-- the final name is what the pre-check looks at, in every configuration of formats -/
theorem C07_final_name_checked (ctrl : Path) (f : Fmt) (name : Path) (content : Path → Nat) (hf : f ≠ .fistr) :
    plan Cfg.fixed ctrl f name false false content =
      [.checkAbsent (finalName f name), .create (finalName f name) (content (finalName f name))] :=
  plan_fixed_single ctrl f name false content hf

/-- non-vacuity: a file system with an existing file, a call that raises, a call that succeeds -/
example :
    let fs : FS := fun p => if p = ['m','.','i','n','p'] then some 1 else none
    (exec fs (plan Cfg.fixed ['c'] .ucd ['m'] false false (fun _ => 2))).1 = true ∧
    (exec fs (plan Cfg.fixed ['c'] .obj ['m'] false false (fun _ => 2))).1 = false ∧
    (exec fs (plan Cfg.fixed ['c'] .obj ['m'] false false (fun _ => 2))).2 ['m','.','o','b','j'] = some 2 := by
  decide +kernel

/-- F1: with the pre-check on the name as typed (upstream), a bare stem clobbers
`mesh.inp`. -/
theorem C07_counterexample_upstream :
    let fs : FS := fun p => if p = ['m','e','s','h','.','i','n','p'] then some 1 else none
    (exec fs (plan ⟨false, false⟩ ['c'] .ucd ['m','e','s','h'] false false (fun _ => 2))).2
      ['m','e','s','h','.','i','n','p'] = some 2 := by
  decide +kernel

/-- F15: the in-place rewrite of the VTP writer destroys an existing `<target>.bak`. -/
theorem C07_counterexample_vtp_backup :
    let fs : FS := fun p => if p = ['m','.','v','t','p','.','b','a','k'] then some 1 else none
    (exec fs (plan ⟨true, true⟩ ['c'] .vtp ['m'] false false (fun _ => 2))).2
      ['m','.','v','t','p','.','b','a','k'] = none := by
  decide +kernel

end Femio.C07
