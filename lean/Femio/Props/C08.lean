import Femio.Lemmas.AttrLayoutProps
import Femio.Lemmas.AttrHist
import Femio.Lemmas.CoreProps

/-! C08 — an attribute is one id-keyed table whichever way it is accessed.

`Attr.State` models a `FEMAttribute`: `ids`, the positional `_data`, the id-keyed `_data_frame` and the
optional `id2index`; `Attr.step cfg` one public update.  The theorems are about `Cfg.fixed` (write-through of
a slice refreshes the parent's positional data, `overwrite` goes through the data setter, `id2index` follows
the frame); the correspondence run determines which `Cfg` the working tree implements. -/
namespace Femio.C08
open Attr Core

/-- a freshly constructed attribute satisfies the invariant -/
theorem C08_inv_init (ids : List Nat) (rows : List Row) (b : Bool) (s : State) (h : mk ids rows b = .ok s) : AInv s :=
  inv_mk ids rows b s h

/-- every public update (assigning data, update with overwrite, the failing append-update,
writing through a `.loc` / `.iloc` slice, `overwrite` with and without ids) preserves the invariant
"positional table = id-keyed table, id→position map = enumeration of the ids". -/
theorem C08_inv (s : State) (op : Op) (h : AInv s) : AInv (step Cfg.fixed s op) := inv_step_fixed s op h

/-- the invariant holds after any finite sequence of public updates -/
theorem C08_reachable (s : State) (ops : List Op) (h : AInv s) : AInv (ops.foldl (step Cfg.fixed) s) :=
  inv_reachable_fixed s ops h

/-- under the invariant, for distinct ids, every id-keyed read path returns the row the
positional view holds at the position of that id: `.loc[id]`, `.iloc[k]`, `[id]` and `ids2indices`. -/
theorem C08_views_agree (s : State) (h : AInv s) (hn : s.ids.Nodup) (k : Nat) (hk : k < s.ids.length) :
    locView s s.ids[k] = dataView s k ∧ ilocView s k = dataView s k ∧
    (∀ m, s.id2index = some m → ids2indices s s.ids[k] = some k) := by
  refine ⟨?_, ?_, fun m hm => ?_⟩
  · rw [locView_eq_posOf s h, posOf_get hn k hk]; rfl
  · unfold ilocView dataView; rw [h.1]
  · rw [ids2indices_eq_posOf s h m hm, posOf_get hn k hk]

/-- `filter_with_ids(sel)` returns, for every selected id, the row stored at that id's position -/
theorem C08_filter_with_ids (s : State) (h : AInv s) (hn : s.ids.Nodup) (ks : List Nat)
    (hks : ∀ k ∈ ks, k < s.ids.length) :
    filterWithIds s (ks.filterMap fun k => s.ids[k]?) = ks.mapM (dataView s) := by
  unfold filterWithIds
  induction ks with
  | nil => rfl
  | cons k t ih =>
    have hk : k < s.ids.length := hks k List.mem_cons_self
    rw [List.filterMap_cons_some (List.getElem?_eq_getElem hk), List.mapM_cons, List.mapM_cons,
      (C08_views_agree s h hn k hk).1, ih fun k hk' => hks k (List.mem_cons_of_mem _ hk')]

/-- `update(ids', rows, allow_overwrite=True)` on a consistent attribute with distinct ids.
Afterwards, looked up by id: an id that was present and is updated holds the new row cell-wise where the new cell
is not NaN and the old cell otherwise (the pandas `combine_first` rule); an id that was present and is not
updated keeps its row; a new id holds the new row; no other id appears.  The ids stay distinct, and (unless the
update names exactly the stored ids in stored order) they are in ascending order. -/
theorem C08_update_spec (cfg : Cfg) (s t : State) (ids' : List Nat) (rows : List Row)
    (h : updateOverwrite cfg s ids' rows = .ok t) (hinv : AInv s) (hn : s.ids.Nodup) (hn' : ids'.Nodup) :
    (∀ i, locView t i =
      match lookupRow s.ids s.frame i, lookupRow ids' rows i with
      | some r, some n => some (combineRow n r)
      | some r, none => some r
      | none, some n => some n
      | none, none => none) ∧
    t.ids.Nodup ∧ (ids' ≠ s.ids → t.ids.Pairwise (· ≤ ·)) ∧ (∀ i, i ∈ t.ids ↔ i ∈ s.ids ∨ i ∈ ids') := by
  have hlen := hinv.2.1
  unfold updateOverwrite at h
  by_cases hl : ids'.length ≠ rows.length
  · rw [if_pos hl] at h; cases h
  · rw [if_neg hl] at h
    have hl' : ids'.length = rows.length := not_not.mp hl
    have hnd := merged_keys_nodup s.ids s.frame ids' rows hlen hl' hn hn'
    have hmem := mem_merged_keys s.ids s.frame ids' rows hlen hl'
    have hlook := assocLookup_merged s.ids s.frame ids' rows hlen
    cases h
    simp only [locView, assocLookup_unzip]
    by_cases hsame : ids' = s.ids
    · simp only [if_pos hsame]
      exact ⟨hlook, hnd, fun h => absurd hsame h, hmem⟩
    · simp only [if_neg hsame]
      have hp := sortById_perm (merged s.ids s.frame ids' rows)
      exact ⟨fun i => (assocLookup_perm hp ((hp.map _).nodup_iff.mpr hnd) i).trans (hlook i), (hp.map _).nodup_iff.mpr hnd,
        fun _ => sortById_sorted _, fun i => ((hp.map _).mem_iff).trans (hmem i)⟩

/-- non-vacuity: unsorted ids, one updated id with a NaN cell, one new id -/
example : (updateOverwrite Cfg.fixed s0 [9, 4] [[none], [some 7]]).map (fun t => (t.ids, t.frame))
    = .ok ([3, 4, 5, 9], [[some 3], [some 7], [some 1], [some 5]]) := by decide +kernel

/-- in a history in which the caller keeps slices (`a.loc[…]`, `a.iloc[…]`), arrays returned by
`.data` and the `data_frame` alive across later updates, every step — a public update of the attribute, taking or
dropping a slice, keeping a reference, assigning to / updating a slice taken EARLIER (write-through to the parent as
it is now) — preserves "the attribute and every slice still held are consistent tables". -/
theorem C08_hist_inv (h : Hist) (op : HOp) (hi : HInv h) : HInv (hstep Cfg.fixed h op) := by
  unfold hstep
  cases op with
  | pub op =>
    simp only [hstepE]
    cases hs : stepE Cfg.fixed h.cur op with
    | error e => exact hi
    | ok t =>
      have ht := inv_of_stepE hi.1 hs
      -- `overwrite(name, data, ids=…)` drops the slices held; every other update keeps them
      cases op with
      | overwriteIds _ _ => exact ⟨ht, fun c hc => nomatch hc⟩
      | _ => exact ⟨ht, hi.2⟩
  | keepRef => exact hi
  | take sel => exact hi.push _ (inv_take h.cur · sel) _
  | takeI pos => exact hi.push _ (inv_takeI h.cur · pos) _
  | takeI1 k => exact hi.push _ (inv_takeI h.cur · [k]) _
  | takeView pos => exact hi.push _ (inv_takeI h.cur · pos) _
  | heldSet k v => exact inv_heldApply h k _ (fun _ _ hc hcc => inv_setData hc hcc) hi
  | heldUpdate k i r => exact inv_heldApply h k _ (fun _ _ _ hcc => inv_updateOverwrite_fixed hcc) hi
  | drop k => exact ⟨hi.1, fun x hx => hi.2 x ((List.eraseIdx_sublist _ _).subset hx)⟩

/-- `HInv` holds after any finite interleaving of parent and slice writes -/
theorem C08_hist_reachable (h : Hist) (ops : List HOp) (hi : HInv h) : HInv (ops.foldl (hstep Cfg.fixed) h) :=
  List.foldlRecOn ops _ hi fun h hh op _ => C08_hist_inv h op hh

/-- keeping what a read path returned is not an update. -/
theorem C08_keepRef_noop (cfg : Cfg) (h : Hist) : (hstep cfg h .keepRef).cur = h.cur ∧ (hstep cfg h .keepRef).held = h.held :=
  ⟨rfl, rfl⟩

/-- a successful write through an id-selected slice (distinct selected ids) keeps the
ids and their order; looked up by id afterwards, a selected id holds the row written for it and every other id
keeps its row.  (`locWrite` is what `_update_parent` does; the parent `p` is the parent at the time of the WRITE.) -/
theorem C08_write_through_by_id (p t : State) (sel : List Nat) (v : List Row)
    (h : locWrite Cfg.fixed p sel v = .ok t) (hinv : AInv p) (hn : sel.Nodup) :
    t.ids = p.ids ∧ ∀ i, locView t i = match lookupRow sel v i with
      | some r => some r
      | none => locView p i := by
  obtain ⟨hsub, hl, rfl⟩ := locWrite_eq_ok.mp h
  refine ⟨rfl, fun i => ?_⟩
  unfold locView
  rw [lookupRow_foldl_setRow p.ids (sel.zip v) p.frame (by rwa [zip_keys sel v hl]) i, ← lookupRow_zip]
  cases hs : lookupRow sel v i with
  | none => rfl
  | some r =>
    have hi : i ∈ sel := (lookupRow_isSome sel v hl i).mp (by rw [hs]; rfl)
    obtain ⟨q, hq⟩ := Option.isSome_iff_exists.mp ((lookupRow_isSome p.ids p.frame hinv.2.1 i).mpr (hsub i hi))
    simp [hq]

/-- a slice taken earlier and kept while the parent was updated (rows inserted in front,
re-sorted, overwritten …) still writes BY ID: whatever the current parent `h.cur` looks like, after
`held[k].data = v` the ids of the slice hold the new rows in the parent, every other id keeps its row, the slice
itself holds the new rows, and the parent keeps its ids. -/
theorem C08_held_write_by_id (h : Hist) (k : Nat) (c : State) (v : List Row) (hi : HInv h)
    (hk : h.held[k]? = some c) (hn : c.ids.Nodup) (hl : c.ids.length = v.length) (hsub : ∀ i ∈ c.ids, i ∈ h.cur.ids) :
    ∃ p', hstepE Cfg.fixed h (.heldSet k v) =
        (none, { h with cur := p', held := h.held.set k { c with frame := v, data := v }, vws := h.vws.set k none }) ∧
      p'.ids = h.cur.ids ∧
      (∀ i, locView p' i = match lookupRow c.ids v i with | some r => some r | none => locView h.cur i) := by
  have hw := (locWrite_eq_ok (cfg := Cfg.fixed) (s := h.cur)).mpr ⟨hsub, hl, rfl⟩
  refine ⟨_, ?_, C08_write_through_by_id _ _ _ _ hw hi.1 hn⟩
  -- the slice's own setter succeeds by `hl`, the write-back is `hw`, and `Cfg.fixed` refreshes no alias
  simp only [hstepE, heldApply, hk, setData, hl, ne_eq, not_true_eq_false, if_false, writeBack, hw, refreshAliases_fixed]

/-- non-vacuity (the history of seeded change C08-5): slice `[30]` taken, then an update inserts id 5 in front of the
parent's rows, then the slice is assigned — id 30 holds the new row, id 20 (now at the slice's old position) keeps its own -/
example : let h0 : Hist := ⟨⟨[10, 20, 30, 40], [[some 1], [some 2], [some 3], [some 4]], [[some 1], [some 2], [some 3], [some 4]],
      some (enumIds [10, 20, 30, 40])⟩, [], 0, []⟩
    let h := [HOp.take [30], .keepRef, .pub (.update [5] [[some 0]] true), .heldSet 0 [[some (-7)]]].foldl (hstep Cfg.fixed) h0
    (h.cur.ids, h.cur.data, h.cur.frame == h.cur.data, h.held.map (·.frame)) =
      ([5, 10, 20, 30, 40], [[some 0], [some 1], [some 2], [some (-7)], [some 4]], true, [[[some (-7)]]]) := by decide +kernel

/-- `FEMAttributes.filter_with_ids(sel)` / `extract_dict(sel)` on a collection of consistent
attributes — each with its OWN ids in its OWN order — returns for every attribute and every selected id the positional
row stored at the position that id has in THAT attribute (never at the position it has in another attribute). -/
theorem C08_collection_filter (c : List State) (sel : List Nat) (hinv : ∀ s ∈ c, AInv s) :
    collFilter c sel = c.mapM fun s => sel.mapM fun i => (posOf s.ids i).bind (dataView s) := by
  unfold collFilter
  induction c with
  | nil => rfl
  | cons s t ih =>
    have hs : filterWithIds s sel = sel.mapM fun i => (posOf s.ids i).bind (dataView s) := by
      unfold filterWithIds
      congr 1
      funext i
      exact locView_eq_posOf s (hinv s (by simp)) i
    rw [List.mapM_cons, List.mapM_cons, hs, ih (fun u hu => hinv u (by simp [hu]))]

/-- non-vacuity (the collection of seeded change C08-6): two attributes over the same six ids stored in different
orders, filtered by `[2, 5, 6]` -/
example : collFilter [⟨[1, 2, 3, 4, 5, 6], [[some 10], [some 20], [some 30], [some 40], [some 50], [some 60]],
      [[some 10], [some 20], [some 30], [some 40], [some 50], [some 60]], none⟩,
    ⟨[4, 6, 2, 1, 5, 3], [[some 400], [some 600], [some 200], [some 100], [some 500], [some 300]],
      [[some 400], [some 600], [some 200], [some 100], [some 500], [some 300]], none⟩] [2, 5, 6]
    = some [[[some 20], [some 50], [some 60]], [[some 200], [some 500], [some 600]]] := by decide +kernel

/-- `set_attribute_data` creates a consistent attribute over the ids of the first
attribute of the collection, in that attribute's order. -/
theorem C08_collection_set_attribute (s a : State) (t : List State) (v : List Row)
    (h : collSetAttr (s :: t) v = .ok a) : a.ids = s.ids ∧ a.data = v ∧ AInv a := by
  unfold collSetAttr at h
  simp only at h
  split at h
  · cases h
  · have hi := inv_mk s.ids v false a h
    unfold mk at h
    split at h
    · cases h
    · cases h; exact ⟨rfl, rfl, hi⟩

/-! ### mixed-type element collections (`FEMElementalAttribute._update_self`) -/

/-- for type blocks with pairwise distinct element ids, the flattened collection
(a) lists every element of every block exactly once (it is a permutation of the concatenation),
(b) when there are several blocks, is strictly ascending in id,
(c) has an id→position map consistent with it: the element at position `k` is found at `k` by its id,
so type and connectivity read at the position of an id are those of the block row that owns the id. -/
theorem C08_mixed_once_sorted (blocks : List (List Elem)) (he : (blocks.flatten.map Elem.id).Nodup) :
    (flatten blocks).Perm blocks.flatten ∧
    (blocks.length ≠ 1 → (flatten blocks).Pairwise (fun a b => a.id < b.id)) ∧
    (∀ k (hk : k < (flatten blocks).length), elemPos (flatten blocks) ((flatten blocks)[k]).id = some k) := by
  have hperm := flatten_perm blocks
  have hnd : ((flatten blocks).map Elem.id).Nodup := (hperm.map Elem.id).nodup_iff.mpr he
  refine ⟨hperm, ?_, elemPos_get hnd⟩
  · intro hne
    have hsorted : (flatten blocks).Pairwise (fun a b => a.id ≤ b.id) := by
      unfold flatten
      split
      · simp at hne
      · exact sortElems_sorted _
    have hne' : (flatten blocks).Pairwise (fun a b => a.id ≠ b.id) := by
      rw [List.Nodup, List.pairwise_map] at hnd; exact hnd
    exact (hsorted.and hne').imp (fun h => Nat.lt_of_le_of_ne h.1 h.2)

/-- non-vacuity: a mixed collection stored in type order with interleaved ids -/
example : (flatten [[⟨7, 8, [1, 2, 3, 4]⟩, ⟨2, 8, [2, 3, 4, 5]⟩], [⟨5, 14, [1, 2, 3, 4, 5, 6, 7, 8]⟩]]).map Elem.id = [2, 5, 7] := by
  decide +kernel

/-- non-vacuity of the invariant: a concrete history over unsorted ids ends in a consistent state -/
example : InvB ([Op.locWrite [3, 9] [[some 30], [some 50]], Op.update [1, 3] [[some 0], [none]] true,
    Op.overwrite [[some 1], [some 2], [some 3], [some 4]], Op.ilocWrite [0] [[some 8]]].foldl (step Cfg.fixed) s0) = true := by
  decide +kernel

/-! ### upstream defects (each replayed on the implementation by the harness) -/

/-- F2: write through `.loc` leaves the positional view behind -/
theorem C08_counterexample_loc_write : InvB (step Cfg.current s0 (.locWrite [3, 9] [[some 30], [some 50]])) = false := by
  decide +kernel
/-- F3: `overwrite` without ids leaves the id-keyed view behind -/
theorem C08_counterexample_overwrite : InvB (step Cfg.current s0 (.overwrite [[some 7], [some 8], [some 9]])) = false := by
  decide +kernel
/-- F4: `update` re-sorts the ids but keeps the old id→position map -/
theorem C08_counterexample_update_index : InvB (step Cfg.current s0 (.update [1] [[some 0]] true)) = false := by
  decide +kernel

/-! ### upstream defects around slices (each replayed on the implementation: corpus/C08/F16, F17) -/

def sDense : State := ⟨[1, 2, 3], [[some 1], [some 2], [some 3]], [[some 1], [some 2], [some 3]], none⟩
def cfgNoLabel : Cfg := { Cfg.fixed with ilocLabel := false }
def cfgViews : Cfg := { Cfg.fixed with sliceOwnsData := false }

/-- F16: `a.iloc[2]` (one int) was labelled with the position: on ids 1..3 the slice of position 2 (id 3) calls itself id 2,
and assigning to it overwrites the row of id 2 while id 3 — the row that was selected — keeps its value -/
theorem C08_counterexample_iloc_scalar :
    let h := [HOp.takeI1 2, .heldSet 0 [[some 99]]].foldl (hstep cfgNoLabel) ⟨sDense, [], 0, []⟩
    (h.held.map (·.ids), h.cur.ids, h.cur.data) = ([[2]], [1, 2, 3], [[some 1], [some 99], [some 3]]) := by decide +kernel
/-- … the repaired code labels it with id 3 and writes the row of id 3 -/
example : let h := [HOp.takeI1 2, .heldSet 0 [[some 99]]].foldl (hstep Cfg.fixed) ⟨sDense, [], 0, []⟩
    (h.held.map (·.ids), h.cur.ids, h.cur.data) = ([[3]], [1, 2, 3], [[some 1], [some 2], [some 99]]) := by decide +kernel

/-- F17: a slice that pandas serves as a view (`a.iloc[0:2]`) kept its positional rows as a view of the parent's block and
its id-keyed rows as a copy: after a later write to the parent the slice's two views disagree -/
theorem C08_counterexample_slice_alias :
    let h := [HOp.takeView [0, 1], .pub (.locWrite [2] [[some (-20)]])].foldl (hstep cfgViews) ⟨sDense, [], 0, []⟩
    h.held.map InvB = [false] ∧ h.held.map (·.data) = [[[some 1], [some (-20)]]] ∧ h.held.map (·.frame) = [[[some 1], [some 2]]] := by
  decide +kernel
/-- … in the repaired code the slice is a snapshot in both views -/
example : let h := [HOp.takeView [0, 1], .pub (.locWrite [2] [[some (-20)]])].foldl (hstep Cfg.fixed) ⟨sDense, [], 0, []⟩
    h.held.map InvB = [true] ∧ h.held.map (·.data) = [[[some 1], [some 2]]] := by decide +kernel

/-! ### the dtype of the ids and the memory layout of the rows are not part of the table

Two shortcuts that are right for everything femio's readers and tests produce (signed ids, C-ordered arrays) and wrong inside the
property's quantifier; stated here with the reason why the usual inputs cannot see them. -/
section LayoutAndDtype
open AttrLayout

/-- on duplicate-free ids stored in an unsigned dtype of `bits` bits the test
`np.all(np.diff(ids) > 0)` is true for EVERY storage order (the difference wraps around and is never negative, and it is never zero
because the ids are distinct): as a guard for "the ids are already ascending" it says nothing. -/
theorem C08_unsigned_guard_vacuous (bits : Nat) (ids : List Nat) (hn : ids.Nodup) (hb : ∀ i ∈ ids, i < 2 ^ bits) :
    looksAscendingU bits ids = true :=
  (adjAll_iff_isChain _ ids).mpr
    (hn.imp_of_mem fun ha hb' hne => decide_eq_true (diffU_pos bits _ _ (hb _ ha) (hb _ hb') hne)).isChain

example : looksAscendingU 32 [1, 4, 6, 2, 3, 5, 7] = true ∧ looksAscendingS [1, 4, 6, 2, 3, 5, 7] = false := by decide +kernel

/-- the same shortcut with the comparison made in a signed (or unbounded) type is behaviour-preserving:
when every adjacent pair of the block-concatenated ids ascends, sorting by id is the identity. The idea of the shortcut is sound;
only the unsigned arithmetic of the guard breaks it. -/
theorem C08_signed_guard_sound (blocks : List (List Elem)) : flattenGuarded looksAscendingS blocks = flatten blocks := by
  rcases blocks with _ | ⟨b, _ | ⟨c, t⟩⟩
  · simp [flattenGuarded, flatten, sortElems]
  · rfl
  · simp only [flattenGuarded, flatten]
    split
    · rename_i hg
      have hp := (((adjAll_iff_isChain _ _).mp hg).imp fun _ _ h => of_decide_eq_true h).pairwise
      rw [sortElems_eq, ((List.pairwise_map.mp hp).imp Nat.le_of_lt).insertionSort_eq]
    · rfl

/-- seeded change C08-8 (tri 1 4 6 + quad 2 3 5 7 with uint32 ids): with the unsigned guard the collection stays in block order,
so it is not ascending and differs from `_update_self` -/
theorem C08_counterexample_unsigned_shortcut :
    let blocks : List (List Elem) := [[⟨1, 3, [1, 2, 3]⟩, ⟨4, 3, [2, 5, 3]⟩, ⟨6, 3, [5, 8, 9]⟩],
                                     [⟨2, 5, [1, 2, 5, 4]⟩, ⟨3, 5, [2, 3, 6, 5]⟩, ⟨5, 5, [4, 5, 8, 7]⟩, ⟨7, 5, [5, 6, 9, 8]⟩]]
    (flattenGuarded (looksAscendingU 32) blocks).map Elem.id = [1, 4, 6, 2, 3, 5, 7] ∧
    (flatten blocks).map Elem.id = [1, 2, 3, 4, 5, 6, 7] ∧
    elemPos (flattenGuarded (looksAscendingU 32) blocks) 2 = some 3 := by
  decide +kernel

/-- the frame row made in C order and cut back in C order (what every id-keyed read path does) is the
tensor that `.data[k]` serves - whatever the memory layout of the array was. -/
theorem C08_layout_C_roundtrip {α : Type} (q : Nat) (hq : 0 < q) (t : List (List α)) (ht : ∀ r ∈ t, r.length = q)
    (fuel : Nat) (hf : t.length ≤ fuel) : unflattenC q fuel (flattenC t) = t := by
  unfold flattenC
  induction t generalizing fuel with
  | nil => cases fuel <;> rfl
  | cons r t' ih =>
    cases fuel with
    | zero => cases hf
    | succ f =>
      have hr : r.length = q := ht r List.mem_cons_self
      cases r with
      | nil => exact absurd hr (Nat.ne_of_lt hq)
      | cons x r' =>
        show ((x :: r') ++ t'.flatten).take q :: unflattenC q f (((x :: r') ++ t'.flatten).drop q) = (x :: r') :: t'
        rw [List.take_left' hr, List.drop_left' hr,
          ih (fun r hr' => ht r (List.mem_cons_of_mem _ hr')) f (Nat.le_of_succ_le_succ hf)]

/-- flattening by memory layout (`order='A'`) agrees with C order on C-ordered input, and on
Fortran-ordered input exactly when the tensor equals its transpose - which is why symmetric tensors (stresses, strains) and
everything of rank <= 2 cannot see the difference. -/
theorem C08_layout_A_symmetric {α : Type} (t : List (List α)) :
    flattenA false t = flattenC t ∧ (transposeT t = t → flattenA true t = flattenC t) := by
  refine ⟨rfl, ?_⟩
  intro h
  simp [flattenA, flattenC, h]

/-- seeded change C08-7: a non-symmetric tensor handed over Fortran-ordered is stored transposed in the id-keyed frame, so
`loc[id]` / `iloc[k]` / `filter_with_ids` return the transpose of what `.data[k]` serves -/
theorem C08_counterexample_layout_A :
    unflattenC 2 2 (flattenA true [[1, 2], [3, 4]]) = [[1, 3], [2, 4]] ∧
    unflattenC 2 2 (flattenA false [[1, 2], [3, 4]]) = [[1, 2], [3, 4]] ∧
    unflattenC 3 2 (flattenA true [[1, 2, 3], [4, 5, 6]]) = [[1, 4, 2], [5, 3, 6]] := by
  decide +kernel

/-- non-vacuity of `C08_layout_C_roundtrip` on a 2 x 3 tensor -/
example : unflattenC 3 2 (flattenC [[1, 2, 3], [4, 5, 6]]) = [[1, 2, 3], [4, 5, 6]] := by decide +kernel

end LayoutAndDtype

section RequestOrder

/-- the table after `update(ids', rows, allow_overwrite=True)` depends, by id, on WHICH row the
request gives for WHICH id and not on the order in which the request names the ids: two requests that pair the same (distinct)
ids with the same rows - one a permutation of the other, both well-formed (as many rows as ids, the condition under which
`update` does not raise) - produce tables that agree under lookup by id and list the same ids. -/
theorem C08_update_request_order (cfg : Cfg) (s t t' : State) (ids' ids'' : List Nat) (rows rows' : List Row)
    (hl : ids'.length = rows.length) (hl' : ids''.length = rows'.length)
    (hperm : (ids'.zip rows).Perm (ids''.zip rows'))
    (h : updateOverwrite cfg s ids' rows = .ok t) (h' : updateOverwrite cfg s ids'' rows' = .ok t')
    (hinv : AInv s) (hn : s.ids.Nodup) (hn' : ids'.Nodup) :
    (∀ i, locView t i = locView t' i) ∧ (∀ i, i ∈ t.ids ↔ i ∈ t'.ids) := by
  have hk : ids'.Perm ids'' := by
    have := hperm.map Prod.fst
    rwa [zip_keys ids' rows hl, zip_keys ids'' rows' hl'] at this
  have hn'' : ids''.Nodup := hk.nodup_iff.mp hn'
  have hlook : ∀ i, lookupRow ids' rows i = lookupRow ids'' rows' i := by
    intro i
    rw [lookupRow_zip, lookupRow_zip]
    exact assocLookup_perm hperm (by rw [zip_keys ids' rows hl]; exact hn') i
  obtain ⟨h1, _, _, h4⟩ := C08_update_spec cfg s t ids' rows h hinv hn hn'
  obtain ⟨h1', _, _, h4'⟩ := C08_update_spec cfg s t' ids'' rows' h' hinv hn hn''
  refine ⟨fun i => ?_, fun i => ?_⟩
  · rw [h1 i, h1' i, hlook i]
  · rw [h4 i, h4' i]
    exact or_congr Iff.rfl hk.mem_iff

/-- the in-place shortcut of seeded change C08-10 (`frame[index.isin(new_ids)] = new_values`): the rows whose id is requested are
overwritten through a boolean row mask, i.e. visited in STORAGE order, while the new rows are consumed in REQUEST order -/
def maskAssign : List Nat → List Row → List Nat → List Row → List Row
  | i :: is, r :: rs, req, n :: ns =>
    if req.contains i then n :: maskAssign is rs req ns else r :: maskAssign is rs req (n :: ns)
  | _, rs, _, _ => rs

def sUnsorted : State :=
  ⟨[30, 10, 50, 20, 40], [[some 30], [some 10], [some 50], [some 20], [some 40]],
   [[some 30], [some 10], [some 50], [some 20], [some 40]], some (enumIds [30, 10, 50, 20, 40])⟩

/-- seeded change C08-10: on ids stored as 30, 10, 50, 20, 40 the request
"10 ↦ 1, 20 ↦ 2, 30 ↦ 3" - ascending, not in storage order - written through the row mask puts the row passed for id 10 under
id 30 and the one passed for id 30 under id 20, although every view of the resulting table agrees with every other; the modelled
`update` (`combine_first`, by label) holds under every id the row that was passed for it. -/
theorem C08_counterexample_mask_update :
    let masked := maskAssign sUnsorted.ids sUnsorted.frame [10, 20, 30] [[some 1], [some 2], [some 3]]
    masked = [[some 1], [some 2], [some 50], [some 3], [some 40]] ∧
    lookupRow sUnsorted.ids masked 30 = some [some 1] ∧ lookupRow sUnsorted.ids masked 20 = some [some 3] ∧
    (match updateOverwrite Cfg.fixed sUnsorted [10, 20, 30] [[some 1], [some 2], [some 3]] with
     | .ok t => [locView t 10, locView t 20, locView t 30, locView t 40, locView t 50]
     | .error _ => []) = [some [some 1], some [some 2], some [some 3], some [some 40], some [some 50]] := by
  decide +kernel

/-- … and the mask is harmless exactly when the request names the ids in storage order (all uses in femio's own tests) -/
example : maskAssign sUnsorted.ids sUnsorted.frame [30, 10, 20] [[some 3], [some 1], [some 2]]
    = [[some 3], [some 1], [some 50], [some 2], [some 40]] := by decide +kernel

/-- non-vacuity of `C08_update_request_order`: the same request named ascending and descending -/
example : (match updateOverwrite Cfg.fixed sUnsorted [10, 20, 30] [[some 1], [some 2], [some 3]],
                 updateOverwrite Cfg.fixed sUnsorted [30, 20, 10] [[some 3], [some 2], [some 1]] with
           | .ok t, .ok t' => t == t' | _, _ => false) = true := by decide +kernel

end RequestOrder

end Femio.C08
