import Femio.Lemmas.SubMeshOps
import Femio.Model.SubMeshTables
/-! # C09 — sub-mesh extraction keeps ids, values and geometry attached

Model: `Femio/Model/SubMesh.lean` (transcription of ten operations of `femio/fem_data.py`).
Observation is id keyed: `Attr.lookup` (coordinates / a nodal variable at a node id), `FEM.elemAt`,
`FEM.nodalAt`, `FEM.elementalAt`.  The well-formedness hypotheses are explicit (`WF`, `EWF`, `Aligned`);
every statement is about an arbitrary successful call (`op … = .ok r`); `C09_cut_succeeds` says when
`cut_with_element_ids` succeeds. -/
namespace Femio.C09
open Core Femio.SubMesh

variable {α : Type}

/-- **self-contained** (`cut_with_element_ids`): node ids of the result are pairwise distinct and contain every node
    the retained elements refer to. No hypothesis on `m` is needed. -/
theorem C09_self_contained_cut_eids {m r : FEM α} {sel : List Id} (h : cutElemIds m sel = .ok r) : SelfContained r :=
  (assemble_referenced (cutElemIds_ok h) fun _ => mem_connIds).1

/-- **exact selection** (`cut_with_element_ids`): the retained elements are exactly the elements of `m` whose id is
    requested (requested ids that do not exist are ignored, the order of the request is immaterial), and the
    retained nodes are exactly the nodes those elements refer to. -/
theorem C09_exact_selection_cut_eids {m r : FEM α} (hw : WF m) {sel : List Id} (h : cutElemIds m sel = .ok r) :
    (∀ e, e ∈ r.elems.flatten ↔ e ∈ m.elems.flatten ∧ e.id ∈ sel) ∧ NodesExactlyReferenced r :=
  ⟨assemble_elems hw (cutElemIds_ok h), (assemble_referenced (cutElemIds_ok h) fun _ => mem_connIds).2⟩

/-- **values attached** (`cut_with_element_ids`): looked up by id, every retained node has its coordinates and the
    value of every nodal variable, every retained element its type, connectivity and the value of every
    elemental variable. -/
theorem C09_values_attached_cut_eids {m r : FEM α} (hw : WF m) (he : EWF m) {sel : List Id}
    (h : cutElemIds m sel = .ok r) : NodeValuesKept m r ∧ ElemValuesKept m r :=
  assemble_values hw he (cutElemIds_ok h)

/-- the call succeeds on a well-formed mesh with complete nodal variables as soon as one requested id exists
    (otherwise femio raises `ValueError`: the selection is outside the property's quantifier) -/
theorem C09_cut_succeeds {m : FEM α} (hw : WF m) (hal : Aligned m) {sel : List Id}
    (hsel : ∃ e ∈ m.elems.flatten, e.id ∈ sel) : ∃ r, cutElemIds m sel = .ok r := by
  obtain ⟨e, hem, hes⟩ := hsel
  have hfe : e ∈ (filterElems m.elems sel).flatten := (mem_filterElems hw.elemIds hw.types).mpr ⟨hem, hes⟩
  obtain ⟨r, hr⟩ := assemble_succeeds hw hal (nodeIds := uniqueSorted (connIds (filterElems m.elems sel))) sel (by
    intro i hi
    obtain ⟨f, hf, hif⟩ := mem_connIds.mp (mem_uniqueSorted.mp hi)
    exact hw.refs f ((mem_filterElems hw.elemIds hw.types).mp hf).1 i hif)
  exact ⟨r, by simp only [cutElemIds, isEmpty_false_of_mem_flatten hfe, Bool.false_eq_true, if_false, hr]⟩

/-- blocks are keyed by type: a block holds one type, and a type occurs in one block only -/
structure ByType (blocks : EBlocks (List Id)) : Prop where
  homog : ∀ b ∈ blocks, ∀ e ∈ b, ∀ f ∈ b, e.ty = f.ty
  sep : ∀ b ∈ blocks, ∀ b' ∈ blocks, ∀ e ∈ b, ∀ f ∈ b', e.ty = f.ty → b = b'

theorem C09_self_contained_cut_type {m r : FEM α} {t : Nat} (h : cutElemType m t = .ok r) : SelfContained r := by
  obtain ⟨b, _, _, hc⟩ := cutElemType_ok h
  exact C09_self_contained_cut_eids hc

/-- **exact selection** (`cut_with_element_type`): the retained elements are exactly the elements of type `t`, the
    retained nodes exactly the nodes they refer to. -/
theorem C09_exact_selection_cut_type {m r : FEM α} (hw : WF m) (hb : ByType m.elems) {t : Nat}
    (h : cutElemType m t = .ok r) :
    (∀ e, e ∈ r.elems.flatten ↔ e ∈ m.elems.flatten ∧ e.ty = t) ∧ NodesExactlyReferenced r := by
  obtain ⟨b, hbm, ⟨g, hgb, hgt⟩, hc⟩ := cutElemType_ok h
  obtain ⟨h1, h2⟩ := C09_exact_selection_cut_eids hw hc
  refine ⟨fun e => ?_, h2⟩
  rw [h1, mem_and_id_mem_map hw.elemIds fun f hf => List.mem_flatten.mpr ⟨b, hbm, hf⟩]
  constructor
  · exact fun heb => ⟨List.mem_flatten.mpr ⟨b, hbm, heb⟩, (hb.homog b hbm e heb g hgb).trans hgt⟩
  · rintro ⟨hem, hty⟩
    obtain ⟨b', hb'm, heb'⟩ := List.mem_flatten.mp hem
    exact hb.sep b' hb'm b hbm e heb' g hgb (hty.trans hgt.symm) ▸ heb'

theorem C09_values_attached_cut_type {m r : FEM α} (hw : WF m) (he : EWF m) {t : Nat}
    (h : cutElemType m t = .ok r) : NodeValuesKept m r ∧ ElemValuesKept m r := by
  obtain ⟨b, _, _, hc⟩ := cutElemType_ok h
  exact C09_values_attached_cut_eids hw he hc

theorem C09_self_contained_extract_idx {m r : FEM α} (hw : WF m) {idx : List Nat} (h : extractIdx m idx = .ok r) :
    SelfContained r :=
  (extractIdx_referenced hw h).1

/-- **exact selection** (`extract_with_element_indices`): the retained elements are exactly the elements stored at the
    requested positions of the flattened element list (`elements.ids[k]`, `elements.data[k]`), the retained nodes
    exactly the nodes they refer to. -/
theorem C09_exact_selection_extract_idx {m r : FEM α} (hw : WF m) {idx : List Nat} (h : extractIdx m idx = .ok r) :
    (∀ e, e ∈ r.elems.flatten ↔ ∃ k ∈ idx, (flattenE m.elems)[k]? = some e) ∧ NodesExactlyReferenced r := by
  obtain ⟨picked, hg, ha⟩ := extractIdx_ok h
  refine ⟨fun e => ?_, (extractIdx_referenced hw h).2⟩
  rw [(assemble_ok ha).2.2.1, mem_filterElems_picked hw hg]
  exact gatherPos_mem hg

theorem C09_values_attached_extract_idx {m r : FEM α} (hw : WF m) (he : EWF m) {idx : List Nat}
    (h : extractIdx m idx = .ok r) : NodeValuesKept m r ∧ ElemValuesKept m r := by
  obtain ⟨picked, _, ha⟩ := extractIdx_ok h
  exact assemble_values hw he ha

/-- **exact selection** (`cut_with_node_ids`): the retained nodes are exactly the requested ones (in the requested
    order), the retained elements exactly the elements all of whose nodes are requested. -/
theorem C09_exact_selection_cut_nids {m r : FEM α} (hw : WF m) {sel : List Id} (h : cutNodeIds m sel = .ok r) :
    r.nodes.ids = sel ∧ ∀ e, e ∈ r.elems.flatten ↔ e ∈ m.elems.flatten ∧ ∀ n ∈ e.val, n ∈ sel := by
  have ha := cutNodeIds_ok h
  refine ⟨assemble_nodeIds ha, fun e => ?_⟩
  rw [assemble_elems hw ha, elemsInside,
    mem_and_id_mem_map hw.elemIds fun f hf => mem_flattenE.mp (List.mem_filter.mp hf).1]
  simp only [List.mem_filter, mem_flattenE, List.all_eq_true, List.contains_eq_mem, decide_eq_true_eq]

/-- **self-contained** (`cut_with_node_ids`), for a duplicate-free request -/
theorem C09_self_contained_cut_nids {m r : FEM α} (hw : WF m) {sel : List Id} (hs : sel.Nodup)
    (h : cutNodeIds m sel = .ok r) : SelfContained r := by
  obtain ⟨h1, h2⟩ := C09_exact_selection_cut_nids hw h
  exact ⟨h1 ▸ hs, fun e he n hn => h1 ▸ ((h2 e).mp he).2 n hn⟩

theorem C09_values_attached_cut_nids {m r : FEM α} (hw : WF m) (he : EWF m) {sel : List Id}
    (h : cutNodeIds m sel = .ok r) : NodeValuesKept m r ∧ ElemValuesKept m r :=
  assemble_values hw he (cutNodeIds_ok h)

/-- **C09_sweep_correct**: on the ascending node ids and the ascending referenced ids of a well-formed mesh the
    two-pointer loop of `remove_useless_nodes` terminates inside the array and returns the membership mask
    `orig.map (· ∈ useful)`. (General form: `sweepE_of_sublist`, for any duplicate-free `orig` that has `useful` as a
    sublist; two ascending lists are in that relation as soon as `useful ⊆ orig`.) -/
theorem C09_sweep_correct {m : FEM α} (hw : WF m) :
    sweepE (sortedIds m) (usefulIds m) = some ((sortedIds m).map fun o => decide (o ∈ usefulIds m)) :=
  sweep_of_refs hw.nodeIds hw.refs

/-- the guard is sharp: if an element refers to a node that does not exist the loop runs off the end
    (`IndexError` in femio), it never returns a wrong mask silently -/
theorem C09_sweep_error_iff {m : FEM α} (hn : m.nodes.ids.Nodup) :
    sweepE (sortedIds m) (usefulIds m) = none ↔ ∃ e ∈ m.elems.flatten, ∃ n ∈ e.val, n ∉ m.nodes.ids := by
  constructor
  · intro h
    by_contra hc0
    have hc : ∀ e ∈ m.elems.flatten, ∀ n ∈ e.val, n ∈ m.nodes.ids := by
      intro e he n hn; by_contra hx; exact hc0 ⟨e, he, n, hn, hx⟩
    have := sweep_of_refs hn hc
    rw [h] at this
    cases this
  · rintro ⟨e, he, n, hne, hnn⟩
    cases hs : sweepE (sortedIds m) (usefulIds m) with
    | none => rfl
    | some mask => exact absurd (mem_sortedIds.mp ((sweepE_sublist hs).subset (mem_usefulIds.mpr ⟨e, he, hne⟩))) hnn

/-- what a successful `remove_useless_nodes` returns: the retained node ids are the referenced ids; either nothing changes
    or nodes and nodal variables are re-sliced by position -/
theorem removeUseless_ok {m r : FEM α} (hw : WF m) (h : removeUselessNodes m = .ok r) :
    r.elems = m.elems ∧ r.elemental = m.elemental ∧ r.nodes.ids.Perm (usefulIds m) ∧
    (r = m ∨
     ∃ idx, gatherPos m.nodes.ids idx = some r.nodes.ids ∧ gatherPos m.nodes.data idx = some r.nodes.data ∧
        resliceNodal m.nodal r.nodes.ids idx = some r.nodal) := by
  have hsw := C09_sweep_correct hw
  simp only [removeUselessNodes] at h
  split at h
  · split at h
    · rename_i heq
      cases h
      exact ⟨rfl, rfl, (sortedIds_perm _).symm.trans (.of_eq heq), Or.inl rfl⟩
    · cases h
  · simp only [sortedIds, usefulIds] at hsw
    simp only [hsw] at h
    -- the retained ids `ids[maskFilter mask (argsort ids)]` are the ascending ids that are referenced
    have hids := gather_maskFilter (gatherPos_argsort m.nodes.ids)
      ((sortedPairs m.nodes.ids).map (fun x => x.1) |>.map fun o => decide (o ∈ uniqueSorted (connIds m.elems)))
    rw [maskFilter_map] at hids
    split at h
    · rename_i ids data h1 h2
      -- `h1` is that same `gatherPos`: `ids` is the filtered list
      cases hids.symm.trans h1
      split at h
      · rename_i nd hnd
        cases h
        refine ⟨rfl, rfl, ?_, Or.inr ⟨_, h1, h2, hnd⟩⟩
        refine (List.perm_ext_iff_of_nodup (((sortedIds_perm _).nodup_iff.mpr hw.nodeIds).filter _)
          (uniqueSorted_nodup _)).mpr fun n => ?_
        rw [List.mem_filter, decide_eq_true_eq]
        exact and_iff_right_of_imp fun hn => useful_sub_sorted hw.refs hn
      · cases h
    · cases h

/-- **exact selection** (`remove_useless_nodes`): all elements are kept, the retained nodes are exactly the nodes
    some element refers to. -/
theorem C09_exact_selection_remove_useless {m r : FEM α} (hw : WF m) (h : removeUselessNodes m = .ok r) :
    r.elems = m.elems ∧ NodesExactlyReferenced r := by
  obtain ⟨he, _, hp, _⟩ := removeUseless_ok hw h
  exact ⟨he, fun n => by rw [hp.mem_iff, mem_usefulIds, he]⟩

theorem C09_self_contained_remove_useless {m r : FEM α} (hw : WF m) (h : removeUselessNodes m = .ok r) :
    SelfContained r :=
  selfContained_of_referenced ((removeUseless_ok hw h).2.2.1.nodup_iff.mpr (uniqueSorted_nodup _))
    (C09_exact_selection_remove_useless hw h).2

/-- **values attached** (`remove_useless_nodes`), for nodal variables stored in the mesh's node order: the
    positional re-slicing `value.data[useful_indices]` gives every retained node id its own coordinates and
    values; elements and elemental variables are untouched. -/
theorem C09_values_attached_remove_useless {m r : FEM α} (hw : WF m) (hal : Aligned m)
    (h : removeUselessNodes m = .ok r) : NodeValuesKept m r ∧ ElemValuesKept m r := by
  obtain ⟨he, hed, _, rfl | ⟨idx, h1, h2, h3⟩⟩ := removeUseless_ok hw h
  · exact ⟨nodeValuesKept_of_eq hw rfl rfl, elemValuesKept_of_eq hw he hed⟩
  · exact ⟨nodeValuesKept_of_filter (reslice_eq_filterWithIds hw.nodeIds h1 h2)
      (resliceNodal_eq_filterNodal hw.nodeIds (fun kv hkv => (hal kv hkv).1) h1 h3), elemValuesKept_of_eq hw he hed⟩

/-- **exact selection** (`to_first_order`): a mesh without second-order types is returned as it is; otherwise every
    element is retained with its id and type label and the corner part of its connectivity (`firstOrderEnt`),
    nothing else is retained, and the retained nodes are exactly the nodes of the reduced elements (mid-side and
    unreferenced nodes go). -/
theorem C09_exact_selection_first_order {s : Nat → Bool} {m r : FEM α} (hw : WF m) (h : toFirstOrder s m = .ok r) :
    (r = m ∧ ∀ e ∈ m.elems.flatten, s e.ty = false) ∨
    ((∀ e' ∈ r.elems.flatten, ∃ e ∈ m.elems.flatten, firstOrderEnt s e = some e') ∧
     (∀ e ∈ m.elems.flatten, ∃ e' ∈ r.elems.flatten, firstOrderEnt s e = some e') ∧ NodesExactlyReferenced r) := by
  rcases toFirstOrder_ok h with hc | ⟨fe, mask, hfe, rfl, rfl⟩
  · exact Or.inl hc
  · have hflat : gather (firstOrderEnt s) m.elems.flatten = some fe.flatten := gather_flatten hfe
    refine Or.inr ⟨fun _ => gather_mem hflat, fun _ => gather_mem' hflat, fun n => ?_⟩
    rw [← mem_connIds]
    refine mem_firstOrder_nodeIds.trans (and_iff_right_of_imp fun hn => ?_)
    obtain ⟨e', he', hne'⟩ := mem_connIds.mp hn
    obtain ⟨e, hem, hee'⟩ := gather_mem hflat he'
    exact hw.refs e hem n ((firstOrderEnt_some hee').2.2 n hne')

theorem C09_self_contained_first_order {s : Nat → Bool} {m r : FEM α} (hw : WF m) (h : toFirstOrder s m = .ok r) :
    SelfContained r := by
  rcases C09_exact_selection_first_order hw h with ⟨rfl, _⟩ | ⟨_, _, hr⟩
  · exact ⟨hw.nodeIds, hw.refs⟩
  · refine selfContained_of_referenced ?_ hr
    rcases toFirstOrder_ok h with ⟨rfl, _⟩ | ⟨fe, mask, _, rfl, rfl⟩
    · exact hw.nodeIds
    · exact maskFilter_map _ _ ▸ hw.nodeIds.sublist List.filter_sublist

/-- **values attached** (`to_first_order`), for nodal variables stored in the mesh's node order: every retained node
    keeps coordinates and nodal values (boolean-mask slicing), elemental data is passed on unchanged (the elements
    keep their ids, see `C09_exact_selection_first_order`). -/
theorem C09_values_attached_first_order {s : Nat → Bool} {m r : FEM α} (hw : WF m) (hal : Aligned m)
    (h : toFirstOrder s m = .ok r) : NodeValuesKept m r ∧ r.elemental = m.elemental := by
  rcases toFirstOrder_ok h with ⟨rfl, _⟩ | ⟨fe, mask, hfe, rfl, rfl⟩
  · exact ⟨nodeValuesKept_of_eq hw rfl rfl, rfl⟩
  · refine ⟨⟨fun i hi => ?_, fun name i hi => ?_⟩, rfl⟩
    · obtain ⟨him, hic⟩ := mem_firstOrder_nodeIds.mp hi
      exact ⟨attrLookup_filter _ _ _ (by simpa using hic), attrLookup_isSome_of_mem hw.nodeLen him⟩
    · obtain ⟨_, hic⟩ := mem_firstOrder_nodeIds.mp hi
      refine nodal_lookup_filterMap (fun kv hkv => ?_) name
      obtain ⟨hk, _⟩ := hal kv hkv
      refine ⟨_, if_pos (by rw [hk, List.length_map]), ?_⟩
      rw [← hk]
      exact attrLookup_filter _ _ _ (by simpa using hic)

/-! `to_facets`, `to_surface` and their variants: all four number rows drawn from the 3- and 4-vertex faces of the elements (`surfaceElems`); three of them keep every
node and nodal variable. -/

/-- **exact selection** (`to_facets`): all nodes (with their nodal variables) are kept, no elemental data is attached to
    the new elements, every new element is a 3- or 4-vertex face of an element of `m`, and every such face is
    represented by a new element with the same vertex set (`np.sort` key). -/
theorem C09_exact_selection_facets {ft : FaceTable} {m r : FEM α} (h : toFacets ft m = .ok r) :
    r.nodes = m.nodes ∧ r.elemental = [] ∧ FacetsGenuine ft m r ∧
    ∀ row, IsFacetOf ft m.elems 3 row ∨ IsFacetOf ft m.elems 4 row →
      ∃ e' ∈ r.elems.flatten, faceKey e'.val = faceKey row := by
  obtain ⟨t3, t4, h3, h4, rfl⟩ := toFacets_ok h
  refine ⟨rfl, rfl, facetsGenuine_surfaceElems h3 h4 (fun _ => mem_removeDuplicates) (fun _ => mem_removeDuplicates) rfl,
    fun row hrow => ?_⟩
  have hg : ∃ g, (g ∈ removeDuplicates t3 ∨ g ∈ removeDuplicates t4) ∧ faceKey g = faceKey row := by
    rcases hrow with hr | hr
    · obtain ⟨g, hg, hk⟩ := removeDuplicates_complete ((mem_facetsOfWidth h3).mpr hr)
      exact ⟨g, Or.inl hg, hk⟩
    · obtain ⟨g, hg, hk⟩ := removeDuplicates_complete ((mem_facetsOfWidth h4).mpr hr)
      exact ⟨g, Or.inr hg, hk⟩
  obtain ⟨g, hg, hk⟩ := hg
  obtain ⟨e', he', hv⟩ := List.mem_map.mp (mem_surfaceElems_vals.mpr hg)
  exact ⟨e', he', hv ▸ hk⟩

theorem C09_self_contained_facets {ft : FaceTable} {m r : FEM α} (hw : WF m) (h : toFacets ft m = .ok r) :
    SelfContained r := by
  obtain ⟨hn, _, hg, _⟩ := C09_exact_selection_facets h
  exact selfContained_of_genuine hw hn hg

/-- **values attached** (`to_facets`): nodes and nodal variables are passed on as they are -/
theorem C09_values_attached_facets {ft : FaceTable} {m r : FEM α} (hw : WF m) (h : toFacets ft m = .ok r) :
    NodeValuesKept m r := by
  obtain ⟨t3, t4, _, _, rfl⟩ := toFacets_ok h
  exact nodeValuesKept_of_eq hw rfl rfl

theorem C09_self_contained_surface {ft : FaceTable} {m r : FEM α} (hw : WF m) (h : toSurface ft m = .ok r) :
    SelfContained r := by
  obtain ⟨t3, t4, pt, pq, _, _, _, _, hids, _, _, _, _⟩ := toSurface_ok h
  exact selfContained_of_referenced (gatherPos_nodup hw.nodeIds (uniqueSorted_nodup _) hids) (surface_referenced h)

/-- **exact selection** (`to_surface`): the retained nodes are exactly the nodes of the new surface elements, no elemental
    data is attached, and every new element is a 3- or 4-vertex face of an element of `m` whose vertex set occurs
    exactly once among all such faces (that these are the boundary faces is C10). -/
theorem C09_exact_selection_surface {ft : FaceTable} {m r : FEM α} (h : toSurface ft m = .ok r) :
    NodesExactlyReferenced r ∧ r.elemental = [] ∧ FacetsGenuine ft m r := by
  obtain ⟨t3, t4, pt, pq, h3, h4, _, _, _, _, hel, hed, _⟩ := toSurface_ok h
  exact ⟨surface_referenced h, hed,
    facetsGenuine_surfaceElems h3 h4 (fun _ h' => (mem_onceOnly.mp h').1) (fun _ h' => (mem_onceOnly.mp h').1) hel⟩

/-- **values attached** (`to_surface`), for nodal variables stored in the mesh's node order: the positional slicing
    `iloc[unique_indices]` gives every retained node id its own coordinates and values. -/
theorem C09_values_attached_surface {ft : FaceTable} {m r : FEM α} (hw : WF m) (hal : Aligned m)
    (h : toSurface ft m = .ok r) : NodeValuesKept m r := by
  obtain ⟨t3, t4, pt, pq, _, _, _, _, hids, hdata, _, _, hnd⟩ := toSurface_ok h
  have hfil : (m.nodal.filter fun kv => kv.2.ids.length == m.nodes.ids.length) = m.nodal := by
    apply List.filter_eq_self.mpr
    intro kv hkv
    simp [(hal kv hkv).1]
  rw [hfil] at hnd
  exact nodeValuesKept_of_filter (reslice_eq_filterWithIds hw.nodeIds hids hdata)
    (resliceNodal_eq_filterNodal hw.nodeIds (fun kv hkv => (hal kv hkv).1) hids hnd)

/-! `C09_exact_selection_surface` says that every new element is a face; the clause "exactly the requested entities are
retained" also needs the converse (no boundary face is dropped) and "each once": `SurfaceIsOnceOnly`.  Its `t3` / `t4` are
the lists of ALL 3- / 4-vertex faces of all elements (`facetsOfWidth`, characterised by `mem_facetsOfWidth` = `IsFacetOf`);
the vertex set of a row is `faceKey row` (the sorted row, what `np.unique(axis=0)` compares). -/

/-- **exact selection, facet level** (`to_surface`): the surface elements are exactly the faces whose vertex set belongs
    to one face of one element only - none is dropped, none is invented, none is repeated. (A deduplication through a
    one-integer key instead of the rows does not have this property: `C09_radix_key_counterexample`.) -/
theorem C09_surface_once_only {ft : FaceTable} {m r : FEM α} (h : toSurface ft m = .ok r) : SurfaceIsOnceOnly ft m r := by
  obtain ⟨t3, t4, pt, pq, h3, h4, _, _, _, _, hel, _, _⟩ := toSurface_ok h
  exact surfaceIsOnceOnly_of h3 h4 hel

/-- **exact selection** (`to_surface(remove_unnecessary_nodes=False)`): every node is kept, no elemental data is attached,
    and the new elements are exactly the once-only faces, each once -/
theorem C09_exact_selection_surface_keep {ft : FaceTable} {m r : FEM α} (h : toSurfaceKeep ft m = .ok r) :
    r.nodes = m.nodes ∧ r.elemental = [] ∧ SurfaceIsOnceOnly ft m r := by
  obtain ⟨t3, t4, h3, h4, rfl⟩ := toSurfaceKeep_ok h
  exact ⟨rfl, rfl, surfaceIsOnceOnly_of h3 h4 rfl⟩

theorem C09_self_contained_surface_keep {ft : FaceTable} {m r : FEM α} (hw : WF m) (h : toSurfaceKeep ft m = .ok r) :
    SelfContained r := by
  obtain ⟨t3, t4, h3, h4, rfl⟩ := toSurfaceKeep_ok h
  exact selfContained_of_genuine hw rfl (facetsGenuine_surfaceElems h3 h4
    (fun _ h' => (mem_onceOnly.mp h').1) (fun _ h' => (mem_onceOnly.mp h').1) rfl)

/-- **values attached** (`to_surface(remove_unnecessary_nodes=False)`): nodes and nodal variables are passed on -/
theorem C09_values_attached_surface_keep {ft : FaceTable} {m r : FEM α} (hw : WF m) (h : toSurfaceKeep ft m = .ok r) :
    NodeValuesKept m r := by
  obtain ⟨t3, t4, _, _, rfl⟩ := toSurfaceKeep_ok h
  exact nodeValuesKept_of_eq hw rfl rfl

theorem C09_self_contained_facets_all {ft : FaceTable} {m r : FEM α} (hw : WF m) (h : toFacetsAll ft m = .ok r) :
    SelfContained r := by
  obtain ⟨t3, t4, h3, h4, rfl⟩ := toFacetsAll_ok h
  exact selfContained_of_genuine hw rfl (facetsGenuine_surfaceElems h3 h4 (fun _ h' => h') (fun _ h' => h') rfl)

/-- **exact selection** (`to_facets(remove_duplicates=False)`): all nodes are kept, no elemental data is attached, and the
    new elements, in element-id order, are ALL 3-vertex faces followed by ALL 4-vertex faces of the elements of `m`
    (a face shared by two elements twice) -/
theorem C09_exact_selection_facets_all {ft : FaceTable} {m r : FEM α} (h : toFacetsAll ft m = .ok r) :
    r.nodes = m.nodes ∧ r.elemental = [] ∧
    ∃ t3 t4, facetsOfWidth ft m.elems 3 = some t3 ∧ facetsOfWidth ft m.elems 4 = some t4 ∧
      r.elems.flatten.map (·.val) = t3 ++ t4 := by
  obtain ⟨t3, t4, h3, h4, rfl⟩ := toFacetsAll_ok h
  exact ⟨rfl, rfl, t3, t4, h3, h4, surfaceElems_vals _ _⟩

theorem C09_values_attached_facets_all {ft : FaceTable} {m r : FEM α} (hw : WF m) (h : toFacetsAll ft m = .ok r) :
    NodeValuesKept m r := by
  obtain ⟨t3, t4, _, _, rfl⟩ := toFacetsAll_ok h
  exact nodeValuesKept_of_eq hw rfl rfl

/-- the one-integer key `Σ id_k · base^(m-1-k)` identifies rows of equal length as long as every id is below the base
    (dense ids `1..n` with `base = n + 1`) -/
theorem C09_radix_key_injective {base : Nat} {r s : List Nat} (hl : r.length = s.length)
    (hr : ∀ x ∈ r, x < base) (hs : ∀ x ∈ s, x < base) (h : radixKey base r = radixKey base s) : r = s :=
  (radixKey_aux r s 0 0 hl hr hs h).2

/-- with an id at or above the base the key identifies different rows: 9 nodes with ids {1..5, 11..14} (`base = 10`): the facets (2,3,4) and (1,12,14) get the key 234,
    so a deduplication by key counts two different boundary facets as one interior facet and drops both. -/
theorem C09_radix_key_counterexample :
    radixKey 10 [2, 3, 4] = radixKey 10 [1, 12, 14] ∧ faceKey [2, 3, 4] ≠ faceKey [1, 12, 14] ∧
    onceOnly [[2, 3, 4], [1, 12, 14]] = [[1, 12, 14], [2, 3, 4]] := by decide +kernel

/-! Mixed mesh (two triangles + one tetrahedron), node ids unsorted in storage (30, 10, 20, 40, 50, 60), node 60
unreferenced, element ids 7, 5 (tri) and 6 (tet), one nodal variable (value = 10 · coordinate tag) in the mesh's node
order, one elemental variable in a single `unknown` block. Values are `Nat` tags. -/

def exMesh : FEM Nat :=
  { nodes := ⟨[30, 10, 20, 40, 50, 60], [3, 1, 2, 4, 5, 6]⟩
    elems := [[⟨7, 3, [10, 20, 30]⟩, ⟨5, 3, [20, 30, 40]⟩], [⟨6, 8, [10, 20, 30, 50]⟩]]
    nodal := [(0, ⟨[30, 10, 20, 40, 50, 60], [30, 10, 20, 40, 50, 60]⟩)]
    elemental := [(0, [[⟨5, 18, 55⟩, ⟨6, 18, 66⟩, ⟨7, 18, 77⟩]])] }

/-- a second-order mesh: one `tet2` (type index 9) with mid-edge nodes 12..34, storage order descending, one
    unreferenced node 99 -/
def exTet2 : FEM Nat :=
  { nodes := ⟨[99, 34, 24, 23, 14, 13, 12, 4, 3, 2, 1], [99, 34, 24, 23, 14, 13, 12, 4, 3, 2, 1]⟩
    elems := [[⟨8, 9, [1, 2, 3, 4, 23, 13, 12, 14, 24, 34]⟩]]
    nodal := [(0, ⟨[99, 34, 24, 23, 14, 13, 12, 4, 3, 2, 1], [990, 340, 240, 230, 140, 130, 120, 40, 30, 20, 10]⟩)]
    elemental := [] }

example : WF exMesh := ⟨by decide +kernel, by decide +kernel, by unfold IdsNodup; decide +kernel, by unfold TypesOk; decide +kernel, by decide +kernel⟩
example : EWF exMesh := by unfold EWF IdsNodup TypesOk; decide +kernel
example : Aligned exMesh := by unfold Aligned; decide +kernel
example : ByType exMesh.elems := ⟨by decide +kernel, by decide +kernel⟩
example : WF exTet2 := ⟨by decide +kernel, by decide +kernel, by unfold IdsNodup; decide +kernel, by unfold TypesOk; decide +kernel, by decide +kernel⟩
example : Aligned exTet2 := by unfold Aligned; decide +kernel

-- element 7 requested together with an id that does not exist, in "wrong" order: nodes 10, 20, 30 with their values
example : (cutElemIds exMesh [99, 7]).toOption.map (fun r => (r.nodes, r.nodal)) =
    some (⟨[10, 20, 30], [1, 2, 3]⟩, [(0, ⟨[10, 20, 30], [10, 20, 30]⟩)]) := by decide +kernel
example : (cutElemIds exMesh [99, 7]).toOption.map (fun r => r.elems.flatten.map (fun e => (e.id, e.val))) =
    some [(7, [10, 20, 30])] := by decide +kernel
example : (cutElemIds exMesh [6, 5]).toOption.map (fun r => (r.nodes.ids, r.elemental)) =
    some ([10, 20, 30, 40, 50], [(0, [[⟨6, 18, 66⟩, ⟨5, 18, 55⟩]])]) := by decide +kernel
example : (cutElemType exMesh 3).toOption.map (fun r => (r.nodes.ids, r.elems.flatten.map (·.id))) =
    some ([10, 20, 30, 40], [7, 5]) := by decide +kernel
example : (extractIdx exMesh [2, 0]).toOption.map (fun r => (r.nodes.ids, r.elems.flatten.map (·.id))) =
    some ([10, 20, 30, 40], [7, 5]) := by decide +kernel
example : (cutNodeIds exMesh [40, 30, 20, 60]).toOption.map (fun r => (r.nodes, r.elems.flatten.map (·.id))) =
    some (⟨[40, 30, 20, 60], [4, 3, 2, 6]⟩, [5]) := by decide +kernel
example : (removeUselessNodes exMesh).toOption.map (fun r => (r.nodes, r.nodal)) =
    some (⟨[10, 20, 30, 40, 50], [1, 2, 3, 4, 5]⟩, [(0, ⟨[10, 20, 30, 40, 50], [10, 20, 30, 40, 50]⟩)]) := by decide +kernel
example : (toFirstOrder isSecondType exTet2).toOption.map (fun r => (r.nodes, r.nodal)) =
    some (⟨[4, 3, 2, 1], [4, 3, 2, 1]⟩, [(0, ⟨[4, 3, 2, 1], [40, 30, 20, 10]⟩)]) := by decide +kernel
example : (toFirstOrder isSecondType exTet2).toOption.map (fun r => r.elems.flatten.map (fun e => (e.id, e.ty, e.val))) =
    some [(8, 9, [1, 2, 3, 4])] := by decide +kernel
-- surface of the mixed mesh: the triangle 10-20-30 is shared by element 7 and the tetrahedron and disappears
example : (toSurface faceTable exMesh).toOption.map (fun r => (r.nodes, r.elems.flatten.map fun e => (e.id, e.val))) =
    some (⟨[30, 10, 20, 40, 50], [3, 1, 2, 4, 5]⟩,
          [(1, [10, 20, 50]), (2, [10, 50, 30]), (3, [20, 30, 40]), (4, [20, 30, 50])]) := by decide +kernel
example : (toFacets faceTable exMesh).toOption.map (fun r => (r.nodes.ids, r.elems.flatten.map (·.id))) =
    some ([30, 10, 20, 40, 50, 60], [1, 2, 3, 4, 5]) := by decide +kernel
-- the error branches are real: an element refers to a node that does not exist
example : removeUselessNodes ({ exMesh with nodes := ⟨[30, 10, 20, 40, 60, 70], [3, 1, 2, 4, 6, 7]⟩ } : FEM Nat) = .error .index := by
  decide +kernel
example : cutElemIds exMesh [99] = .error .value := by decide +kernel

example : (toSurface faceTable exMesh).toOption.map (fun r => r.elems.flatten.map (·.val)) =
    (do let t3 ← facetsOfWidth faceTable exMesh.elems 3; pure (onceOnly t3)) := by decide +kernel
example : (toSurfaceKeep faceTable exMesh).toOption.map (fun r => (r.nodes.ids, r.elems.flatten.map (·.id))) =
    some ([30, 10, 20, 40, 50, 60], [1, 2, 3, 4]) := by decide +kernel
example : (toFacetsAll faceTable exMesh).toOption.map (fun r => (r.nodes.ids, r.elems.flatten.length)) =
    some ([30, 10, 20, 40, 50, 60], 6) := by decide +kernel

/-- directed edges of a face given as a cycle of local node numbers -/
def cycEdges (f : List Nat) : List (Nat × Nat) := f.zip (f.drop 1 ++ f.take 1)

/-- a face table over local node numbers `0 .. arity-1` is a closed oriented surface: every face uses numbers below the
    arity, no number twice, and every directed edge of the table occurs exactly once and its reverse exactly once -/
def tableClosed (arity : Nat) (fs : List (List Nat)) : Bool :=
  let es := fs.flatMap cycEdges
  fs.all (fun f => f.all (· < arity) && f.all (fun i => f.count i == 1)) &&
    es.all fun e => es.count e == 1 && es.count (e.2, e.1) == 1

/-- **C09_face_tables_closed.** Every solid face table the C09 model is instantiated with - regenerated from
    `_generate_all_faces` of the working tree on every run: tet 8, tet2 9, pyr 10, prism 12, hex 14, hexprism 16 - is a
    closed oriented surface over the element's own local nodes (`tableClosed`).  `C09_surface_once_only` says the surface
    is the once-only faces *of the table*; this is the obligation on the table itself, so a wrong local node number in the
    source breaks a proof obligation of C09 and not only of C10 (seeded change C09-8: `[7, 8, 9, 11]` for `[7, 8, 9, 10]`). -/
theorem C09_face_tables_closed :
    ∀ ta ∈ [(8, 4), (9, 10), (10, 5), (12, 6), (14, 8), (16, 12)],
      (faceTable ta.1).map (tableClosed ta.2) = some true := by decide +kernel

/-- non-vacuity / sensitivity: the hexprism table with one wrong entry in the top cap is not closed -/
example : tableClosed 12 [[0, 5, 4, 1], [1, 4, 3, 2], [5, 11, 10, 4], [4, 10, 9, 3], [3, 9, 8, 2], [0, 6, 11, 5],
    [6, 7, 10, 11], [7, 8, 9, 11], [1, 2, 8, 7], [0, 1, 7, 6]] = false := by decide +kernel
example : (faceTable 16).map List.length = some 10 := by decide +kernel

/-! `nodal_data` / `elemental_data` are dicts key -> attribute, and every attribute also carries a `.name` of its own.  The two
agree for tables filled by the readers and by `update_data`, but `set_attribute_data(key, data, name=...)` and
`table[key2] = table[key]` make the relation key -> name arbitrary and many-to-one.  The `FEM` model (`Model/SubMesh.lean`)
identifies a variable by its key (`Nat × Attr α`) and has no name at all; an `Entry` puts the name back in to state what a
sub-mesh operation may and may not do with it. -/

/-- `{key: f(value) for key, value in self.items()}`: `FEMAttributes.filter_with_ids` and the tables of every `cut_*` -/
def mapTable {β γ} (f : β → γ) (t : List (Entry β)) : List (Entry γ) := t.map fun e => ⟨e.key, e.name, f e.val⟩

/-- `table[key]` -/
def tableAt {β} (t : List (Entry β)) (k : Nat) : Option β := (t.find? (·.key == k)).map (·.val)

/-- **C09_table_by_key.** A table rebuilt key by key binds every key to the transformed value of that same key, whatever
    the attribute names are (equal to the key, unrelated, shared by several keys): `values attached` needs no hypothesis on
    the names. -/
theorem C09_table_by_key {β γ} (f : β → γ) (t : List (Entry β)) (k : Nat) :
    tableAt (mapTable f t) k = (tableAt t k).map f ∧ (mapTable f t).map (·.key) = t.map (·.key) := by
  refine ⟨?_, by simp [mapTable]⟩
  unfold tableAt mapTable
  rw [List.find?_map, Option.map_map, Option.map_map]
  rfl

/-- the model's tables are rebuilt key by key: the keys of the filtered nodal / elemental tables are those of the input -/
theorem C09_filter_keeps_keys {α} (nodal : List (Nat × Attr α)) (elemental : List (Nat × EBlocks α)) (ids : List Id) :
    (∀ out, filterNodal nodal ids = some out → out.map (·.1) = nodal.map (·.1)) ∧
    (filterElemental elemental ids).map (·.1) = elemental.map (·.1) := by
  refine ⟨fun out h => map_of_mapM _ (·.1) (·.1) (fun kv kv' hkv => ?_) nodal out
    ((gather_eq_mapM _ nodal).symm.trans h), by simp [filterElemental]⟩
  obtain ⟨a, _, rfl⟩ := Option.map_eq_some_iff.mp hkv
  rfl

/-- **C09_table_rekey_by_name_counterexample** (seeded change C09-10).  Key 1 ('T_prev') is bound to an attribute that still
    carries the name of key 0 ('T').  Key by key both variables survive; re-keyed by name - the list form of the
    constructor - key 1 is lost and key 0 holds the OTHER variable's values.  No id, node or element is wrong. -/
theorem C09_table_rekey_by_name_counterexample :
    let t : List (Entry Nat) := [⟨0, 0, 10⟩, ⟨1, 0, 20⟩]
    (tableAt (mapTable (· + 1) t) 0 = some 11 ∧ tableAt (mapTable (· + 1) t) 1 = some 21) ∧
    tableAt (rekeyByName (mapTable (· + 1) t)) 1 = none ∧ tableAt (rekeyByName (mapTable (· + 1) t)) 0 = some 21 := by decide +kernel

/-- **C09_table_rekey_blind.** On a table whose every attribute is named after its key (what the readers and
    `update_data` build: every table femio's own tests and a check with key = name ever see) re-keying by name is the
    identity - the reason a fresh-from-file mesh cannot distinguish the two constructors and the key -> name relation has
    to be a generator dimension. -/
theorem C09_table_rekey_blind {β} (t : List (Entry β)) (hn : ∀ e ∈ t, e.name = e.key)
    (hd : t.Pairwise (fun a b => a.key ≠ b.key)) : rekeyByName t = t := by
  simpa [rekeyByName] using rekey_foldl t [] hn (by simpa using hd)

example : rekeyByName ([⟨3, 3, 10⟩, ⟨1, 1, 20⟩, ⟨2, 2, 5⟩] : List (Entry Nat)) = [⟨3, 3, 10⟩, ⟨1, 1, 20⟩, ⟨2, 2, 5⟩] := by decide +kernel
example : tableAt (mapTable (· * 2) ([⟨3, 7, 10⟩, ⟨1, 7, 20⟩] : List (Entry Nat))) 1 = some 40 := by decide +kernel
end Femio.C09
