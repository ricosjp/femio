import Femio.Model.Surface
import Femio.Model.Obj
import Femio.Lemmas.ObjTextProps
import Femio.Lemmas.VolumeD
import Femio.Lemmas.SurfaceSimilarity
import Femio.Lemmas.SurfaceProps
import Femio.Lemmas.CoreProps
import Femio.Lemmas.FistrScan
import Femio.Lemmas.ListLemmas
import Mathlib.Data.List.Perm.Basic

/-! # C10 — the extracted / exported surface is the outward-oriented closed boundary

The face tables are regenerated from /repo on every run (`Femio/Gen/Tables.lean`), so the `decide` / `ring` statements
over them are re-checked against the current source. The Boolean hypotheses of `Model/Surface.lean` (`balB`,
`conformingB`, `mirrorConformingB`) the driver evaluates on every generated mesh (`c10.surface` reply); `solidMeshB`
(element types and arities of the volume kernels) is not among its flags. -/
namespace Femio.C10
open Core Faces V3 Geom Femio.Gen

/-- each directed edge of the face table occurs once and its reverse once -/
def closedTable (fs : List (List Nat)) : Bool :=
  let es := edgesOf fs
  es.all fun e => es.count e == 1 && es.count (e.2, e.1) == 1

/-- For every solid element type the regenerated face table is a closed oriented surface:
    every directed edge is used exactly once and its reverse exactly once; and the table only uses local node
    numbers below the arity. -/
theorem C10_element_closed :
    ∀ ty ∈ [8, 9, 10, 12, 14, 16],
      closedTable (faceTable ty) = true ∧ (faceTable ty).all (fun f => f.all (· < arity ty)) = true ∧
      (faceTable ty ≠ []) := by decide +kernel

/-- non-vacuity: the hex table has 6 faces and 24 directed edges -/
example : (faceTable 14).length = 6 ∧ (edgesOf (faceTable 14)).length = 24 := by decide +kernel

/-- For an element of type tet / tet2 / pyr / prism / hex with the right number of nodes
    and *any* node coordinates in any commutative ring, the fluxes of `x/3` through the faces of the regenerated
    table (triangle: `det`, quadrilateral: centroid fan) add up to femio's signed "centroid" volume kernel
    (both ×24). Hence the table is oriented outwards exactly when the signed volume is positive. -/
theorem C10_element_outward {R : Type} [CommRing R] (pt : Nat → V3 R) (e : Elem) (h : solidB e = true) :
    sumR 0 ((elemFaces e).map (faceFlux24 4 0 pt)) = elemVol24 4 0 pt e :=
  elem_flux pt e h

/-- non-vacuity: the unit cube with femio's hex numbering has flux 24 = 24 · volume 1 -/
def cubePt : Nat → V3 Int
  | 0 => ⟨0, 0, 0⟩ | 1 => ⟨1, 0, 0⟩ | 2 => ⟨1, 1, 0⟩ | 3 => ⟨0, 1, 0⟩
  | 4 => ⟨0, 0, 1⟩ | 5 => ⟨1, 0, 1⟩ | 6 => ⟨1, 1, 1⟩ | _ => ⟨0, 1, 1⟩
example : solidB ⟨1, 14, [0, 1, 2, 3, 4, 5, 6, 7]⟩ = true ∧
    elemVol24 4 0 cubePt ⟨1, 14, [0, 1, 2, 3, 4, 5, 6, 7]⟩ = 24 ∧
    sumR 0 ((elemFaces ⟨1, 14, [0, 1, 2, 3, 4, 5, 6, 7]⟩).map (faceFlux24 4 0 cubePt)) = 24 := by decide +kernel

/-- **C10_boundary_spec (np.unique branch).** `_extract_surface` returns exactly the faces whose sorted node tuple
    occurs once among all faces — each once (it is a permutation of that sub-list), in the lexicographic order of
    the sorted tuples. -/
theorem C10_boundary_spec (fs : List Face) :
    (boundaryUnique fs).Perm (fs.filter fun f => decide ((fs.map key).count (key f) = 1)) ∧
    (boundaryUnique fs).Pairwise (fun f g => keyLe f g = true) ∧
    ∀ f, f ∈ boundaryUnique fs ↔ f ∈ fs ∧ (fs.map key).count (key f) = 1 := by
  have hB : boundaryB fs = fs.filter fun f => decide ((fs.map key).count (key f) = 1) := by
    unfold boundaryB
    apply List.filter_congr
    intro f _
    rw [fiberB_length]
    by_cases h : (fs.map key).count (key f) = 1 <;> simp [h]
  refine ⟨?_, ?_, ?_⟩
  · rw [← hB]; exact sortBy_perm _ _
  · exact sortBy_pairwise keyLe (fun _ _ => lexLe_total _ _) (fun _ _ _ => lexLe_trans _ _ _) _
  · intro f
    show f ∈ sortBy keyLe (boundaryB fs) ↔ _
    rw [(sortBy_perm keyLe (boundaryB fs)).mem_iff, hB]
    simp

/-- **C10_boundary_spec (lexsort branch)**, `extract_surface_fistr`: after the lexsort, "differs from the previous
    and from the next row" keeps exactly the rows whose 3-node key occurs once. -/
theorem C10_fistr_scan_spec (es : List Elem) :
    boundaryLexScan es =
      let s := sortBy lexLe (fistrRows es)
      (s.filter fun r => decide ((s.map (·.take 3)).count (r.take 3) = 1)).map (·.drop 3) :=
  boundaryLexScan_eq es

/-- non-vacuity for both: two tets glued along a face (ids 10..14): 6 boundary faces, 6 (element, face) rows -/
def twoTetElems : List Elem := [⟨7, 8, [10, 11, 12, 13]⟩, ⟨3, 8, [11, 12, 13, 14]⟩]
example : (boundaryUnique (allFaces [twoTetElems])).length = 6 ∧
    boundaryLexScan twoTetElems = [[7, 1], [7, 2], [7, 4], [3, 2], [3, 4], [3, 3]] := by decide +kernel

/-- If every element is closed (`balB` on all directed edges — implied by `C10_element_closed`
    for well-formed elements and evaluated by the driver) and the mesh is conforming (`conformingB`: every face key
    is used once, or the faces sharing it have balanced directed edges), then in the extracted surface every
    directed edge occurs exactly as often as its reverse. -/
theorem C10_closed (fs : List Face) (hall : balB (edgesOf fs) = true) (hconf : conformingB fs = true) :
    ∀ e : Nat × Nat, (edgesOf (boundaryUnique fs)).count e = (edgesOf (boundaryUnique fs)).count (e.2, e.1) := by
  intro e
  have hp : (edgesOf (boundaryUnique fs)).Perm (edgesOf (boundaryB fs)) := by
    unfold edgesOf
    exact (sortBy_perm keyLe (boundaryB fs)).flatMap_right _
  rw [hp.count_eq, hp.count_eq]
  exact surface_closed fs hall hconf e

/-- **C10_closed (manifold edges).** If moreover an undirected edge lies on exactly two surface faces, these
    traverse it in opposite directions (once each way). -/
theorem C10_closed_manifold (fs : List Face) (hall : balB (edgesOf fs) = true) (hconf : conformingB fs = true)
    (e : Nat × Nat)
    (h2 : (edgesOf (boundaryUnique fs)).count e + (edgesOf (boundaryUnique fs)).count (e.2, e.1) = 2) :
    (edgesOf (boundaryUnique fs)).count e = 1 ∧ (edgesOf (boundaryUnique fs)).count (e.2, e.1) = 1 := by
  have := C10_closed fs hall hconf e
  omega

/-- non-vacuity: the two glued tets satisfy both hypotheses, and edge (10, 11) is used once each way -/
example : balB (edgesOf (allFaces [twoTetElems])) = true ∧ conformingB (allFaces [twoTetElems]) = true ∧
    (edgesOf (boundaryUnique (allFaces [twoTetElems]))).count (10, 11) = 1 ∧
    (edgesOf (boundaryUnique (allFaces [twoTetElems]))).count (11, 10) = 1 := by decide +kernel

/-- For a mesh of tet / tet2 / pyr / prism / hex elements (`solidMeshB`) that is conforming in the
    strict sense (`mirrorConformingB`: a face key is used once, or by exactly two faces which are mirror images),
    the flux of `x/3` through the extracted surface equals the sum of the signed element volumes (centroid
    kernels), for any coordinates in any commutative ring. -/
theorem C10_volume {R : Type} [CommRing R] (pt : Nat → V3 R) (blocks : List (List Elem))
    (hsolid : solidMeshB blocks = true) (hconf : mirrorConformingB (allFaces blocks) = true) :
    sumR 0 ((boundaryUnique (allFaces blocks)).map (faceFlux24 4 0 pt)) = totalVol24 4 0 pt blocks := by
  rw [← volume_of_conforming pt blocks hsolid hconf]
  unfold surfaceFlux24
  rw [sumR_eq_sum, sumR_eq_sum]
  exact ((sortBy_perm keyLe (boundaryB (allFaces blocks))).map _).sum_eq

/-- non-vacuity: two positive tets glued along a face, volumes 1/6 + 1/6 (×24 = 8) -/
def twoTetPt : Nat → V3 Int
  | 10 => ⟨0, 0, 0⟩ | 11 => ⟨1, 0, 0⟩ | 12 => ⟨0, 1, 0⟩ | 13 => ⟨0, 0, 1⟩ | _ => ⟨1, 1, 1⟩
example : solidMeshB [twoTetElems] = true ∧ mirrorConformingB (allFaces [twoTetElems]) = true ∧
    totalVol24 4 0 twoTetPt [twoTetElems] = 12 ∧
    sumR 0 ((boundaryUnique (allFaces [twoTetElems])).map (faceFlux24 4 0 twoTetPt)) = 12 := by decide +kernel

/-! ## absolute scale and far offset (the surface itself is a function of ids and connectivity only) -/

/-- ABSOLUTE SCALE: if every node is scaled by `s` (micrometre- or kilometre-sized copies of a
    mesh), the flux of `x/3` through ANY list of triangles / quadrilaterals - in particular the volume enclosed by the
    extracted surface, whose faces do not depend on the coordinates at all (`boundaryUnique (allFaces blocks)` has no
    coordinate argument) - is multiplied by exactly `s³`; no hypothesis on the mesh, any commutative ring. -/
theorem C10_flux_similarity {R : Type} [CommRing R] (s : R) (pt : Nat → V3 R) (fs : List Face) :
    sumR 0 (fs.map (faceFlux24 4 0 (fun i => V3.smul s (pt i)))) = s ^ 3 * sumR 0 (fs.map (faceFlux24 4 0 pt)) := by
  rw [sumR_eq_sum, sumR_eq_sum]
  exact sum_faceFlux24_smul s pt fs

/-- On a conforming solid mesh the sum of the element volumes ("centroid" kernels) scales
    with `s³` as well, so "enclosed volume = sum of the element volumes" (`C10_volume`) holds at every absolute scale
    with both sides transformed in the same way. -/
theorem C10_volume_similarity {R : Type} [CommRing R] (s : R) (pt : Nat → V3 R) (blocks : List (List Elem))
    (hsolid : solidMeshB blocks = true) (hconf : mirrorConformingB (allFaces blocks) = true) :
    totalVol24 4 0 (fun i => V3.smul s (pt i)) blocks = s ^ 3 * totalVol24 4 0 pt blocks := by
  rw [← C10_volume _ blocks hsolid hconf, ← C10_volume pt blocks hsolid hconf]
  exact C10_flux_similarity s pt _

/-- FAR OFFSET: on a conforming solid mesh the volume enclosed by the extracted
    surface does not change when all nodes are translated by `t` (UTM-like coordinates), although the flux through a
    single face does: the surface is closed.  (Exact arithmetic; the float kernels of femio that work in absolute
    coordinates lose this far from the origin, which is what the oracle's conditioning-aware tolerance is about.) -/
theorem C10_enclosed_volume_translate {R : Type} [CommRing R] (t : V3 R) (pt : Nat → V3 R) (blocks : List (List Elem))
    (hsolid : solidMeshB blocks = true) (hconf : mirrorConformingB (allFaces blocks) = true) :
    sumR 0 ((boundaryUnique (allFaces blocks)).map (faceFlux24 4 0 (fun i => V3.add (pt i) t)))
      = sumR 0 ((boundaryUnique (allFaces blocks)).map (faceFlux24 4 0 pt)) := by
  rw [C10_volume _ blocks hsolid hconf, C10_volume pt blocks hsolid hconf]
  exact totalVol24_translate pt t blocks hsolid

/-- non-vacuity: the two glued tets scaled by 3 enclose 27 times the volume (12 · 27 = 324), and moved by
    (1000, -2000, 500) the same volume, while the flux through their first surface face alone changes -/
example : sumR 0 ((boundaryUnique (allFaces [twoTetElems])).map
      (faceFlux24 4 0 (fun i => V3.smul 3 (twoTetPt i)))) = 324 ∧
    sumR 0 ((boundaryUnique (allFaces [twoTetElems])).map
      (faceFlux24 4 0 (fun i => V3.add (twoTetPt i) ⟨1000, -2000, 500⟩))) = 12 ∧
    ((boundaryUnique (allFaces [twoTetElems])).head?.map
      (faceFlux24 4 0 (fun i => V3.add (twoTetPt i) ⟨1000, -2000, 500⟩)))
      ≠ ((boundaryUnique (allFaces [twoTetElems])).head?.map (faceFlux24 4 0 twoTetPt)) := by decide +kernel

theorem number_snd (s : Nat) (fs : List Face) : (number s fs).map Prod.snd = fs := by
  unfold number
  rw [List.map_map]
  have : (Prod.snd ∘ fun (x : Nat × Face) => (s + x.1 + 1, x.2)) = Prod.snd := by funext x; rfl
  rw [this, List.map_snd_zip]
  simp

theorem toPositions_decode (nodeIds : List Nat) (fs : List Face) (ps : List (List Nat))
    (h : toPositions nodeIds fs = some ps) : ps.map (fun p => p.map fun k => nodeIds[k]?) = fs.map (·.map some) :=
  map_of_mapM _ _ _ (fun f p hp => map_of_mapM _ _ _ (fun i k hk => by
    obtain ⟨hk', hv⟩ := idPos_some hk
    rw [List.getElem?_eq_getElem hk', hv]) f p hp) fs ps h

/-- (i) the elements of `to_surface()` are the faces of `extract_surface()` in the same
    order (triangles numbered 1.., quadrilaterals continuing), (ii) the storage positions returned by
    `extract_surface()` — which are what the OBJ writer prints, plus one — point back at exactly the node ids of
    those faces. -/
theorem C10_same_face_set (nodeIds : List Nat) (blocks : List (List Elem)) :
    (toSurface nodeIds blocks).tris.map Prod.snd = (surfaceIds blocks).1 ∧
    (toSurface nodeIds blocks).quads.map Prod.snd = (surfaceIds blocks).2 ∧
    (toSurface nodeIds blocks).tris.map Prod.fst = (List.range (surfaceIds blocks).1.length).map (· + 1) ∧
    ∀ t q, extractSurface nodeIds blocks = some (t, q) →
      t.map (fun p => p.map fun k => nodeIds[k]?) = (surfaceIds blocks).1.map (·.map some) ∧
      q.map (fun p => p.map fun k => nodeIds[k]?) = (surfaceIds blocks).2.map (·.map some) := by
  refine ⟨?_, ?_, ?_, ?_⟩
  · simp only [toSurface]; exact number_snd _ _
  · simp only [toSurface]; exact number_snd _ _
  · simp only [toSurface, number, List.map_map]
    apply List.ext_getElem <;> simp
  · intro t q h
    unfold extractSurface at h
    simp only [Option.bind_eq_bind, Option.bind_eq_some_iff, Option.pure_def, Option.some.injEq,
      Prod.mk.injEq] at h
    obtain ⟨ti, hti, qi, hqi, rfl, rfl⟩ := h
    exact ⟨toPositions_decode _ _ _ hti, toPositions_decode _ _ _ hqi⟩

/-- **C10_same_face_set (FrontISTR list).** For a block of tetrahedra the 3-node keys carried by the rows of
    `extract_surface_fistr` are, row by row, the sorted node tuples of the faces of the generic face table:
    FrontISTR face number k of an element is the (k−1)-th face of `_generate_all_faces` as a node set. Together
    with the two `C10_boundary_spec` statements both algorithms therefore select the faces whose node set
    occurs once in the same list of keys. -/
theorem C10_fistr_same_keys (es : List Elem) (h : es.all (fun e => e.ty == 8 && e.conn.length == 4) = true) :
    (fistrRows es).map (·.take 3) = (allFaces [es]).map key ∧
    (fistrRows es).map (·.drop 3) = es.flatMap fun e => [[e.id, 1], [e.id, 2], [e.id, 3], [e.id, 4]] := by
  induction es with
  | nil => exact ⟨rfl, rfl⟩
  | cons e t ih =>
    simp only [List.all_cons, Bool.and_eq_true, beq_iff_eq] at h
    obtain ⟨⟨hty, hlen⟩, ht⟩ := h
    obtain ⟨id, ty, conn⟩ := e
    simp only at hty hlen
    subst hty
    obtain ⟨a, b, c, d, rfl⟩ := len4 conn hlen
    have ih' := ih ht
    have hk : ∀ x y z (r : List Nat), (key [x, y, z] ++ r).take 3 = key [x, y, z] := fun x y z r =>
      List.take_left' (key_length _)
    have hd : ∀ x y z (r : List Nat), (key [x, y, z] ++ r).drop 3 = r := fun x y z r =>
      List.drop_left' (key_length _)
    have e1 : allFaces [(⟨id, 8, [a, b, c, d]⟩ : Elem) :: t] = elemFaces ⟨id, 8, [a, b, c, d]⟩ ++ allFaces [t] := by
      simp [allFaces]
    rw [fistrRows_cons_tet, e1, elemFaces_tet]
    constructor
    · rw [List.map_append, List.map_append, ih'.1]
      have h1 : key [a, c, b] = key [a, b, c] := key_eq_of_perm ((List.Perm.swap b c []).cons a)
      have h4 : key [c, a, d] = key [a, d, c] := key_eq_of_perm (List.perm_append_comm (l₁ := [c]))
      simp only [List.map_cons, List.map_nil, hk, h1, h4]
    · rw [List.map_append, ih'.2]
      simp only [List.map_cons, List.map_nil, hd, List.flatMap_cons]

/-- the FrontISTR (element, face number) table regenerated from the source for one tet with ids 1..4 numbers
    its four rows 1, 2, 4, 3 in key order — what `C10_fistr_same_keys` and the lexsort predict -/
theorem C10_fistr_numbers : boundaryLexScan [⟨7, 8, [1, 2, 3, 4]⟩] = fistrTetFaceRows := by decide +kernel

/-- Reading back what the OBJ writer wrote gives the same vertex tokens in the same
    (storage) order and the same faces in the same order (as 1-based positions, which are the node ids the reader
    assigns) — for any vertex tokens and any face blocks, including the empty line an empty block produces. -/
theorem C10_obj_roundtrip (verts : List (List Obj.Token)) (blocks : List (List (List Nat))) :
    Obj.readObj (Obj.writeObj verts blocks) = some (verts, blocks.flatten.map (·.map (· + 1))) := by
  unfold Obj.readObj Obj.writeObj
  simp only [List.filterMap_append, Obj.filterMap_isF_v, Obj.filterMap_isV_v, (Obj.filterMap_blocks blocks).1,
    (Obj.filterMap_blocks blocks).2, List.nil_append, List.append_nil]
  rw [Obj.mapM_faces]
  rfl

/-- non-vacuity: a file with two vertices, an empty triangle block and one quadrilateral -/
example : Obj.readObj (Obj.writeObj [[['0'], ['1'], ['2']], [['3'], ['4'], ['5']]] [[], [[3, 0, 1, 2]]])
    = some ([[['0'], ['1'], ['2']], [['3'], ['4'], ['5']]], [[4, 1, 2, 3]]) := by decide +kernel

/-- Character level: the text of any token lines (tokens non-empty and free of whitespace;
    a line = its tokens joined by single blanks, terminated by a newline) is lexed back — lines between newlines,
    each split at Python whitespace — to the same lines in the same order, minus the empty ones (which
    `StringSeries.read_file` skips and which are neither `v` nor `f` lines). -/
theorem C10_obj_lex_print (ls : List Obj.Line) (h : Obj.LinesOK ls) :
    Obj.tokenize (Obj.render ls) = ls.filter fun l => !l.isEmpty :=
  Obj.tokenize_render ls h

/-- `C10_obj_roundtrip` through the characters of the file: for any vertices whose
    coordinate numerals are non-empty whitespace-free tokens (`vertsOKB`, evaluated by the driver on every case) and
    any face blocks — including an empty block, which writes one empty line —, reading the characters the OBJ writer
    produced (`v x y z` / `f i j k [l]` lines, newline-terminated) gives the same vertex tokens in storage order
    and the same faces in the same order as 1-based positions. -/
theorem C10_obj_roundtrip_chars (verts : List (List Obj.Token)) (blocks : List (List (List Nat)))
    (h : Obj.vertsOKB verts = true) :
    Obj.readObj (Obj.tokenize (Obj.render (Obj.writeObj verts blocks)))
      = some (verts, blocks.flatten.map (·.map (· + 1))) := by
  rw [Obj.tokenize_render _ (Obj.writeObj_linesOK verts blocks h), Obj.readObj_filter]
  exact C10_obj_roundtrip verts blocks

/-- non-vacuity: two vertices, an empty triangle block (one empty line in the file) and one quadrilateral -/
example : Obj.render (Obj.writeObj [["0.5".toList, "-1e-05".toList, "2.0".toList], ["3.0".toList, "NaN".toList, "inf".toList]] [[], [[3, 0, 1, 10]]])
    = "v 0.5 -1e-05 2.0\nv 3.0 NaN inf\n\nf 4 1 2 11\n".toList := by
  -- a string literal is `String.ofList` of its characters: rewriting `toList` of it here, and in the examples below,
  -- spares the kernel the decoding of the literal, which is quadratic in its length
  simp only [String.toList_ofList (l := _)]
  decide +kernel
example : Obj.vertsOKB [["0.5".toList, "-1e-05".toList, "2.0".toList], ["3.0".toList, "NaN".toList, "inf".toList]] = true := by
  simp only [String.toList_ofList (l := _)]
  decide +kernel
example : Obj.readObj (Obj.tokenize "v 0.5 -1e-05 2.0\nv 3.0 NaN inf\n\nf 4 1 2 11\n".toList)
    = some ([["0.5".toList, "-1e-05".toList, "2.0".toList], ["3.0".toList, "NaN".toList, "inf".toList]], [[4, 1, 2, 11]]) := by
  simp only [String.toList_ofList (l := _)]
  decide +kernel

/-- Size independence of the text: a writer that emits the lines of the file chunk by chunk
    (ANY cut `cs` of the lines into consecutive blocks – 65536 rows per block, one block per facet shape, …), every
    row terminated by its newline, produces exactly the text of the lines written at once. -/
theorem C10_obj_blockwise (cs : List (List Obj.Line)) : Obj.renderChunks cs = Obj.render cs.flatten := by
  induction cs with
  | nil => rfl
  | cons c t ih =>
    have ih' : List.flatMap Obj.render t = Obj.render t.flatten := ih
    simp only [Obj.renderChunks, List.flatMap_cons, List.flatten_cons, ih']
    simp only [Obj.render, Femio.Text.unlines, List.map_append, List.flatMap_append]

/-- Hence the character-level round trip holds for every block-wise writer of that
    kind, whatever the number of faces and the block size. -/
theorem C10_obj_roundtrip_blockwise (verts : List (List Obj.Token)) (blocks : List (List (List Nat)))
    (cs : List (List Obj.Line)) (hcs : cs.flatten = Obj.writeObj verts blocks) (h : Obj.vertsOKB verts = true) :
    Obj.readObj (Obj.tokenize (Obj.renderChunks cs)) = some (verts, blocks.flatten.map (·.map (· + 1))) := by
  rw [C10_obj_blockwise, hcs]
  exact C10_obj_roundtrip_chars verts blocks h

/-- non-vacuity: three faces written in chunks of two rows -/
example : Obj.renderChunks [[Obj.fLine [0, 1, 2], Obj.fLine [0, 2, 3]], [Obj.fLine [0, 3, 1]]]
    = "f 1 2 3\nf 1 3 4\nf 1 4 2\n".toList := by
  simp only [String.toList_ofList (l := _)]
  decide +kernel

/-- The block-wise writer that joins the rows of a chunk by newlines and
    writes one newline at the very end (seeded change C10-8) is NOT size independent: with one chunk it writes the
    correct text, with two chunks the rows at the chunk boundary share a line (`f 1 2 3f 1 3 4`) and the file cannot be
    read back. -/
theorem C10_obj_blockwise_joined_counterexample :
    Obj.renderChunksJoined [[Obj.fLine [0, 1, 2], Obj.fLine [0, 2, 3]]] = Obj.render [Obj.fLine [0, 1, 2], Obj.fLine [0, 2, 3]]
    ∧ Obj.renderChunksJoined [[Obj.fLine [0, 1, 2]], [Obj.fLine [0, 2, 3]]] = "f 1 2 3f 1 3 4\n".toList
    ∧ Obj.readObj (Obj.tokenize (Obj.renderChunksJoined [[Obj.fLine [0, 1, 2]], [Obj.fLine [0, 2, 3]]])) = none := by
  simp only [String.toList_ofList (l := _)]
  decide +kernel

end Femio.C10
