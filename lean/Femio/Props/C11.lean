import Femio.Model.GeomKernels
import Femio.Model.Brick
import Femio.Lemmas.GeomProps2
import Femio.Lemmas.KernelProps
import Femio.Lemmas.LookupProps
import Femio.Lemmas.BrickProps
import Femio.Props.C11History
import Mathlib.Tactic.NormNum
/-! # C11 — element areas / volumes / normals are geometric invariants and add up

Kernels are the transcriptions in `Model/Geom*.lean`, `Model/GeomKernels.lean`; each returns a fixed integer
multiple of the metric, so a statement `K (A·p) = det A · K p` is a statement about the volume itself. -/
open V3 Geom
namespace Femio.C11

section Ring
variable {R : Type} [CommRing R]

/-- `_calculate_element_volumes_tet_like_core (tet, tet2)` (6·V) is translation invariant -/
theorem C11_tet_translate (t p0 p1 p2 p3 : V3 R) :
    tet6 (V3.add p0 t) (V3.add p1 t) (V3.add p2 t) (V3.add p3 t) = tet6 p0 p1 p2 p3 :=
  tet6_translate t p0 p1 p2 p3

/-- … and a linear map `A` multiplies it by `det A` (rotation: 1, reflection: −1, scaling `s`: s³) -/
theorem C11_tet_linear (m : M3 R) (p0 p1 p2 p3 : V3 R) :
    tet6 (m.app p0) (m.app p1) (m.app p2) (m.app p3) = m.det * tet6 p0 p1 p2 p3 :=
  tet6_linear m p0 p1 p2 p3

/-- `_calculate_element_volumes_hex_with_nodes (hex, mode="linear")` (6·V) is translation invariant -/
theorem C11_hexLin_translate (t p0 p1 p2 p3 p4 p5 p6 p7 : V3 R) :
    hexLin6 (V3.add p0 t) (V3.add p1 t) (V3.add p2 t) (V3.add p3 t) (V3.add p4 t) (V3.add p5 t) (V3.add p6 t) (V3.add p7 t) = hexLin6 p0 p1 p2 p3 p4 p5 p6 p7 :=
  hexLin6_translate t p0 p1 p2 p3 p4 p5 p6 p7

/-- … and a linear map `A` multiplies it by `det A` (rotation: 1, reflection: −1, scaling `s`: s³) -/
theorem C11_hexLin_linear (m : M3 R) (p0 p1 p2 p3 p4 p5 p6 p7 : V3 R) :
    hexLin6 (m.app p0) (m.app p1) (m.app p2) (m.app p3) (m.app p4) (m.app p5) (m.app p6) (m.app p7) = m.det * hexLin6 p0 p1 p2 p3 p4 p5 p6 p7 :=
  hexLin6_linear m p0 p1 p2 p3 p4 p5 p6 p7

/-- `_calculate_element_volumes_hex_centroid (hex, mode="centroid")` (24·V) is translation invariant -/
theorem C11_hexC_translate (t p0 p1 p2 p3 p4 p5 p6 p7 : V3 R) :
    hexC24 (V3.add p0 t) (V3.add p1 t) (V3.add p2 t) (V3.add p3 t) (V3.add p4 t) (V3.add p5 t) (V3.add p6 t) (V3.add p7 t) = hexC24 p0 p1 p2 p3 p4 p5 p6 p7 :=
  hexC24_translate t p0 p1 p2 p3 p4 p5 p6 p7

/-- … and a linear map `A` multiplies it by `det A` (rotation: 1, reflection: −1, scaling `s`: s³) -/
theorem C11_hexC_linear (m : M3 R) (p0 p1 p2 p3 p4 p5 p6 p7 : V3 R) :
    hexC24 (m.app p0) (m.app p1) (m.app p2) (m.app p3) (m.app p4) (m.app p5) (m.app p6) (m.app p7) = m.det * hexC24 p0 p1 p2 p3 p4 p5 p6 p7 :=
  hexC24_linear m p0 p1 p2 p3 p4 p5 p6 p7

/-- `_calculate_element_volumes_hex_gaussian (any abscissa g; the code uses 0.5773502692)` (512·V) is translation invariant -/
theorem C11_hexGauss_translate (g : R) (t p0 p1 p2 p3 p4 p5 p6 p7 : V3 R) :
    hexGauss512 1 g (V3.add p0 t) (V3.add p1 t) (V3.add p2 t) (V3.add p3 t) (V3.add p4 t) (V3.add p5 t) (V3.add p6 t) (V3.add p7 t) = hexGauss512 1 g p0 p1 p2 p3 p4 p5 p6 p7 := by
  simp only [hexGauss512, sub_add_add]

/-- … and a linear map `A` multiplies it by `det A` (rotation: 1, reflection: −1, scaling `s`: s³) -/
theorem C11_hexGauss_linear (m : M3 R) (g : R) (p0 p1 p2 p3 p4 p5 p6 p7 : V3 R) :
    hexGauss512 1 g (m.app p0) (m.app p1) (m.app p2) (m.app p3) (m.app p4) (m.app p5) (m.app p6) (m.app p7) = m.det * hexGauss512 1 g p0 p1 p2 p3 p4 p5 p6 p7 := by
  simp only [hexGauss512, ← M3.app_sub, ← M3.app_smul, ← M3.app_add, det6_app, ← mul_add]

/-- `_calculate_element_volumes_pyr` (6·V) is translation invariant -/
theorem C11_pyrLin_translate (t p0 p1 p2 p3 p4 : V3 R) :
    pyrLin6 (V3.add p0 t) (V3.add p1 t) (V3.add p2 t) (V3.add p3 t) (V3.add p4 t) = pyrLin6 p0 p1 p2 p3 p4 :=
  pyrLin6_translate t p0 p1 p2 p3 p4

/-- … and a linear map `A` multiplies it by `det A` (rotation: 1, reflection: −1, scaling `s`: s³) -/
theorem C11_pyrLin_linear (m : M3 R) (p0 p1 p2 p3 p4 : V3 R) :
    pyrLin6 (m.app p0) (m.app p1) (m.app p2) (m.app p3) (m.app p4) = m.det * pyrLin6 p0 p1 p2 p3 p4 := by
  simp only [pyrLin6, tet6_linear]; ring

/-- `_calculate_element_volumes_pyr_centroid` (24·V) is translation invariant -/
theorem C11_pyrC_translate (t p0 p1 p2 p3 p4 : V3 R) :
    pyrC24 4 (V3.add p0 t) (V3.add p1 t) (V3.add p2 t) (V3.add p3 t) (V3.add p4 t) = pyrC24 4 p0 p1 p2 p3 p4 :=
  pyrC24_translate t p0 p1 p2 p3 p4

/-- … and a linear map `A` multiplies it by `det A` (rotation: 1, reflection: −1, scaling `s`: s³) -/
theorem C11_pyrC_linear (m : M3 R) (p0 p1 p2 p3 p4 : V3 R) :
    pyrC24 4 (m.app p0) (m.app p1) (m.app p2) (m.app p3) (m.app p4) = m.det * pyrC24 4 p0 p1 p2 p3 p4 := by
  simp only [pyrC24, quadC4_linear, M3.det_app]; ring

/-- `_calculate_element_volumes_prism` (6·V) is translation invariant -/
theorem C11_prismLin_translate (t p0 p1 p2 p3 p4 p5 : V3 R) :
    prismLin6 (V3.add p0 t) (V3.add p1 t) (V3.add p2 t) (V3.add p3 t) (V3.add p4 t) (V3.add p5 t) = prismLin6 p0 p1 p2 p3 p4 p5 :=
  prismLin6_translate t p0 p1 p2 p3 p4 p5

/-- … and a linear map `A` multiplies it by `det A` (rotation: 1, reflection: −1, scaling `s`: s³) -/
theorem C11_prismLin_linear (m : M3 R) (p0 p1 p2 p3 p4 p5 : V3 R) :
    prismLin6 (m.app p0) (m.app p1) (m.app p2) (m.app p3) (m.app p4) (m.app p5) = m.det * prismLin6 p0 p1 p2 p3 p4 p5 := by
  simp only [prismLin6, tet6_linear]; ring

/-- `_calculate_element_volumes_prism_centroid` (24·V) is translation invariant -/
theorem C11_prismC_translate (t p0 p1 p2 p3 p4 p5 : V3 R) :
    prismC24 4 (V3.add p0 t) (V3.add p1 t) (V3.add p2 t) (V3.add p3 t) (V3.add p4 t) (V3.add p5 t) = prismC24 4 p0 p1 p2 p3 p4 p5 :=
  prismC24_translate t p0 p1 p2 p3 p4 p5

/-- … and a linear map `A` multiplies it by `det A` (rotation: 1, reflection: −1, scaling `s`: s³) -/
theorem C11_prismC_linear (m : M3 R) (p0 p1 p2 p3 p4 p5 : V3 R) :
    prismC24 4 (m.app p0) (m.app p1) (m.app p2) (m.app p3) (m.app p4) (m.app p5) = m.det * prismC24 4 p0 p1 p2 p3 p4 p5 :=
  prismC24_linear m p0 p1 p2 p3 p4 p5

/-- `_calculate_element_volumes_hexprism` (6·V; both modes call it) is translation invariant -/
theorem C11_hexprism_translate (t : V3 R) (p : Fin 12 → V3 R) :
    hexprism6 (fun k => V3.add (p k) t) = hexprism6 p := by
  simp only [hexprism6, hexLin6_translate]

/-- … and a linear map multiplies it by `det A` -/
theorem C11_hexprism_linear (m : M3 R) (p : Fin 12 → V3 R) :
    hexprism6 (fun k => m.app (p k)) = m.det * hexprism6 p := by
  simp only [hexprism6, hexLin6_linear]; ring

/-- `_calculate_element_volumes_polyhedron_core` (6·V, any face list): a linear map multiplies it by `det A` -/
theorem C11_polyFan_linear (m : M3 R) (faces : List (List (V3 R))) :
    polyFan6 (faces.map (·.map m.app)) = m.det * polyFan6 faces := by
  simp only [polyFan6, List.map_map]
  exact sum_map_eq_mul fun f _ => faceFan6_app m f

/-- … under a translation `t` every face contributes `t · (its doubled area vector)`; hence the volume of a closed
    polyhedron (area vectors sum to zero) is translation invariant -/
theorem C11_polyFan_translate (t : V3 R) (faces : List (List (V3 R)))
    (hclosed : vsum (faces.map polyFanCross) = vzero) :
    polyFan6 (faces.map (·.map (V3.add · t))) = polyFan6 faces := by
  rw [polyFan6_add, hclosed, dot_vzero, add_zero]

/-- `_calculate_element_volumes_polyhedron_centroid_core` (6·V, `kinv k` = 1/k): linear maps multiply it by `det A` -/
theorem C11_polyC_linear (m : M3 R) (kinv : Nat → R) (faces : List (List (V3 R))) :
    polyC6 kinv (faces.map (·.map m.app)) = m.det * polyC6 kinv faces := by
  simp only [polyC6, List.map_map]
  refine sum_map_eq_mul fun f _ => ?_
  simp only [Function.comp, faceCentroidK_app, List.length_map]; ring

/-- uniform scaling by `s` has determinant `s³` and acts on area vectors by `s²` -/
theorem C11_det_scale (s : R) (v : V3 R) :
    (scaleM s).det = s * s * s ∧ (scaleM s).app v = smul s v ∧ (cof (scaleM s)).app v = smul (s * s) v :=
  ⟨scaleM_det s, scaleM_app s v, scaleM_cof_app s v⟩

/-- an orthogonal matrix has `det² = 1`; in a domain `det = 1` (rotation) or `det = −1` (reflection) -/
theorem C11_det_orthogonal [IsDomain R] (m : M3 R) (h : Orthogonal m) : m.det = 1 ∨ m.det = -1 := by
  have h2 := det_sq_of_orthogonal m h
  have : (m.det - 1) * (m.det + 1) = 0 := by linear_combination h2
  rcases mul_eq_zero.mp this with h' | h'
  · left; exact sub_eq_zero.mp h'
  · right; exact eq_neg_of_add_eq_zero_left h'

/-- tri: the doubled area vector `_calculate_tri_crosses` is translation invariant and transforms with `cof A` -/
theorem C11_tri_cof (m : M3 R) (t p0 p1 p2 : V3 R) :
    triCross (V3.add p0 t) (V3.add p1 t) (V3.add p2 t) = triCross p0 p1 p2 ∧
    triCross (m.app p0) (m.app p1) (m.app p2) = (cof m).app (triCross p0 p1 p2) :=
  ⟨triCross_add t p0 p1 p2, triCross_app m p0 p1 p2⟩

/-- quad "linear": both cross products (areas) and their sum (normal) -/
theorem C11_quadLin_cof (m : M3 R) (t p0 p1 p2 p3 : V3 R) :
    (quadLinCross1 (V3.add p0 t) (V3.add p1 t) (V3.add p2 t) (V3.add p3 t) = quadLinCross1 p0 p1 p2 p3 ∧
     quadLinCross2 (V3.add p0 t) (V3.add p1 t) (V3.add p2 t) (V3.add p3 t) = quadLinCross2 p0 p1 p2 p3 ∧
     quadLinNormal (V3.add p0 t) (V3.add p1 t) (V3.add p2 t) (V3.add p3 t) = quadLinNormal p0 p1 p2 p3) ∧
    (quadLinCross1 (m.app p0) (m.app p1) (m.app p2) (m.app p3) = (cof m).app (quadLinCross1 p0 p1 p2 p3) ∧
     quadLinCross2 (m.app p0) (m.app p1) (m.app p2) (m.app p3) = (cof m).app (quadLinCross2 p0 p1 p2 p3) ∧
     quadLinNormal (m.app p0) (m.app p1) (m.app p2) (m.app p3) = (cof m).app (quadLinNormal p0 p1 p2 p3)) :=
  ⟨⟨quadLinCross1_add t p0 p1 p2 p3, quadLinCross2_add t p0 p1 p2 p3, by simp only [quadLinNormal, quadLinCross1_add, quadLinCross2_add]⟩,
   ⟨quadLinCross1_app m p0 p1 p2 p3, quadLinCross2_app m p0 p1 p2 p3, by simp only [quadLinNormal, quadLinCross1_app, quadLinCross2_app, ← M3.app_add]⟩⟩

/-- quad "gaussian": the integrand at every Gauss point -/
theorem C11_quadGauss_cof (m : M3 R) (t : V3 R) (xi eta : R) (p0 p1 p2 p3 : V3 R) :
    quadGaussCross 1 xi eta (V3.add p0 t) (V3.add p1 t) (V3.add p2 t) (V3.add p3 t)
      = quadGaussCross 1 xi eta p0 p1 p2 p3 ∧
    quadGaussCross 1 xi eta (m.app p0) (m.app p1) (m.app p2) (m.app p3)
      = (cof m).app (quadGaussCross 1 xi eta p0 p1 p2 p3) :=
  ⟨quadGaussCross_add t xi eta p0 p1 p2 p3, quadGaussCross_app m xi eta p0 p1 p2 p3⟩

/-- quad "centroid" (area and normal) -/
theorem C11_quadC_cof (m : M3 R) (t p0 p1 p2 p3 : V3 R) :
    quadCrossC (V3.add p0 t) (V3.add p1 t) (V3.add p2 t) (V3.add p3 t) 4 = quadCrossC p0 p1 p2 p3 4 ∧
    quadCrossC (m.app p0) (m.app p1) (m.app p2) (m.app p3) 4 = (cof m).app (quadCrossC p0 p1 p2 p3 4) :=
  ⟨quadCrossC_add t p0 p1 p2 p3, quadCrossC_app m p0 p1 p2 p3⟩

/-- polygon, fan triangulation (`_calculate_element_area_polygon`, `_calculate_polygon_cross`), any number of nodes -/
theorem C11_polygonFan_cof (m : M3 R) (t : V3 R) (l : List (V3 R)) :
    polyFanCross (l.map (V3.add · t)) = polyFanCross l ∧
    polyFanCross (l.map m.app) = (cof m).app (polyFanCross l) := by
  constructor
  · cases l with
    | nil => rfl
    | cons a r =>
      simp only [List.map_cons, polyFanCross, consecPairs_map, List.map_map]
      exact congrArg vsum (List.map_congr_left fun ⟨b, c⟩ _ => triCross_add t a b c)
  · cases l with
    | nil => exact (app_vzero _).symm
    | cons a r =>
      simp only [List.map_cons, polyFanCross, consecPairs_map, List.map_map]
      exact vsum_map_eq_app fun ⟨b, c⟩ _ => triCross_app m a b c

/-- polygon, centroid kernel (`_calculate_polygon_cross_centroid`, times n², `n` = number of nodes): translation
    invariant and transformed by `cof A` -/
theorem C11_polygonC_cof (m : M3 R) (t : V3 R) (l : List (V3 R)) :
    polyCentroidCross (l.length : R) (l.map (V3.add · t)) = polyCentroidCross (l.length : R) l ∧
    polyCentroidCross (l.length : R) (l.map m.app) = (cof m).app (polyCentroidCross (l.length : R) l) := by
  constructor
  · simp only [polyCentroidCross, cycPairs_map, List.map_map, vsum_map_add]
    congr 1
    apply List.map_congr_left
    intro p _
    simp only [Function.comp, Prod.map, sub_smul_add]
  · simp only [polyCentroidCross, cycPairs_map, List.map_map, vsum_app]
    refine vsum_map_eq_app fun ⟨u, v⟩ _ => ?_
    simp only [Function.comp, Prod.map, ← M3.app_smul, ← M3.app_sub, M3.cross_app]

/-- rigid motions leave the radicand `|c|²` of every area unchanged -/
theorem C11_radicand_orthogonal (m : M3 R) (h : Orthogonal m) (c : V3 R) :
    normSq ((cof m).app c) = normSq c :=
  normSq_cof_of_orthogonal m h c

/-- uniform scaling multiplies every radicand by `s⁴` (areas by `s²`) -/
theorem C11_radicand_scale (s : R) (c : V3 R) :
    normSq ((cof (scaleM s)).app c) = (s * s) * (s * s) * normSq c := by
  rw [scaleM_cof_app, normSq_smul]

/-- normals rotate with the body: for orthogonal `Q`, `c(Q p) = det Q · Q c(p)` (a reflection flips the sign) -/
theorem C11_normal_rotates (m : M3 R) (h : Orthogonal m) (c : V3 R) :
    (cof m).app c = smul m.det (m.app c) :=
  cof_app_of_orthogonal m h c

/-- the radicands returned by the model for tri / quad (all modes) are invariant under rigid motions `p ↦ Q p + t` -/
theorem C11_shell_rads_rigid (m : M3 R) (h : Orthogonal m) (t : V3 R) (g : R) (p0 p1 p2 p3 : V3 R) :
    triRad (V3.add (m.app p0) t) (V3.add (m.app p1) t) (V3.add (m.app p2) t) = triRad p0 p1 p2 ∧
    quadLinRads (V3.add (m.app p0) t) (V3.add (m.app p1) t) (V3.add (m.app p2) t) (V3.add (m.app p3) t)
      = quadLinRads p0 p1 p2 p3 ∧
    quadGaussRads 1 g (V3.add (m.app p0) t) (V3.add (m.app p1) t) (V3.add (m.app p2) t) (V3.add (m.app p3) t)
      = quadGaussRads 1 g p0 p1 p2 p3 ∧
    quadCRad 4 (V3.add (m.app p0) t) (V3.add (m.app p1) t) (V3.add (m.app p2) t) (V3.add (m.app p3) t)
      = quadCRad 4 p0 p1 p2 p3 := by
  refine ⟨?_, ?_, ?_, ?_⟩
  · simp only [triRad, triCross_add, triCross_app, normSq_cof_of_orthogonal m h]
  · simp only [quadLinRads, quadLinCross1_add, quadLinCross2_add, quadLinCross1_app, quadLinCross2_app,
      normSq_cof_of_orthogonal m h]
  · simp only [quadGaussRads, quadGaussCross_add, quadGaussCross_app, normSq_cof_of_orthogonal m h]
  · simp only [quadCRad, quadCrossC_add, quadCrossC_app, normSq_cof_of_orthogonal m h]

/-- hex = parallelepiped: linear, centroid and Gaussian (any abscissa) all give `det(e1,e2,e3)` -/
theorem C11_hex_modes_agree_affine (g : R) (o e1 e2 e3 : V3 R) :
    hexLin6 o (V3.add o e1) (V3.add (V3.add o e1) e2) (V3.add o e2) (V3.add o e3) (V3.add (V3.add o e1) e3)
      (V3.add (V3.add (V3.add o e1) e2) e3) (V3.add (V3.add o e2) e3) = 6 * V3.det e1 e2 e3 ∧
    hexC24 o (V3.add o e1) (V3.add (V3.add o e1) e2) (V3.add o e2) (V3.add o e3) (V3.add (V3.add o e1) e3)
      (V3.add (V3.add (V3.add o e1) e2) e3) (V3.add (V3.add o e2) e3) = 24 * V3.det e1 e2 e3 ∧
    hexGauss512 1 g o (V3.add o e1) (V3.add (V3.add o e1) e2) (V3.add o e2) (V3.add o e3) (V3.add (V3.add o e1) e3)
      (V3.add (V3.add (V3.add o e1) e2) e3) (V3.add (V3.add o e2) e3) = 512 * V3.det e1 e2 e3 :=
  hex_modes_affine g o e1 e2 e3

/-- prism over a triangle: both modes give `det(e2,e1,e3) / 2` -/
theorem C11_prism_modes_agree_affine (o e1 e2 e3 : V3 R) :
    prismLin6 o (V3.add o e1) (V3.add o e2) (V3.add o e3) (V3.add (V3.add o e1) e3) (V3.add (V3.add o e2) e3)
      = 3 * V3.det e2 e1 e3 ∧
    prismC24 4 o (V3.add o e1) (V3.add o e2) (V3.add o e3) (V3.add (V3.add o e1) e3) (V3.add (V3.add o e2) e3)
      = 12 * V3.det e2 e1 e3 := by
  have hl : prismLin6 o (V3.add o e1) (V3.add o e2) (V3.add o e3) (V3.add (V3.add o e1) e3) (V3.add (V3.add o e2) e3)
      = 3 * V3.det e2 e1 e3 := by
    geom_unfold; ring
  refine ⟨hl, ?_⟩
  rw [prism_modes_affine, hl]; ring

/-- pyramid over a parallelogram with any apex: both modes give `det(e1,e2,a) / 3` -/
theorem C11_pyr_modes_agree_affine (o e1 e2 a : V3 R) :
    pyrLin6 o (V3.add o e1) (V3.add (V3.add o e1) e2) (V3.add o e2) (V3.add o a) = 2 * V3.det e1 e2 a ∧
    pyrC24 4 o (V3.add o e1) (V3.add (V3.add o e1) e2) (V3.add o e2) (V3.add o a) = 8 * V3.det e1 e2 a := by
  have hl : pyrLin6 o (V3.add o e1) (V3.add (V3.add o e1) e2) (V3.add o e2) (V3.add o a) = 2 * V3.det e1 e2 a := by
    geom_unfold; ring
  refine ⟨hl, ?_⟩
  have h := pyr_lin_centroid_defect o (V3.add o e1) (V3.add (V3.add o e1) e2) (V3.add o e2) (V3.add o a)
  rw [hl] at h
  simp only [twist, V3.det, V3.sub, V3.add] at h ⊢
  linear_combination -h

/-- hexprism = two extruded quads: for planar bases (twist 0) the value is `½ (Σ diagonals' cross products) · e` -/
theorem C11_hexprism_extruded (b : Fin 6 → V3 R) (e : V3 R)
    (h1 : V3.det (V3.sub (b 1) (b 0)) (V3.sub (b 2) (b 0)) (V3.sub (b 3) (b 0)) = 0)
    (h2 : V3.det (V3.sub (b 3) (b 0)) (V3.sub (b 4) (b 0)) (V3.sub (b 5) (b 0)) = 0) :
    hexLin6 (b 0) (b 1) (b 2) (b 3) (V3.add (b 0) e) (V3.add (b 1) e) (V3.add (b 2) e) (V3.add (b 3) e)
      + hexLin6 (b 0) (b 3) (b 4) (b 5) (V3.add (b 0) e) (V3.add (b 3) e) (V3.add (b 4) e) (V3.add (b 5) e)
    = 3 * dot (cross (V3.sub (b 2) (b 0)) (V3.sub (b 3) (b 1))) e
      + 3 * dot (cross (V3.sub (b 4) (b 0)) (V3.sub (b 5) (b 3))) e := by
  rw [hexLin6_extruded, hexLin6_extruded, h1, h2]; ring

/-- tri and quad on a parallelogram: every kernel is a fixed multiple of `e1 × e2`
    (areas: `|e1×e2|/2` for the triangle, `|e1×e2|` for the quad in all three modes) -/
theorem C11_shell_modes_agree_affine (xi eta : R) (o e1 e2 : V3 R) :
    triCross o (V3.add o e1) (V3.add o e2) = cross e1 e2 ∧
    quadLinCross1 o (V3.add o e1) (V3.add (V3.add o e1) e2) (V3.add o e2) = cross e1 e2 ∧
    quadLinCross2 o (V3.add o e1) (V3.add (V3.add o e1) e2) (V3.add o e2) = cross e1 e2 ∧
    quadGaussCross 1 xi eta o (V3.add o e1) (V3.add (V3.add o e1) e2) (V3.add o e2) = smul 4 (cross e1 e2) ∧
    quadCrossC o (V3.add o e1) (V3.add (V3.add o e1) e2) (V3.add o e2) 4 = smul 32 (cross e1 e2) := by
  obtain ⟨hg, h1, h2⟩ := quad_modes_affine xi eta o e1 e2
  refine ⟨by simp only [triCross, sub_add_left], h1, h2, hg, ?_⟩
  simp only [quadCrossC_eq, V3.add, V3.sub, V3.smul, V3.cross]; congr 1 <;> ring

end Ring

section Lookup
variable {α β : Type}

/-- node ids relabelled by an injective `σ`, element ids by any `τ`: every element keeps its value -/
theorem C11_relabel (K : List α → Option β) (σ τ : Nat → Nat) (hσ : Function.Injective σ)
    (nodes : List (Nat × α)) (elems : List (Nat × List Nat)) :
    elemMetrics K (nodes.map fun p => (σ p.1, p.2)) (elems.map fun e => (τ e.1, e.2.map σ))
      = (elemMetrics K nodes elems).map fun r => (τ r.1, r.2) := by
  simp only [elemMetrics, List.map_map]
  apply List.map_congr_left
  intro e _
  simp only [Function.comp, gather_relabel σ hσ]

/-- storage order: permuting the node table (distinct ids) changes nothing; permuting the element rows permutes the
    (element id, value) pairs accordingly -/
theorem C11_storage_perm (K : List α → Option β) {nodes nodes' : List (Nat × α)}
    {elems elems' : List (Nat × List Nat)} (hp : nodes.Perm nodes') (hn : (nodes.map (·.1)).Nodup)
    (he : elems.Perm elems') :
    (elemMetrics K nodes' elems').Perm (elemMetrics K nodes elems) := by
  have h1 : elemMetrics K nodes' elems' = elemMetrics K nodes elems' := by
    simp only [elemMetrics]
    apply List.map_congr_left
    intro e _
    rw [gather_perm hp hn]
  rw [h1]
  exact (he.map _).symm

/-- mixed meshes, repaired assembly (`Cfg.fixed`): the result is a permutation of the blocks' own (id, value) pairs,
    so reordering rows inside the type blocks cannot move a value to another element -/
theorem C11_storage_perm_mixed {blocks blocks' : List (List (Nat × β))}
    (h : blocks.flatten.Perm blocks'.flatten) :
    (assemble Cfg.fixed blocks').Perm (assemble Cfg.fixed blocks) :=
  ((assemble_fixed_perm blocks').trans h.symm).trans (assemble_fixed_perm blocks).symm

/-- the assembly as coded (`out[types == k] = partial_k`) binds values to the wrong elements when a block is not
    stored in ascending id order: elements 1 and 2 swap their values (finding C11-mixed-binding) -/
theorem C11_mixed_counterexample_upstream :
    assemble Cfg.upstream [[(2, 10), (1, 20)], [(3, 30)]] = [(1, 10), (2, 20), (3, 30)] ∧
    assemble Cfg.fixed [[(2, 10), (1, 20)], [(3, 30)]] = [(1, 20), (2, 10), (3, 30)] ∧
    assemble Cfg.upstream [[(1, 20), (2, 10)], [(3, 30)]] = [(1, 20), (2, 10), (3, 30)] := by
  decide +kernel

end Lookup

/-- `generate_brick` yields exactly the requested numbers of elements (for all `nx ny nz`, zero included) -/
theorem C11_brick_count (nx ny nz : Nat) :
    (∀ rows, brickRows "hex" nx ny nz = some rows → rows.length = nx * ny * nz) ∧
    (∀ rows, brickRows "tet" nx ny nz = some rows → rows.length = 6 * nx * ny * nz) ∧
    (∀ rows, brickRows "quad" nx ny nz = some rows → rows.length = nx * ny) ∧
    (∀ rows, brickRows "tri" nx ny nz = some rows → rows.length = 2 * nx * ny) :=
  ⟨fun r h => brick_count_hex nx ny nz r h, fun r h => brick_count_tet nx ny nz r h,
   fun r h => brick_count_quad nx ny nz r h, fun r h => brick_count_tri nx ny nz r h⟩

section Ordered
variable {K : Type} [Field K] [LinearOrder K] [IsStrictOrderedRing K]

/-- every generated element is positively oriented (spacings `hx hy hz > 0`): hex in the linear and centroid modes,
    all six tets of every cell; in 2-D both triangles and both halves of every quad have area vector `(0,0,hx·hy)` -/
theorem C11_brick_positive (nx ny nz : Nat) (hx hy hz zero : K) (p1 : 0 < hx) (p2 : 0 < hy) (p3 : 0 < hz) :
    (∀ i ∈ brickIdx3 nx ny nz,
      0 < on8 hexLin6 (gridNode3 nx ny hx hy hz) (hexRow (nx + 1) ((nx + 1) * (ny + 1)) i) ∧
      0 < on8 hexC24 (gridNode3 nx ny hx hy hz) (hexRow (nx + 1) ((nx + 1) * (ny + 1)) i)) ∧
    (∀ i ∈ brickIdx3 nx ny nz, ∀ r ∈ tetRows (nx + 1) ((nx + 1) * (ny + 1)) i, ∀ a b c d, r = [a, b, c, d] →
      0 < tet6 (gridNode3 nx ny hx hy hz a) (gridNode3 nx ny hx hy hz b) (gridNode3 nx ny hx hy hz c)
        (gridNode3 nx ny hx hy hz d)) ∧
    (∀ i ∈ brickIdx2 nx ny,
      quadLinCross1 (gridNode2 nx hx hy zero i) (gridNode2 nx hx hy zero (i + 1))
        (gridNode2 nx hx hy zero (i + 1 + (nx + 1))) (gridNode2 nx hx hy zero (i + (nx + 1))) = ⟨0, 0, hx * hy⟩ ∧
      triCross (gridNode2 nx hx hy zero i) (gridNode2 nx hx hy zero (i + 1))
        (gridNode2 nx hx hy zero (i + 1 + (nx + 1))) = ⟨0, 0, hx * hy⟩ ∧
      triCross (gridNode2 nx hx hy zero i) (gridNode2 nx hx hy zero (i + 1 + (nx + 1)))
        (gridNode2 nx hx hy zero (i + (nx + 1))) = ⟨0, 0, hx * hy⟩ ∧ 0 < hx * hy) := by
  refine ⟨fun i hi => brick_hex_pos nx ny nz hx hy hz p1 p2 p3 i hi,
    fun i hi r hr a b c d hrow => brick_tet_pos nx ny nz hx hy hz p1 p2 p3 i hi r hr a b c d hrow,
    fun i hi => ⟨(brick_quad_value nx ny hx hy zero i hi).1, (brick_tri_value nx ny hx hy zero i hi).1,
      (brick_tri_value nx ny hx hy zero i hi).2, mul_pos p1 p2⟩⟩

/-- the metrics of a generated brick sum to the box: `lx·ly·lz` (hex in all three modes, tet), `lx·ly` (quad, tri) -/
theorem C11_brick_sum (nx ny nz : Nat) (h1 : 0 < nx) (h2 : 0 < ny) (h3 : 0 < nz) (lx ly lz g zero : K) :
    (∀ rows, brickRows "hex" nx ny nz = some rows →
      (rows.map fun r => on8 hexLin6 (gridNode3 nx ny (lx / nx) (ly / ny) (lz / nz)) r / 6).sum = lx * ly * lz ∧
      (rows.map fun r => on8 hexC24 (gridNode3 nx ny (lx / nx) (ly / ny) (lz / nz)) r / 24).sum = lx * ly * lz ∧
      (rows.map fun r => on8 (hexGauss512 1 g) (gridNode3 nx ny (lx / nx) (ly / ny) (lz / nz)) r / 512).sum
        = lx * ly * lz) ∧
    (∀ rows, brickRows "tet" nx ny nz = some rows →
      (rows.map fun r => on4 tet6 (gridNode3 nx ny (lx / nx) (ly / ny) (lz / nz)) r / 6).sum = lx * ly * lz) ∧
    (∀ rows, brickRows "quad" nx ny nz = some rows →
      (rows.map fun r => on4 quadAreaZ (gridNode2 nx (lx / nx) (ly / ny) zero) r).sum = lx * ly) ∧
    (∀ rows, brickRows "tri" nx ny nz = some rows →
      (rows.map fun r => on3 triAreaZ (gridNode2 nx (lx / nx) (ly / ny) zero) r).sum = lx * ly) :=
  ⟨fun rows h => brick_hex_sum nx ny nz h1 h2 h3 lx ly lz g rows h,
   fun rows h => brick_tet_sum nx ny nz h1 h2 h3 lx ly lz rows h,
   fun rows h => brick_quad_sum nx ny nz h1 h2 lx ly zero rows h,
   fun rows h => brick_tri_sum nx ny nz h1 h2 lx ly zero rows h⟩

end Ordered

/-! ## non-vacuity: the kernels are not trivially zero, and every hypothesis above is satisfiable

(`ℤ` examples are closed by kernel `decide`; the orthogonal matrix is the exact rational rotation of the
Pythagorean quadruple 1²+2²+2² = 3².) -/
section Examples

/-- unit cells: tet 1/6, hex 1 (all modes), pyramid 1/3, prism 1/2 -/
example : tet6 (R := Int) ⟨0,0,0⟩ ⟨1,0,0⟩ ⟨0,1,0⟩ ⟨0,0,1⟩ = 1 ∧
    hexLin6 (R := Int) ⟨0,0,0⟩ ⟨1,0,0⟩ ⟨1,1,0⟩ ⟨0,1,0⟩ ⟨0,0,1⟩ ⟨1,0,1⟩ ⟨1,1,1⟩ ⟨0,1,1⟩ = 6 ∧
    hexC24 (R := Int) ⟨0,0,0⟩ ⟨1,0,0⟩ ⟨1,1,0⟩ ⟨0,1,0⟩ ⟨0,0,1⟩ ⟨1,0,1⟩ ⟨1,1,1⟩ ⟨0,1,1⟩ = 24 ∧
    pyrLin6 (R := Int) ⟨0,0,0⟩ ⟨1,0,0⟩ ⟨1,1,0⟩ ⟨0,1,0⟩ ⟨0,0,1⟩ = 2 ∧
    pyrC24 (R := Int) 4 ⟨0,0,0⟩ ⟨1,0,0⟩ ⟨1,1,0⟩ ⟨0,1,0⟩ ⟨0,0,1⟩ = 8 ∧
    prismLin6 (R := Int) ⟨0,0,0⟩ ⟨0,1,0⟩ ⟨1,0,0⟩ ⟨0,0,1⟩ ⟨0,1,1⟩ ⟨1,0,1⟩ = 3 ∧
    prismC24 (R := Int) 4 ⟨0,0,0⟩ ⟨0,1,0⟩ ⟨1,0,0⟩ ⟨0,0,1⟩ ⟨0,1,1⟩ ⟨1,0,1⟩ = 12 := by decide +kernel

/-- `C11_tet_linear` / `C11_tet_translate` on a shear-and-stretch of determinant 6 followed by a shift -/
example : tet6 (R := Int) (V3.add ((⟨2,1,0, 0,3,0, 0,0,1⟩ : M3 Int).app ⟨0,0,0⟩) ⟨5,-7,9⟩)
      (V3.add ((⟨2,1,0, 0,3,0, 0,0,1⟩ : M3 Int).app ⟨1,0,0⟩) ⟨5,-7,9⟩)
      (V3.add ((⟨2,1,0, 0,3,0, 0,0,1⟩ : M3 Int).app ⟨0,1,0⟩) ⟨5,-7,9⟩)
      (V3.add ((⟨2,1,0, 0,3,0, 0,0,1⟩ : M3 Int).app ⟨0,0,1⟩) ⟨5,-7,9⟩) = 6 := by
  rw [C11_tet_translate, C11_tet_linear]; decide

/-- a polyhedron given by faces (the unit tet with outward faces): fan volume 1/6, closed (area vectors sum to 0) -/
example : polyFan6 (R := Int) [[⟨0,0,0⟩, ⟨0,1,0⟩, ⟨1,0,0⟩], [⟨0,0,0⟩, ⟨1,0,0⟩, ⟨0,0,1⟩], [⟨1,0,0⟩, ⟨0,1,0⟩, ⟨0,0,1⟩],
      [⟨0,0,0⟩, ⟨0,0,1⟩, ⟨0,1,0⟩]] = 1 ∧
    vsum ([[⟨0,0,0⟩, ⟨0,1,0⟩, ⟨1,0,0⟩], [⟨0,0,0⟩, ⟨1,0,0⟩, ⟨0,0,1⟩], [⟨1,0,0⟩, ⟨0,1,0⟩, ⟨0,0,1⟩],
      [⟨0,0,0⟩, ⟨0,0,1⟩, ⟨0,1,0⟩]].map (polyFanCross (R := Int))) = vzero := by decide +kernel

/-- an exact rational rotation (quaternion (1,1,1,0)) and a reflection: both satisfy `Orthogonal` -/
def rotQ : M3 Rat := ⟨1/3, 2/3, 2/3, 2/3, 1/3, -2/3, -2/3, 2/3, -1/3⟩
theorem rotQ_orthogonal : Orthogonal rotQ := by
  constructor <;> decide +kernel
example : rotQ.det = 1 := by decide +kernel
example : Orthogonal (⟨-1,0,0, 0,1,0, 0,0,1⟩ : M3 Rat) ∧ (⟨-1,0,0, 0,1,0, 0,0,1⟩ : M3 Rat).det = -1 := by
  refine ⟨by constructor <;> decide +kernel, by decide +kernel⟩

/-- `C11_radicand_orthogonal`, `C11_normal_rotates`, `C11_det_orthogonal` instantiated on the rotation -/
example : normSq ((cof rotQ).app ⟨1, 2, 3⟩) = 14 := by
  rw [C11_radicand_orthogonal rotQ rotQ_orthogonal]; decide +kernel
example : (cof rotQ).app ⟨0, 0, 1⟩ = smul rotQ.det (rotQ.app ⟨0, 0, 1⟩) := C11_normal_rotates rotQ rotQ_orthogonal _
example : rotQ.det = 1 ∨ rotQ.det = -1 := C11_det_orthogonal rotQ rotQ_orthogonal

/-- polygon kernels on the unit square given as a 4-gon: fan = 2·(0,0,1), centroid kernel = n²·2·(0,0,1) -/
example : polyFanCross (R := Int) [⟨0,0,0⟩, ⟨1,0,0⟩, ⟨1,1,0⟩, ⟨0,1,0⟩] = ⟨0, 0, 2⟩ ∧
    polyCentroidCross (R := Int) 4 [⟨0,0,0⟩, ⟨1,0,0⟩, ⟨1,1,0⟩, ⟨0,1,0⟩] = ⟨0, 0, 32⟩ := by decide +kernel

/-- a non-planar quad: the three area modes have different radicands (so agreement is a fact about affine cells only) -/
example : quadLinRads (R := Int) ⟨0,0,0⟩ ⟨1,0,0⟩ ⟨1,1,1⟩ ⟨0,1,0⟩ = [2, 2] ∧
    quadCRad (R := Int) 4 ⟨0,0,0⟩ ⟨1,0,0⟩ ⟨1,1,1⟩ ⟨0,1,0⟩ = 1536 := by decide +kernel

/-- `C11_relabel`: ids 5, 9, 7 relabelled by `· + 100` (injective), element ids by `· * 2` -/
example : elemMetrics (fun l : List Nat => some l.sum) ([(5, 10), (9, 20), (7, 30)].map fun p => (p.1 + 100, p.2))
      ([(1, [5, 7]), (2, [9, 9, 5])].map fun e => (e.1 * 2, e.2.map (· + 100)))
    = [(2, some 40), (4, some 50)] := by
  rw [C11_relabel (fun l : List Nat => some l.sum) (· + 100) (· * 2) (fun a b h => Nat.add_right_cancel h)]; decide

/-- `C11_storage_perm`: the node table stored in another order, the element rows swapped -/
example : (elemMetrics (fun l : List Nat => some l.sum) [(9, 20), (5, 10), (7, 30)] [(2, [9, 9, 5]), (1, [5, 7])]).Perm
    (elemMetrics (fun l : List Nat => some l.sum) [(5, 10), (9, 20), (7, 30)] [(1, [5, 7]), (2, [9, 9, 5])]) :=
  C11_storage_perm _ (List.Perm.swap _ _ _) (by decide +kernel) (List.Perm.swap _ _ _)

/-- `C11_storage_perm_mixed`: rows of the first block swapped -/
example : (assemble Cfg.fixed [[(1, 20), (2, 10)], [(3, 30)]]).Perm (assemble Cfg.fixed [[(2, 10), (1, 20)], [(3, 30)]]) :=
  C11_storage_perm_mixed (by decide +kernel)

/-- the generator's start indices for a 2×1×1 brick (3×2×2 nodes), its first hex and the six tets of cell 0 -/
example : brickIdx3 2 1 1 = [0, 1] ∧ hexRow 3 6 0 = [0, 1, 4, 3, 6, 7, 10, 9] ∧ brickIdx2 2 2 = [0, 1, 3, 4] ∧
    tetRows 3 6 0 = [[0, 1, 4, 6], [1, 10, 6, 7], [1, 4, 6, 10], [0, 4, 3, 9], [0, 4, 9, 6], [4, 9, 6, 10]] := by decide +kernel

/-- `C11_brick_positive` / `C11_brick_sum` with spacings 1/2, 3, 5/4 over ℚ (2 × 1 × 4 cells, box 1 × 3 × 5) -/
example := C11_brick_positive (K := Rat) 2 1 4 (1/2) 3 (5/4) 0 (by norm_num) (by norm_num) (by norm_num)
example := C11_brick_sum (K := Rat) 2 1 4 (by decide +kernel) (by decide +kernel) (by decide +kernel) 1 3 5 (5773502692 / 10000000000) 0

end Examples

end Femio.C11
