import Femio.Lemmas.GeomHistoryProps
import Mathlib.Tactic.Linarith
/-! # C11 — call histories on one object (`Model/GeomHistory.lean`)

The kernel theorems of `Props/C11.lean` are about the value a query computes; these are about what a query RETURNS when
other queries were made on the same object before (stream `sequence` of `harness/c11.py`, driver command `c11.seq`).

* `C11_hist_read_only` — a call answered from the stored variable leaves the stored variables as they are (the clause the
  seeded change C11-5, `np.abs(metric, out=metric)`, breaks: `C11_hist_inplace_counterexample`);
* `C11_hist_signed_stable` — after a variable is stored, every later call of that query returns `_validate_metric` of
  exactly that variable: intervening absolute-value queries never disturb a later signed query;
* `C11_hist_values_are_query_values` — every value returned anywhere in any history is the value the query returns on a
  FRESH object for some (mode, options): reuse of the stored variable (the open known finding `options-ignored`) is the
  only departure, in particular no value has a sign the element does not have;
* `C11_hist_positive_invisible` — on a mesh without negative elements on which the modes agree, every call of every history
  returns the fresh value (histories are invisible);
* `C11_hist_reflect_signed` — a history of signed queries commutes with any map of the values; with `f = (-·)` and the kernel
  theorems `…_linear` at `det = -1`: the signed values returned by a history on the mirrored mesh are exactly the negatives
  of those returned by the same history on the mesh ("change sign exactly under a reflection", for histories). -/
namespace Femio.C11
variable {V : Type}

theorem C11_hist_ratSgn_lawful : ratSgn.Lawful := by
  constructor
  · intro v
    simp only [ratSgn, decide_eq_false_iff_not, not_lt]
    split <;> linarith
  · intro v h
    simp only [ratSgn, decide_eq_false_iff_not] at h
    simp [ratSgn, h]

theorem C11_hist_areaSgn_lawful : areaSgn.Lawful := ⟨fun _ => rfl, fun _ _ => rfl⟩

/-- **stored variables are read-only for the calls they answer** (the tree: `metric = np.abs(metric)`) -/
theorem C11_hist_read_only (S : Sgn V) (mi : MeshInfo V) (c : Call) (s : HState V) (hc : c.explicit = false) :
    (∀ w, s.base = some w → (stepBase HCfg.tree S mi c s).2 = s) ∧
    (∀ w, s.metric = some w → (stepMetric HCfg.tree S mi c s).2 = s) :=
  ⟨fun w hw => by rw [stepBase_read hc hw, readStored_tree], fun w hw => by rw [stepMetric_read hc hw, readStored_tree]⟩

/-- **a stored variable is stable**: once `'volume'` / `'area'` holds `w`, every later call of that query with
    `elements=None` - whatever its mode and options, however many - returns `_validate_metric(w)`; in particular a signed
    query (`⟨false, false⟩`) returns exactly `w` again after any number of absolute-value queries -/
theorem C11_hist_signed_stable (S : Sgn V) (mi : MeshInfo V) (w : Vals V) :
    ∀ (cs : List Call) (s : HState V), s.base = some w → (∀ c ∈ cs, c.api = .base ∧ c.explicit = false) →
      runCalls HCfg.tree S mi cs s = cs.map (fromStored S w) := by
  intro cs
  induction cs with
  | nil => intros; rfl
  | cons c cs ih =>
    intro s hs hc
    have h1 := hc c (List.mem_cons_self ..)
    have hstep : step HCfg.tree S mi c s = (fromStored S w c, s) := by
      simp only [step, h1.1]
      rw [stepBase_read h1.2 hs, readStored_tree]
    simp only [runCalls, List.map_cons, hstep]
    rw [ih s hs (fun c' hc' => hc c' (List.mem_cons_of_mem _ hc'))]

/-- the history of seeded change C11-5 on the tree: [absolute, signed] after the variable is stored returns `|w|`, then `w` -/
theorem C11_hist_signed_after_abs (S : Sgn V) (mi : MeshInfo V) (w : Vals V) (s : HState V) (hs : s.base = some w)
    (m1 m2 : Mode) (u1 u2 : Bool) :
    runCalls HCfg.tree S mi [⟨.base, m1, ⟨false, true⟩, false, u1⟩, ⟨.base, m2, ⟨false, false⟩, false, u2⟩] s
      = [.vals (absVals S w), .vals w] := by
  rw [C11_hist_signed_stable S mi w _ s hs (by simp)]
  simp [fromStored, validate]

/-- **no foreign values**: every value returned by any call of any history (started on an object whose stored variables,
    if any, came from queries) is the value the same query returns on a fresh object for some mode and options -/
theorem C11_hist_values_are_query_values {S : Sgn V} (hS : S.Lawful) (mi : MeshInfo V) :
    ∀ (cs : List Call) (s : HState V), StoredOk S mi s →
      ∀ o ∈ runCalls HCfg.tree S mi cs s, ∀ r, o = .vals r → IsQueryValue S mi r := by
  intro cs
  induction cs with
  | nil => intro s _ o ho; simp [runCalls] at ho
  | cons c cs ih =>
    intro s hs o ho r hr
    have h := step_storedOk hS mi c s hs
    simp only [runCalls, List.mem_cons] at ho
    rcases ho with ho | ho
    · exact h.2 r (ho ▸ hr)
    · exact ih _ h.1 o ho r hr

/-- no call is `calculate_element_metrics(elements=…, update=True)` (which raises once `'metric'` exists, DESIGN §5 F5) -/
def NoExplicitMetricUpdate (cs : List Call) : Prop := ∀ c ∈ cs, ¬ (c.api = .metric ∧ c.explicit = true ∧ c.update = true)

/-- stored variables are empty or hold `v` -/
def HoldsOnly (v : Vals V) (s : HState V) : Prop := (s.base = none ∨ s.base = some v) ∧ (s.metric = none ∨ s.metric = some v)

theorem C11_hist_positive_invisible {S : Sgn V} (hS : S.Lawful) (mi : MeshInfo V) (v : Vals V)
    (hmodes : ∀ m, mi.fresh m = v) (hpos : anyNeg S v = false) (hsup : mi.metricSupported = true) :
    ∀ (cs : List Call) (s : HState V), NoExplicitMetricUpdate cs → HoldsOnly v s →
      runCalls HCfg.tree S mi cs s = cs.map fun _ => .vals v := by
  intro cs
  induction cs with
  | nil => intros; rfl
  | cons c cs ih =>
    intro s hno hh
    have hval : ∀ o, validate S o v = some v := fun o => validate_noNeg hS o v hpos
    have hno' : NoExplicitMetricUpdate cs := fun c' hc' => hno c' (List.mem_cons_of_mem _ hc')
    have hc := hno c (List.mem_cons_self ..)
    have hread : ∀ set, readStored HCfg.tree S c v s set = (.vals v, s) := fun set => by
      rw [readStored_tree, fromStored_of_validate (hval _)]
    have hbase : baseCompute S mi c s = (.vals v, if c.update = true then { s with base := some v } else s) := by
      simp only [baseCompute, hmodes, hval]
    have hbaseOk : HoldsOnly v (if c.update = true then { s with base := some v } else s) := by
      split
      · exact ⟨Or.inr rfl, hh.2⟩
      · exact hh
    have hmetric : s.metric.isSome = false ∨ c.update = false →
        ∃ s', metricCompute S mi c s = (.vals v, s') ∧ HoldsOnly v s' := by
      intro h
      by_cases hu : c.update = true
      · have hn : s.metric.isSome = false := h.resolve_right (by rw [hu]; exact Bool.noConfusion)
        refine ⟨{ (if mi.mixed = true then s else { s with base := some v }) with metric := some v }, ?_, ?_, Or.inr rfl⟩
        · simp only [metricCompute, hsup, hmodes, hval, hu, hn, Bool.not_true, Bool.false_eq_true, ↓reduceIte]
        · show (if mi.mixed = true then s else { s with base := some v }).base = none ∨ _
          split
          · exact hh.1
          · exact Or.inr rfl
      · refine ⟨s, ?_, hh⟩
        simp only [metricCompute, hsup, hmodes, hval, hu, Bool.not_true, Bool.not_false, Bool.false_eq_true, ↓reduceIte]
    have key : (step HCfg.tree S mi c s).1 = .vals v ∧ HoldsOnly v (step HCfg.tree S mi c s).2 := by
      rcases step_cases HCfg.tree S mi c s with ⟨-, -, h⟩ | ⟨hapi, hx, h⟩ | ⟨w, -, -, hb, h⟩ | ⟨w, -, -, hb, h⟩ <;> rw [h]
      · rw [hbase]; exact ⟨rfl, hbaseOk⟩
      · have hx' : s.metric.isSome = false ∨ c.update = false := by
          rcases hx with he | hb
          · exact Or.inr (Bool.eq_false_iff.mpr fun hu => hc ⟨hapi, he, hu⟩)
          · exact Or.inl (by rw [hb]; rfl)
        obtain ⟨s', h1, h2⟩ := hmetric hx'
        rw [h1]; exact ⟨rfl, h2⟩
      · obtain rfl := eq_of_none_or_some hh.1 hb
        rw [hread]; exact ⟨rfl, hh⟩
      · obtain rfl := eq_of_none_or_some hh.2 hb
        rw [hread]; exact ⟨rfl, hh⟩
    simp only [runCalls, List.map_cons, key.1]
    rw [ih _ hno' key.2]

/-! ### signed histories commute with any map of the values (reflection: `f = (-·)`) -/

/-- **reflection sign in histories**: the outputs of a history of SIGNED queries (`raise_negative_* = False`,
    `return_abs_* = False`; any modes, `elements`, `update`) on the mesh whose fresh values are the `f`-images are the
    `f`-images of the outputs of the same history on the mesh.  With `f = (-·)`: −V, exactly, at every step. -/
theorem C11_hist_reflect_signed (S : Sgn V) (f : V → V) (mi : MeshInfo V) :
    ∀ (cs : List Call) (s : HState V), (∀ c ∈ cs, c.opts = ⟨false, false⟩) →
      runCalls HCfg.tree S (mapMesh f mi) cs (mapState f s) = (runCalls HCfg.tree S mi cs s).map (mapOut f) := by
  intro cs
  induction cs with
  | nil => intros; rfl
  | cons c cs ih =>
    intro s hc
    have h := step_signed_map S f mi c s (hc c (List.mem_cons_self ..))
    simp only [runCalls, List.map_cons, h, mapStep]
    rw [ih _ (fun c' hc' => hc c' (List.mem_cons_of_mem _ hc'))]

/-! ### the in-place variant (seeded change C11-5) -/

def outVals : Out V → Option (Vals V)
  | .vals v => some v
  | _ => none

/-- one mirrored element of volume −3: [signed, absolute, signed] -/
def c115Calls : List Call :=
  [⟨.base, .centroid, ⟨false, false⟩, false, true⟩, ⟨.base, .centroid, ⟨false, true⟩, false, true⟩,
   ⟨.base, .centroid, ⟨false, false⟩, false, true⟩]
def c115Mesh : MeshInfo Int := ⟨fun _ => [(1, -3)], false, true⟩

/-- the tree returns −3, 3, −3 … -/
theorem C11_hist_tree_example :
    (runCalls HCfg.tree intSgn c115Mesh c115Calls HState.empty).map outVals
      = [some [(1, -3)], some [(1, 3)], some [(1, -3)]] := by decide

/-- … `np.abs(metric, out=metric)` returns −3, 3, **+3**: the stored signed volume of the mirrored element is overwritten
    by the absolute-value query, so `C11_hist_read_only` / `C11_hist_signed_stable` fail for `HCfg.inPlace` -/
theorem C11_hist_inplace_counterexample :
    (runCalls HCfg.inPlace intSgn c115Mesh c115Calls HState.empty).map outVals
      = [some [(1, -3)], some [(1, 3)], some [(1, 3)]] := by decide

/-- non-vacuity of `C11_hist_reflect_signed` / `C11_hist_signed_stable` on a concrete history -/
example : (runCalls HCfg.tree intSgn (mapMesh (fun x => -x) c115Mesh)
      [⟨.base, .linear, ⟨false, false⟩, false, true⟩, ⟨.metric, .centroid, ⟨false, false⟩, false, true⟩] HState.empty).map outVals
    = [some [(1, 3)], some [(1, 3)]] := by decide

/-- non-vacuity of `C11_hist_positive_invisible` / `C11_hist_values_are_query_values`: a two-element positive mesh, three
    queries with different modes and options -/
example : (runCalls HCfg.tree intSgn ⟨fun _ => [(4, 2), (7, 5)], false, true⟩
      [⟨.metric, .linear, ⟨true, false⟩, false, true⟩, ⟨.base, .gaussian, ⟨false, true⟩, false, true⟩,
       ⟨.metric, .centroid, ⟨true, true⟩, true, false⟩] HState.empty).map outVals
    = [some [(4, 2), (7, 5)], some [(4, 2), (7, 5)], some [(4, 2), (7, 5)]] := by decide

end Femio.C11
