import Femio.Model.GeomKernels
import Femio.Lemmas.KernelProps
import Femio.Lemmas.C11ModesLemmas
import Mathlib.Tactic.NormNum
import Mathlib.Data.Rat.Defs
/-!
# C11, second part — the polyhedron centroid kernel under translations; all modes agree on planar-faced cells

(continues `Props/C11.lean`; same conventions: volume kernels return a fixed integer multiple of the signed volume,
`hexLin6 = 6V`, `hexC24 = 24V`, `hexGauss512 = 512V`, `prismLin6 / pyrLin6 = 6V`, `prismC24 / pyrC24 = 24V`,
`polyFan6 / polyC6 = 6V`; every identity holds over any commutative ring.)

* `C11_polyC_shift / C11_polyC_translate(_rat)`: `_calculate_element_volumes_polyhedron_centroid_core` changes under a
  translation `t` by `t · Σ_f (doubled fan area vector of f)` — exactly like the fan kernel — hence is translation
  invariant on closed polyhedra.
* *defect identities* (unconditional): the decompositions used by the modes of one cell type differ, per quad face, by
  the tetrahedron on the four corners of that face. With `twist a b c d = det(b−a, c−a, d−a)` (the planarity
  determinant of the face `a b c d`, faces in the order and orientation of femio's face table)
  `4·linear − centroid` and `linear − (face fan volume)` are fixed integer combinations of the face twists; and the
  2×2×2 Gauss rule with abscissa `g` is `centroid` plus `(3g² − 1)·(…)`.
* corollaries for *planar-faced straight (not necessarily affine) cells*, planarity being one hypothesis
  `det(b−a, c−a, d−a) = 0` per quad face: all modes agree and equal the face-fan (divergence theorem) volume of the
  solid, which is what the `modes-planar` oracle of `harness/c11.py` computes as `exact`.
* refutations where agreement is false: a twisted face (`…_disagree_nonplanar`), the truncated literal
  `0.5773502692` on a non-affine planar-faced hex (`C11_hexGauss_literal_inexact`).
-/
open V3 Geom
namespace Femio.C11

section Ring
variable {R : Type} [CommRing R]

/-- `_calculate_element_volumes_polyhedron_centroid_core` (6·V; `kinv k` = `1/k` for every face size `k` present):
    under a translation `t` the value changes by `t · Σ_f (doubled fan area vector of f)`, for ANY face list -/
theorem C11_polyC_shift (t : V3 R) (kinv : Nat → R) (faces : List (List (V3 R)))
    (hk : ∀ f ∈ faces, kinv f.length * (f.length : R) = 1) :
    polyC6 kinv (faces.map (·.map (V3.add · t)))
      = polyC6 kinv faces + dot t (vsum (faces.map polyFanCross)) := by
  simp only [polyC6, List.map_map]
  refine sum_map_eq_add_dot fun f hf => ?_
  simp only [Function.comp, faceCentroidK_add, List.length_map]
  linear_combination (dot t (polyFanCross f)) * hk f hf

/-- … hence the centroid volume of a closed polyhedron (fan area vectors sum to zero: the same hypothesis as
    `C11_polyFan_translate`) is translation invariant -/
theorem C11_polyC_translate (t : V3 R) (kinv : Nat → R) (faces : List (List (V3 R)))
    (hk : ∀ f ∈ faces, kinv f.length * (f.length : R) = 1)
    (hclosed : vsum (faces.map polyFanCross) = vzero) :
    polyC6 kinv (faces.map (·.map (V3.add · t))) = polyC6 kinv faces := by
  rw [C11_polyC_shift t kinv faces hk, hclosed, dot_vzero, add_zero]

/-- the instance `volumePoly .centroid` evaluates: `kinv k = 1/k` over `Rat`, faces non-empty -/
theorem C11_polyC_translate_rat (t : V3 Rat) (faces : List (List (V3 Rat)))
    (hne : ∀ f ∈ faces, f ≠ [])
    (hclosed : vsum (faces.map polyFanCross) = vzero) :
    polyC6 (fun k => 1 / (k : Rat)) (faces.map (·.map (V3.add · t))) = polyC6 (fun k => 1 / (k : Rat)) faces ∧
    (volumePoly .centroid (faces.map (·.map (V3.add · t)))).val = (volumePoly .centroid faces).val := by
  have h : polyC6 (fun k => 1 / (k : Rat)) (faces.map (·.map (V3.add · t))) = polyC6 (fun k => 1 / (k : Rat)) faces := by
    apply C11_polyC_translate t _ faces _ hclosed
    intro f hf
    have h0 : (f.length : Rat) ≠ 0 := by
      have : f.length ≠ 0 := fun h => hne f hf (List.length_eq_zero_iff.mp h)
      exact_mod_cast this
    exact one_div_mul_cancel h0
  exact ⟨h, by simp only [volumePoly, VolNF.val, h]⟩

/-- a closed solid with triangular AND quadrilateral faces (femio's prism face table on a wedge cut at three different
    heights): `kinv` is used at `k = 3` and `k = 4` -/
def wedgeFaces : List (List (V3 Rat)) :=
  [[⟨0,0,0⟩, ⟨0,1,0⟩, ⟨1,0,0⟩], [⟨0,0,1⟩, ⟨1,0,3⟩, ⟨0,1,2⟩], [⟨0,0,0⟩, ⟨0,0,1⟩, ⟨0,1,2⟩, ⟨0,1,0⟩],
   [⟨0,1,0⟩, ⟨0,1,2⟩, ⟨1,0,3⟩, ⟨1,0,0⟩], [⟨0,0,0⟩, ⟨1,0,0⟩, ⟨1,0,3⟩, ⟨0,0,1⟩]]

theorem wedgeFaces_closed : vsum (wedgeFaces.map polyFanCross) = vzero := by
  decide +kernel

example : polyC6 (fun k => 1 / (k : Rat)) (wedgeFaces.map (·.map (V3.add · ⟨5, -7, 9⟩)))
    = polyC6 (fun k => 1 / (k : Rat)) wedgeFaces :=
  C11_polyC_translate ⟨5, -7, 9⟩ _ wedgeFaces
    (by decide +kernel)
    wedgeFaces_closed

example := C11_polyC_translate_rat ⟨5, -7, 9⟩ wedgeFaces
  (by decide +kernel)
  wedgeFaces_closed

/-- the hypothesis `hclosed` cannot be dropped: a single triangle is shifted by `t · (its area vector)` -/
example : polyC6 (fun k => 1 / (k : Rat)) ([[⟨0,0,0⟩, ⟨1,0,0⟩, ⟨0,1,0⟩]].map (·.map (V3.add · ⟨0, 0, 1⟩)))
    ≠ polyC6 (fun k => 1 / (k : Rat)) [[⟨0,0,0⟩, ⟨1,0,0⟩, ⟨0,1,0⟩]] := by
  decide +kernel

/-- hex: `4·linear − centroid = 2·(±twist of each of the six faces)`; faces in the order of femio's face table
    `[0,1,5,4] [0,3,2,1] [1,2,6,5] [2,3,7,6] [3,0,4,7] [4,5,6,7]`. Every face occurs with a non-zero coefficient: the
    5-tet decomposition fixes one diagonal on each of the six faces, the centroid kernel uses the mean of the two. -/
theorem C11_hex_lin_centroid_defect (p0 p1 p2 p3 p4 p5 p6 p7 : V3 R) :
    4 * hexLin6 p0 p1 p2 p3 p4 p5 p6 p7 = hexC24 p0 p1 p2 p3 p4 p5 p6 p7
      + 2 * (twist p0 p1 p5 p4 + twist p0 p3 p2 p1 - twist p1 p2 p6 p5 + twist p2 p3 p7 p6
             - twist p3 p0 p4 p7 - twist p4 p5 p6 p7) :=
  hex_lin_centroid_defect p0 p1 p2 p3 p4 p5 p6 p7

/-- hex: `linear − (fan volume of the six faces of the face table) = ` the twists of the three faces on which the 5-tet
    decomposition uses the other diagonal than the fan from the first listed node -/
theorem C11_hex_lin_fan_defect (p0 p1 p2 p3 p4 p5 p6 p7 : V3 R) :
    hexLin6 p0 p1 p2 p3 p4 p5 p6 p7
      = polyFan6 [[p0, p1, p5, p4], [p0, p3, p2, p1], [p1, p2, p6, p5], [p2, p3, p7, p6], [p3, p0, p4, p7], [p4, p5, p6, p7]]
        + (twist p0 p1 p5 p4 + twist p0 p3 p2 p1 + twist p2 p3 p7 p6) := by
  simp only [polyFan6_cons, polyFan6_nil, faceFan6_quad]
  linear_combination hex_lin_fan p0 p1 p2 p3 p4 p5 p6 p7

/-- hex, 2×2×2 Gauss rule with abscissa `g`: the rule is affine in `g²`, and
    `3·gaussian − 64·centroid = (3g² − 1)·(64·centroid − 3·(one-point rule ×8))` for EVERY hex (no planarity) -/
theorem C11_hexGauss_centroid_defect (g : R) (p0 p1 p2 p3 p4 p5 p6 p7 : V3 R) :
    3 * hexGauss512 1 g p0 p1 p2 p3 p4 p5 p6 p7 - 64 * hexC24 p0 p1 p2 p3 p4 p5 p6 p7
      = (3 * g * g - 1) * (64 * hexC24 p0 p1 p2 p3 p4 p5 p6 p7 - 3 * hexGauss512 1 0 p0 p1 p2 p3 p4 p5 p6 p7) := by
  rw [hexGauss512_closed g, hexGauss512_closed 0]
  linear_combination (-24 * g * g) * gauss_exact_centroid p0 p1 p2 p3 p4 p5 p6 p7

/-- prism: the three quad faces `[0,3,4,1] [1,4,5,2] [0,2,5,3]` -/
theorem C11_prism_lin_centroid_defect (p0 p1 p2 p3 p4 p5 : V3 R) :
    4 * prismLin6 p0 p1 p2 p3 p4 p5 = prismC24 4 p0 p1 p2 p3 p4 p5
      + 2 * (twist p0 p3 p4 p1 + twist p1 p4 p5 p2 + twist p0 p2 p5 p3) :=
  prism_lin_centroid_defect p0 p1 p2 p3 p4 p5

theorem C11_prism_lin_fan_defect (p0 p1 p2 p3 p4 p5 : V3 R) :
    prismLin6 p0 p1 p2 p3 p4 p5
      = polyFan6 [[p0, p1, p2], [p3, p5, p4], [p0, p3, p4, p1], [p1, p4, p5, p2], [p0, p2, p5, p3]]
        + (twist p0 p3 p4 p1 + twist p1 p4 p5 p2 + twist p0 p2 p5 p3) := by
  simp only [polyFan6_cons, polyFan6_nil, faceFan6_quad, faceFan6_tri]
  linear_combination prism_lin_fan p0 p1 p2 p3 p4 p5

/-- pyramid: the base `[0,3,2,1]`; the linear kernel IS the fan volume of the face table (same diagonal) -/
theorem C11_pyr_lin_centroid_defect (p0 p1 p2 p3 p4 : V3 R) :
    4 * pyrLin6 p0 p1 p2 p3 p4 = pyrC24 4 p0 p1 p2 p3 p4 - 2 * twist p0 p3 p2 p1 ∧
    pyrLin6 p0 p1 p2 p3 p4 = polyFan6 [[p0, p1, p4], [p1, p2, p4], [p2, p3, p4], [p3, p0, p4], [p0, p3, p2, p1]] :=
  ⟨pyr_lin_centroid_defect p0 p1 p2 p3 p4, by
    simp only [polyFan6_cons, polyFan6_nil, faceFan6_quad, faceFan6_tri]
    linear_combination pyr_lin_fan p0 p1 p2 p3 p4⟩

/-- the closedness hypothesis holds identically (for arbitrary node positions, planar faces or not) for the face tables
    of the solid cell types, i.e. for every polyhedron the harness derives from a tet / hex / prism / pyr cell: by the
    identities above the fan volume of such a face table is a linear kernel minus face twists, which only see
    differences of nodes -/
theorem C11_face_tables_closed :
    (∀ p0 p1 p2 p3 : V3 R, vsum ([[p0, p2, p1], [p0, p1, p3], [p1, p2, p3], [p0, p3, p2]].map polyFanCross) = vzero) ∧
    (∀ p0 p1 p2 p3 p4 p5 p6 p7 : V3 R,
      vsum ([[p0, p1, p5, p4], [p0, p3, p2, p1], [p1, p2, p6, p5], [p2, p3, p7, p6], [p3, p0, p4, p7],
        [p4, p5, p6, p7]].map polyFanCross) = vzero) ∧
    (∀ p0 p1 p2 p3 p4 p5 : V3 R,
      vsum ([[p0, p1, p2], [p3, p5, p4], [p0, p3, p4, p1], [p1, p4, p5, p2], [p0, p2, p5, p3]].map polyFanCross) = vzero) ∧
    (∀ p0 p1 p2 p3 p4 : V3 R,
      vsum ([[p0, p1, p4], [p1, p2, p4], [p2, p3, p4], [p3, p0, p4], [p0, p3, p2, p1]].map polyFanCross) = vzero) := by
  refine ⟨fun p0 p1 p2 p3 => ?_, fun p0 p1 p2 p3 p4 p5 p6 p7 => closed_of_polyFan6_translate _ fun t => ?_,
    fun p0 p1 p2 p3 p4 p5 => closed_of_polyFan6_translate _ fun t => ?_,
    fun p0 p1 p2 p3 p4 => closed_of_polyFan6_translate _ fun t => ?_⟩
  · simp only [polyFanCross, consecPairs, vsum, vzero, triCross, V3.add, V3.sub, V3.cross, List.map_cons, List.map_nil,
      List.tail_cons, List.zip_cons_cons, List.zip_nil_right, List.foldr_cons, List.foldr_nil]
    congr 1 <;> ring
  · have h := C11_hex_lin_fan_defect (V3.add p0 t) (V3.add p1 t) (V3.add p2 t) (V3.add p3 t) (V3.add p4 t)
      (V3.add p5 t) (V3.add p6 t) (V3.add p7 t)
    rw [hexLin6_translate, twist_translate, twist_translate, twist_translate, C11_hex_lin_fan_defect p0 p1 p2 p3 p4 p5 p6 p7] at h
    exact (add_right_cancel h).symm
  · have h := C11_prism_lin_fan_defect (V3.add p0 t) (V3.add p1 t) (V3.add p2 t) (V3.add p3 t) (V3.add p4 t)
      (V3.add p5 t)
    rw [prismLin6_translate, twist_translate, twist_translate, twist_translate, C11_prism_lin_fan_defect p0 p1 p2 p3 p4 p5] at h
    exact (add_right_cancel h).symm
  · have h := (C11_pyr_lin_centroid_defect (V3.add p0 t) (V3.add p1 t) (V3.add p2 t) (V3.add p3 t) (V3.add p4 t)).2
    rw [pyrLin6_translate, (C11_pyr_lin_centroid_defect p0 p1 p2 p3 p4).2] at h
    exact h.symm

/-- a TWISTED hex as a polyhedron (face table of the hex): closed by `C11_face_tables_closed`, so its centroid volume is
    translation invariant for every `t` -/
example (t : V3 Rat) :
    polyC6 (fun k => 1 / (k : Rat))
      (([[⟨0,0,0⟩, ⟨1,0,0⟩, ⟨1,0,1⟩, ⟨0,0,1⟩], [⟨0,0,0⟩, ⟨0,1,0⟩, ⟨1,1,0⟩, ⟨1,0,0⟩], [⟨1,0,0⟩, ⟨1,1,0⟩, ⟨1,1,2⟩, ⟨1,0,1⟩],
         [⟨1,1,0⟩, ⟨0,1,0⟩, ⟨0,1,1⟩, ⟨1,1,2⟩], [⟨0,1,0⟩, ⟨0,0,0⟩, ⟨0,0,1⟩, ⟨0,1,1⟩],
         [⟨0,0,1⟩, ⟨1,0,1⟩, ⟨1,1,2⟩, ⟨0,1,1⟩]] : List (List (V3 Rat))).map (·.map (V3.add · t)))
    = polyC6 (fun k => 1 / (k : Rat))
      [[⟨0,0,0⟩, ⟨1,0,0⟩, ⟨1,0,1⟩, ⟨0,0,1⟩], [⟨0,0,0⟩, ⟨0,1,0⟩, ⟨1,1,0⟩, ⟨1,0,0⟩], [⟨1,0,0⟩, ⟨1,1,0⟩, ⟨1,1,2⟩, ⟨1,0,1⟩],
       [⟨1,1,0⟩, ⟨0,1,0⟩, ⟨0,1,1⟩, ⟨1,1,2⟩], [⟨0,1,0⟩, ⟨0,0,0⟩, ⟨0,0,1⟩, ⟨0,1,1⟩], [⟨0,0,1⟩, ⟨1,0,1⟩, ⟨1,1,2⟩, ⟨0,1,1⟩]] :=
  (C11_polyC_translate_rat t _ (by decide +kernel) (C11_face_tables_closed.2.1 _ _ _ _ _ _ _ _)).1

example : twist (R := Int) ⟨0,0,1⟩ ⟨1,0,1⟩ ⟨1,1,2⟩ ⟨0,1,1⟩ = -1 ∧ twist (R := Int) ⟨0,0,1⟩ ⟨1,0,1⟩ ⟨1,1,1⟩ ⟨0,1,1⟩ = 0 := by
  decide +kernel

/-- hex with six planar faces (one polynomial hypothesis per face of the face table; the cell need NOT be affine):
    linear (5 tets) and centroid agree. The exact condition is that the signed twist sum of
    `C11_hex_lin_centroid_defect` vanishes; twisting a single face breaks it (`C11_hex_modes_disagree_nonplanar`). -/
theorem C11_hex_modes_agree_planar (p0 p1 p2 p3 p4 p5 p6 p7 : V3 R)
    (h0 : twist p0 p1 p5 p4 = 0)
    (h1 : twist p0 p3 p2 p1 = 0)
    (h2 : twist p1 p2 p6 p5 = 0)
    (h3 : twist p2 p3 p7 p6 = 0)
    (h4 : twist p3 p0 p4 p7 = 0)
    (h5 : twist p4 p5 p6 p7 = 0) :
    4 * hexLin6 p0 p1 p2 p3 p4 p5 p6 p7 = hexC24 p0 p1 p2 p3 p4 p5 p6 p7 := by
  have e := hex_lin_centroid_defect p0 p1 p2 p3 p4 p5 p6 p7
  rw [e, h0, h1, h2, h3, h4, h5]; ring

/-- hex, Gaussian mode with the exact abscissa (`3g² = 1`): equals the centroid mode on EVERY hex, planar-faced or not
    (both are the volume of the trilinear map: the 2-point rule integrates its Jacobian exactly) -/
theorem C11_hexGauss_eq_centroid (g : R) (hg : 3 * g * g = 1) (p0 p1 p2 p3 p4 p5 p6 p7 : V3 R) :
    3 * hexGauss512 1 g p0 p1 p2 p3 p4 p5 p6 p7 = 64 * hexC24 p0 p1 p2 p3 p4 p5 p6 p7 := by
  have e := C11_hexGauss_centroid_defect g p0 p1 p2 p3 p4 p5 p6 p7
  rw [hg, sub_self, zero_mul] at e
  exact sub_eq_zero.mp e

/-- hex with six planar faces, exact abscissa: all three modes agree (`6V·256 = 24V·64 = 512V·3`) -/
theorem C11_hexGauss_modes_agree_planar (g : R) (hg : 3 * g * g = 1) (p0 p1 p2 p3 p4 p5 p6 p7 : V3 R)
    (h0 : V3.det (V3.sub p1 p0) (V3.sub p5 p0) (V3.sub p4 p0) = 0)
    (h1 : V3.det (V3.sub p3 p0) (V3.sub p2 p0) (V3.sub p1 p0) = 0)
    (h2 : V3.det (V3.sub p2 p1) (V3.sub p6 p1) (V3.sub p5 p1) = 0)
    (h3 : V3.det (V3.sub p3 p2) (V3.sub p7 p2) (V3.sub p6 p2) = 0)
    (h4 : V3.det (V3.sub p0 p3) (V3.sub p4 p3) (V3.sub p7 p3) = 0)
    (h5 : V3.det (V3.sub p5 p4) (V3.sub p6 p4) (V3.sub p7 p4) = 0) :
    256 * hexLin6 p0 p1 p2 p3 p4 p5 p6 p7 = 3 * hexGauss512 1 g p0 p1 p2 p3 p4 p5 p6 p7 := by
  have a := C11_hex_modes_agree_planar p0 p1 p2 p3 p4 p5 p6 p7 h0 h1 h2 h3 h4 h5
  have b := C11_hexGauss_eq_centroid g hg p0 p1 p2 p3 p4 p5 p6 p7
  linear_combination 64 * a - b

/-- hex with planar faces: every mode equals the fan (divergence-theorem) volume of the six faces of femio's face table,
    i.e. the exact volume of the solid bounded by those planar faces.  The linear mode needs only the three faces
    `[0,1,5,4] [0,3,2,1] [2,3,7,6]` (on the others its diagonal is the fan's). -/
theorem C11_hex_planar_exact (p0 p1 p2 p3 p4 p5 p6 p7 : V3 R)
    (h0 : twist p0 p1 p5 p4 = 0)
    (h1 : twist p0 p3 p2 p1 = 0)
    (h3 : twist p2 p3 p7 p6 = 0) :
    hexLin6 p0 p1 p2 p3 p4 p5 p6 p7
      = polyFan6 [[p0, p1, p5, p4], [p0, p3, p2, p1], [p1, p2, p6, p5], [p2, p3, p7, p6], [p3, p0, p4, p7], [p4, p5, p6, p7]] ∧
    (twist p1 p2 p6 p5 = 0 →
     twist p3 p0 p4 p7 = 0 →
     twist p4 p5 p6 p7 = 0 →
      hexC24 p0 p1 p2 p3 p4 p5 p6 p7
        = 4 * polyFan6 [[p0, p1, p5, p4], [p0, p3, p2, p1], [p1, p2, p6, p5], [p2, p3, p7, p6], [p3, p0, p4, p7], [p4, p5, p6, p7]] ∧
      ∀ g : R, 3 * g * g = 1 → 3 * hexGauss512 1 g p0 p1 p2 p3 p4 p5 p6 p7
        = 256 * polyFan6 [[p0, p1, p5, p4], [p0, p3, p2, p1], [p1, p2, p6, p5], [p2, p3, p7, p6], [p3, p0, p4, p7], [p4, p5, p6, p7]]) := by
  have e := C11_hex_lin_fan_defect p0 p1 p2 p3 p4 p5 p6 p7
  rw [h0, h1, h3] at e
  have hl : hexLin6 p0 p1 p2 p3 p4 p5 p6 p7
      = polyFan6 [[p0, p1, p5, p4], [p0, p3, p2, p1], [p1, p2, p6, p5], [p2, p3, p7, p6], [p3, p0, p4, p7], [p4, p5, p6, p7]] := by
    rw [e]; ring
  refine ⟨hl, fun h2 h4 h5 => ?_⟩
  have a := C11_hex_modes_agree_planar p0 p1 p2 p3 p4 p5 p6 p7 h0 h1 h2 h3 h4 h5
  refine ⟨by rw [← a, hl], fun g hg => ?_⟩
  have b := C11_hexGauss_eq_centroid g hg p0 p1 p2 p3 p4 p5 p6 p7
  rw [b, ← a, hl]; ring

/-- prism with three planar quad faces `[0,3,4,1] [1,4,5,2] [0,2,5,3]` (ends need not be parallel or congruent):
    linear (3 tets) = centroid = fan volume of the five faces (the `gaussian` mode of a prism is the linear kernel) -/
theorem C11_prism_modes_agree_planar (p0 p1 p2 p3 p4 p5 : V3 R)
    (h0 : twist p0 p3 p4 p1 = 0)
    (h1 : twist p1 p4 p5 p2 = 0)
    (h2 : twist p0 p2 p5 p3 = 0) :
    4 * prismLin6 p0 p1 p2 p3 p4 p5 = prismC24 4 p0 p1 p2 p3 p4 p5 ∧
    prismLin6 p0 p1 p2 p3 p4 p5
      = polyFan6 [[p0, p1, p2], [p3, p5, p4], [p0, p3, p4, p1], [p1, p4, p5, p2], [p0, p2, p5, p3]] := by
  have e := prism_lin_centroid_defect p0 p1 p2 p3 p4 p5
  have e' := C11_prism_lin_fan_defect p0 p1 p2 p3 p4 p5
  rw [h0, h1, h2] at e e'
  exact ⟨by rw [e]; ring, by rw [e']; ring⟩

/-- pyramid with a planar base `[0,3,2,1]` (any quadrilateral, any apex): linear (2 tets) = centroid = fan volume of the
    five faces (the `gaussian` mode of a pyramid is the linear kernel) -/
theorem C11_pyr_modes_agree_planar (p0 p1 p2 p3 p4 : V3 R)
    (h0 : twist p0 p3 p2 p1 = 0) :
    4 * pyrLin6 p0 p1 p2 p3 p4 = pyrC24 4 p0 p1 p2 p3 p4 ∧
    pyrLin6 p0 p1 p2 p3 p4 = polyFan6 [[p0, p1, p4], [p1, p2, p4], [p2, p3, p4], [p3, p0, p4], [p0, p3, p2, p1]] := by
  have e := pyr_lin_centroid_defect p0 p1 p2 p3 p4
  rw [h0] at e
  exact ⟨by rw [e]; ring, (C11_pyr_lin_centroid_defect p0 p1 p2 p3 p4).2⟩

end Ring

/-! ## the dispatch `volume ty mode` on planar-faced cells (over `Rat`, as evaluated by the driver) -/

/-- `calculate_element_volumes` on a planar-faced hex: `linear` and `centroid` return the same number, the fan volume
    of its faces / 6 -/
theorem C11_volume_hex_planar (p0 p1 p2 p3 p4 p5 p6 p7 : V3 Rat)
    (h0 : V3.det (V3.sub p1 p0) (V3.sub p5 p0) (V3.sub p4 p0) = 0)
    (h1 : V3.det (V3.sub p3 p0) (V3.sub p2 p0) (V3.sub p1 p0) = 0)
    (h2 : V3.det (V3.sub p2 p1) (V3.sub p6 p1) (V3.sub p5 p1) = 0)
    (h3 : V3.det (V3.sub p3 p2) (V3.sub p7 p2) (V3.sub p6 p2) = 0)
    (h4 : V3.det (V3.sub p0 p3) (V3.sub p4 p3) (V3.sub p7 p3) = 0)
    (h5 : V3.det (V3.sub p5 p4) (V3.sub p6 p4) (V3.sub p7 p4) = 0) :
    ∀ mode, mode ≠ Mode.gaussian →
      (volume "hex" mode [p0, p1, p2, p3, p4, p5, p6, p7]).map VolNF.val
        = some (polyFan6 [[p0, p1, p5, p4], [p0, p3, p2, p1], [p1, p2, p6, p5], [p2, p3, p7, p6], [p3, p0, p4, p7],
            [p4, p5, p6, p7]] / 6) := by
  obtain ⟨hl, hc⟩ := C11_hex_planar_exact p0 p1 p2 p3 p4 p5 p6 p7 h0 h1 h3
  obtain ⟨hc, -⟩ := hc h2 h4 h5
  intro mode hm
  cases mode with
  | linear => simp only [volume, Option.map_some, VolNF.val, hl]
  | gaussian => exact absurd rfl hm
  | centroid => simp only [volume, Option.map_some, VolNF.val, hc]; congr 1; ring

/-- … on a prism with planar quad faces and a pyramid with a planar base: every mode returns the fan volume / 6 -/
theorem C11_volume_prism_pyr_planar (mode : Mode) :
    (∀ p0 p1 p2 p3 p4 p5 : V3 Rat,
      V3.det (V3.sub p3 p0) (V3.sub p4 p0) (V3.sub p1 p0) = 0 →
      V3.det (V3.sub p4 p1) (V3.sub p5 p1) (V3.sub p2 p1) = 0 →
      V3.det (V3.sub p2 p0) (V3.sub p5 p0) (V3.sub p3 p0) = 0 →
      (volume "prism" mode [p0, p1, p2, p3, p4, p5]).map VolNF.val
        = some (polyFan6 [[p0, p1, p2], [p3, p5, p4], [p0, p3, p4, p1], [p1, p4, p5, p2], [p0, p2, p5, p3]] / 6)) ∧
    (∀ p0 p1 p2 p3 p4 : V3 Rat,
      V3.det (V3.sub p3 p0) (V3.sub p2 p0) (V3.sub p1 p0) = 0 →
      (volume "pyr" mode [p0, p1, p2, p3, p4]).map VolNF.val
        = some (polyFan6 [[p0, p1, p4], [p1, p2, p4], [p2, p3, p4], [p3, p0, p4], [p0, p3, p2, p1]] / 6)) := by
  constructor
  · intro p0 p1 p2 p3 p4 p5 h0 h1 h2
    obtain ⟨a, b⟩ := C11_prism_modes_agree_planar p0 p1 p2 p3 p4 p5 h0 h1 h2
    cases mode with
    | linear => simp only [volume, Option.map_some, VolNF.val, b]
    | gaussian => simp only [volume, Option.map_some, VolNF.val, b]
    | centroid => simp only [volume, Option.map_some, VolNF.val, ← a, b]; congr 1; ring
  · intro p0 p1 p2 p3 p4 h0
    obtain ⟨a, b⟩ := C11_pyr_modes_agree_planar p0 p1 p2 p3 p4 h0
    cases mode with
    | linear => simp only [volume, Option.map_some, VolNF.val, b]
    | gaussian => simp only [volume, Option.map_some, VolNF.val, b]
    | centroid => simp only [volume, Option.map_some, VolNF.val, ← a, b]; congr 1; ring

/-- one twisted face: the unit cube with node 6 lifted along its vertical edge keeps five faces planar and twists the
    top `[4,5,6,7]`; linear and centroid then differ (by 2·twist / 24 = 1/12 of a unit volume) -/
theorem C11_hex_modes_disagree_nonplanar :
    let p0 : V3 Int := ⟨0,0,0⟩; let p1 : V3 Int := ⟨1,0,0⟩; let p2 : V3 Int := ⟨1,1,0⟩; let p3 : V3 Int := ⟨0,1,0⟩
    let p4 : V3 Int := ⟨0,0,1⟩; let p5 : V3 Int := ⟨1,0,1⟩; let p6 : V3 Int := ⟨1,1,2⟩; let p7 : V3 Int := ⟨0,1,1⟩
    4 * hexLin6 p0 p1 p2 p3 p4 p5 p6 p7 ≠ hexC24 p0 p1 p2 p3 p4 p5 p6 p7 ∧
    V3.det (V3.sub p1 p0) (V3.sub p5 p0) (V3.sub p4 p0) = 0 ∧ V3.det (V3.sub p3 p0) (V3.sub p2 p0) (V3.sub p1 p0) = 0 ∧
    V3.det (V3.sub p2 p1) (V3.sub p6 p1) (V3.sub p5 p1) = 0 ∧ V3.det (V3.sub p3 p2) (V3.sub p7 p2) (V3.sub p6 p2) = 0 ∧
    V3.det (V3.sub p0 p3) (V3.sub p4 p3) (V3.sub p7 p3) = 0 ∧ V3.det (V3.sub p5 p4) (V3.sub p6 p4) (V3.sub p7 p4) ≠ 0 := by
  decide +kernel

/-- prism (node 5 moved inside the plane of `[0,2,5,3]`, so only `[1,4,5,2]` is twisted) / pyramid with a twisted base:
    linear and centroid differ -/
theorem C11_prism_pyr_modes_disagree_nonplanar :
    4 * prismLin6 (R := Int) ⟨0,0,0⟩ ⟨0,1,0⟩ ⟨1,0,0⟩ ⟨0,0,1⟩ ⟨0,1,1⟩ ⟨2,0,1⟩
      ≠ prismC24 4 ⟨0,0,0⟩ ⟨0,1,0⟩ ⟨1,0,0⟩ ⟨0,0,1⟩ ⟨0,1,1⟩ ⟨2,0,1⟩ ∧
    4 * pyrLin6 (R := Int) ⟨0,0,0⟩ ⟨1,0,0⟩ ⟨1,1,1⟩ ⟨0,1,0⟩ ⟨0,0,2⟩ ≠ pyrC24 4 ⟨0,0,0⟩ ⟨1,0,0⟩ ⟨1,1,1⟩ ⟨0,1,0⟩ ⟨0,0,2⟩ := by
  decide +kernel

/-- the truncated literal `0.5773502692` of the code is not the Gauss abscissa: `3·gaussP² − 1 ≠ 0` (it is ≈ +3.6e-11),
    so by `C11_hexGauss_centroid_defect` the Gaussian mode is off by that factor times `64·centroid − 3·(one-point rule)` -/
theorem C11_gaussP_inexact :
    gaussP = 5773502692 / 10000000000 ∧ 3 * gaussP * gaussP - 1 = (224608787 : Rat) / 6250000000000000000 := by
  decide +kernel

/-- with the code's literal the Gaussian mode is NOT exact on a planar-faced non-affine hex: the square frustum
    `4×4 → 2×2`, height 3, has volume 28 (`linear`: 168/6, `centroid`: 672/24), but `gaussian` returns
    `(512·28 + 224608787/12207031250000000) / 512` ≠ 28. (On affine cells every abscissa is exact: `C11_hex_modes_agree_affine`.) -/
theorem C11_hexGauss_literal_inexact :
    let p0 : V3 Rat := ⟨0,0,0⟩; let p1 : V3 Rat := ⟨4,0,0⟩; let p2 : V3 Rat := ⟨4,4,0⟩; let p3 : V3 Rat := ⟨0,4,0⟩
    let p4 : V3 Rat := ⟨1,1,3⟩; let p5 : V3 Rat := ⟨3,1,3⟩; let p6 : V3 Rat := ⟨3,3,3⟩; let p7 : V3 Rat := ⟨1,3,3⟩
    (volume "hex" .linear [p0, p1, p2, p3, p4, p5, p6, p7]).map VolNF.val = some 28 ∧
    (volume "hex" .centroid [p0, p1, p2, p3, p4, p5, p6, p7]).map VolNF.val = some 28 ∧
    (volume "hex" .gaussian [p0, p1, p2, p3, p4, p5, p6, p7]).map VolNF.val ≠ some 28 ∧
    V3.det (V3.sub p1 p0) (V3.sub p5 p0) (V3.sub p4 p0) = 0 ∧ V3.det (V3.sub p3 p0) (V3.sub p2 p0) (V3.sub p1 p0) = 0 ∧
    V3.det (V3.sub p2 p1) (V3.sub p6 p1) (V3.sub p5 p1) = 0 ∧ V3.det (V3.sub p3 p2) (V3.sub p7 p2) (V3.sub p6 p2) = 0 ∧
    V3.det (V3.sub p0 p3) (V3.sub p4 p3) (V3.sub p7 p3) = 0 ∧ V3.det (V3.sub p5 p4) (V3.sub p6 p4) (V3.sub p7 p4) = 0 := by
  decide +kernel

section Examples

/-- a hex cut by an oblique plane (`z = 1 + x + 2y` over the unit square): end faces not parallel; volume 5/2 -/
example : 4 * hexLin6 (R := Int) ⟨0,0,0⟩ ⟨1,0,0⟩ ⟨1,1,0⟩ ⟨0,1,0⟩ ⟨0,0,1⟩ ⟨1,0,2⟩ ⟨1,1,4⟩ ⟨0,1,3⟩
    = hexC24 ⟨0,0,0⟩ ⟨1,0,0⟩ ⟨1,1,0⟩ ⟨0,1,0⟩ ⟨0,0,1⟩ ⟨1,0,2⟩ ⟨1,1,4⟩ ⟨0,1,3⟩ :=
  C11_hex_modes_agree_planar _ _ _ _ _ _ _ _ (by decide +kernel) (by decide +kernel) (by decide +kernel) (by decide +kernel) (by decide +kernel) (by decide +kernel)
example : hexLin6 (R := Int) ⟨0,0,0⟩ ⟨1,0,0⟩ ⟨1,1,0⟩ ⟨0,1,0⟩ ⟨0,0,1⟩ ⟨1,0,2⟩ ⟨1,1,4⟩ ⟨0,1,3⟩ = 15 := by decide +kernel

/-- the exact abscissa exists: `g = √3/3` in the commutative ring `ℚ(√3)` (`QS3`, `Lemmas/C11ModesLemmas.lean`).
    The square frustum `4×4 → 2×2`, height 3, there: all three modes agree -/
example : 256 * hexLin6 (R := QS3) ⟨0,0,0⟩ ⟨4,0,0⟩ ⟨4,4,0⟩ ⟨0,4,0⟩ ⟨1,1,3⟩ ⟨3,1,3⟩ ⟨3,3,3⟩ ⟨1,3,3⟩
    = 3 * hexGauss512 1 QS3.gauss ⟨0,0,0⟩ ⟨4,0,0⟩ ⟨4,4,0⟩ ⟨0,4,0⟩ ⟨1,1,3⟩ ⟨3,1,3⟩ ⟨3,3,3⟩ ⟨1,3,3⟩ := by
  apply C11_hexGauss_modes_agree_planar _ QS3.three_gauss_sq <;> (simp only [V3.det, V3.sub]; norm_num)

/-- … and `C11_hexGauss_eq_centroid` holds for a TWISTED hex too -/
example : 3 * hexGauss512 (R := QS3) 1 QS3.gauss ⟨0,0,0⟩ ⟨1,0,0⟩ ⟨1,1,0⟩ ⟨0,1,0⟩ ⟨0,0,1⟩ ⟨1,0,1⟩ ⟨1,1,2⟩ ⟨0,1,1⟩
    = 64 * hexC24 ⟨0,0,0⟩ ⟨1,0,0⟩ ⟨1,1,0⟩ ⟨0,1,0⟩ ⟨0,0,1⟩ ⟨1,0,1⟩ ⟨1,1,2⟩ ⟨0,1,1⟩ :=
  C11_hexGauss_eq_centroid _ QS3.three_gauss_sq _ _ _ _ _ _ _ _

/-- hex: the fan volume of the face table is the volume (frustum: 6·28) -/
example : polyFan6 (R := Int) [[⟨0,0,0⟩, ⟨4,0,0⟩, ⟨3,1,3⟩, ⟨1,1,3⟩], [⟨0,0,0⟩, ⟨0,4,0⟩, ⟨4,4,0⟩, ⟨4,0,0⟩],
    [⟨4,0,0⟩, ⟨4,4,0⟩, ⟨3,3,3⟩, ⟨3,1,3⟩], [⟨4,4,0⟩, ⟨0,4,0⟩, ⟨1,3,3⟩, ⟨3,3,3⟩], [⟨0,4,0⟩, ⟨0,0,0⟩, ⟨1,1,3⟩, ⟨1,3,3⟩],
    [⟨1,1,3⟩, ⟨3,1,3⟩, ⟨3,3,3⟩, ⟨1,3,3⟩]] = 168 := by decide +kernel
example := C11_hex_planar_exact (R := Int) ⟨0,0,0⟩ ⟨4,0,0⟩ ⟨4,4,0⟩ ⟨0,4,0⟩ ⟨1,1,3⟩ ⟨3,1,3⟩ ⟨3,3,3⟩ ⟨1,3,3⟩
  (by decide +kernel) (by decide +kernel) (by decide +kernel)

/-- a triangle extruded to three different heights 1, 2, 3 (femio's prism orientation): volume 1 -/
example : 4 * prismLin6 (R := Int) ⟨0,0,0⟩ ⟨0,1,0⟩ ⟨1,0,0⟩ ⟨0,0,1⟩ ⟨0,1,2⟩ ⟨1,0,3⟩
      = prismC24 4 ⟨0,0,0⟩ ⟨0,1,0⟩ ⟨1,0,0⟩ ⟨0,0,1⟩ ⟨0,1,2⟩ ⟨1,0,3⟩ :=
  (C11_prism_modes_agree_planar _ _ _ _ _ _ (by decide +kernel) (by decide +kernel) (by decide +kernel)).1
example : prismLin6 (R := Int) ⟨0,0,0⟩ ⟨0,1,0⟩ ⟨1,0,0⟩ ⟨0,0,1⟩ ⟨0,1,2⟩ ⟨1,0,3⟩ = 6 := by decide +kernel

/-- a pyramid over a planar trapezoid-like base that is not a parallelogram -/
example : 4 * pyrLin6 (R := Int) ⟨0,0,0⟩ ⟨2,0,0⟩ ⟨3,3,0⟩ ⟨0,1,0⟩ ⟨1,1,2⟩ = pyrC24 4 ⟨0,0,0⟩ ⟨2,0,0⟩ ⟨3,3,0⟩ ⟨0,1,0⟩ ⟨1,1,2⟩ :=
  (C11_pyr_modes_agree_planar _ _ _ _ _ (by decide +kernel)).1
example : pyrLin6 (R := Int) ⟨0,0,0⟩ ⟨2,0,0⟩ ⟨3,3,0⟩ ⟨0,1,0⟩ ⟨1,1,2⟩ = 18 := by decide +kernel

example := C11_volume_hex_planar ⟨0,0,0⟩ ⟨4,0,0⟩ ⟨4,4,0⟩ ⟨0,4,0⟩ ⟨1,1,3⟩ ⟨3,1,3⟩ ⟨3,3,3⟩ ⟨1,3,3⟩
  (by decide +kernel) (by decide +kernel)
  (by decide +kernel) (by decide +kernel)
  (by decide +kernel) (by decide +kernel)
example := (C11_volume_prism_pyr_planar .centroid).1 ⟨0,0,0⟩ ⟨0,1,0⟩ ⟨1,0,0⟩ ⟨0,0,1⟩ ⟨0,1,2⟩ ⟨1,0,3⟩
  (by decide +kernel) (by decide +kernel)
  (by decide +kernel)
example := (C11_volume_prism_pyr_planar .centroid).2 ⟨0,0,0⟩ ⟨2,0,0⟩ ⟨3,3,0⟩ ⟨0,1,0⟩ ⟨1,1,2⟩
  (by decide +kernel)

end Examples

end Femio.C11
