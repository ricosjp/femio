import Femio.Model.Incidence
import Femio.Lemmas.GeomProps
import Femio.Lemmas.IncidenceStruct
import Femio.Lemmas.FluxD
import Femio.Lemmas.IncidenceSigns
import Mathlib.Tactic.Ring
import Mathlib.Tactic.Linarith
import Mathlib.Algebra.Order.Field.Basic

/-! # C12 — signed cell–facet incidence obeys the discrete divergence theorem

Model: `Femio/Model/Incidence.lean` (facets = first occurrence per sorted node tuple, incidence = "cell contains every
facet node", sign = sign of (facet centre − cell centre)·normal with vertex-mean centres). The Boolean hypotheses the
driver evaluates on every generated mesh (`c12.incidence` reply). Area vectors are doubled (`areaVec2`), centres are
vertex sums (`vsum`), so no division occurs; the statements say which multiple of the volume appears. -/
namespace Femio.C12
open Core Faces V3 Geom Femio.Gen Femio.C10

/-- If a facet whose nodes all lie in a cell is one of that cell's faces (`faceDeterminedB`) and
    faces only use their cell's nodes (`ownNodesB`), then the code's incidence test holds for cell `c` and facet
    `f` **iff** `f` is, as a node set, one of `c`'s own faces: every cell is incident to exactly its own faces. -/
theorem C12_structure (cells : List Elem) (facets : List Face)
    (hfd : faceDeterminedB cells facets = true) (hown : ownNodesB cells = true)
    (c : Elem) (hc : c ∈ cells) (f : Face) (hf : f ∈ facets) :
    incident c.conn f = true ↔ ∃ g ∈ elemFaces c, key g = key f :=
  incident_iff_own_face (cells.map fun e => ⟨e.conn, elemFaces e⟩) facets
    (by rw [_root_.faceDeterminedB, List.all_map]; exact hfd) (by rw [_root_.ownNodesB, List.all_map]; exact hown)
    ⟨c.conn, elemFaces c⟩ (List.mem_map_of_mem hc) f hf

/-- **C12_structure (counting).** If moreover the faces of one cell have pairwise different node sets
    (`distinctKeysB`), the number of cells a facet is incident to equals the number of element faces carrying its
    node set: a boundary facet (node set used once) is incident to exactly one cell, an interior facet (used
    twice) to exactly two. -/
theorem C12_structure_count (cells : List Elem) (facets : List Face)
    (hfd : faceDeterminedB cells facets = true) (hown : ownNodesB cells = true) (hdk : distinctKeysB cells = true)
    (f : Face) (hf : f ∈ facets) :
    (cells.filter fun c => incident c.conn f).length = (fiberB (allFaces [cells]) (key f)).length := by
  -- a cell incident to `f` has the node set of `f` among its faces exactly once, any other cell not at all
  have hcell : ∀ c ∈ cells, (fiberB (elemFaces c) (key f)).length = if incident c.conn f = true then 1 else 0 := by
    intro c hc
    rw [distinctKeysB, List.all_eq_true] at hdk
    rw [fiberB_length, count_eq_of_distinct _ (hdk c hc)]
    simp only [C12_structure cells facets hfd hown c hc f hf, List.mem_map]
  simp only [allFaces, List.flatMap_cons, List.flatMap_nil, List.append_nil]
  clear hfd hown hdk hf
  induction cells with
  | nil => rfl
  | cons c t ih =>
    rw [List.flatMap_cons, fiberB, List.filter_append, List.length_append, ← fiberB, ← fiberB,
      hcell c List.mem_cons_self, ← ih fun x hx => hcell x (List.mem_cons_of_mem c hx), List.filter_cons]
    split <;> simp [Nat.add_comm]

/-- non-vacuity: two glued tets; facet {11,12,13} is interior (two cells), facet {10,11,12} boundary (one cell) -/
def twoCells : List Elem := [⟨7, 8, [10, 11, 12, 13]⟩, ⟨3, 8, [11, 12, 13, 14]⟩]
example : faceDeterminedB twoCells (toFacets [twoCells]) = true ∧ ownNodesB twoCells = true ∧
    distinctKeysB twoCells = true ∧ (toFacets [twoCells]).length = 7 ∧
    (twoCells.filter fun c => incident c.conn [11, 13, 12]).length = 2 ∧
    (twoCells.filter fun c => incident c.conn [10, 12, 11]).length = 1 := by decide +kernel

section Signs
variable {R : Type} [Field R] [LinearOrder R] [IsStrictOrderedRing R]

/-- Seen from the same cell, a facet and its mirror image (same nodes, traversed backwards —
    how the facet stored by one cell relates to the neighbour's own face) have opposite normals, hence opposite
    sign quantities, and opposite area vectors; triangles and quadrilaterals, any coordinates. -/
theorem C12_mirror_sign (pt : Nat → V3 R) (cellPts : List (V3 R)) (g f : Face) (h : mirrorB g f = true) :
    signDot cellPts (f.map pt) (normalDir (f.map pt)) = - signDot cellPts (g.map pt) (normalDir (g.map pt)) ∧
    areaVec2 (f.map pt) = smul (-1) (areaVec2 (g.map pt)) := by
  -- the vertex sum is that of a permutation; the normal is a multiple of the area vector and flips with it
  unfold mirrorB at h
  split at h
  · simp only [Bool.or_eq_true, beq_iff_eq] at h
    rename_i a b c
    have hv : vsum (f.map pt) = vsum ([a, b, c].map pt) := by
      rcases h with (rfl | rfl) | rfl <;> simp only [List.map, vsum, List.foldr, add_left_comm_v3]
    have ha : areaVec2 (f.map pt) = smul (-1) (areaVec2 ([a, b, c].map pt)) := by
      rcases h with (rfl | rfl) | rfl <;> simp only [List.map]
      · exact areaVec2_rev3 _ _ _
      · rw [areaVec2_rot3, areaVec2_rev3]
      · rw [areaVec2_rot3, areaVec2_rot3, areaVec2_rev3]
    have hl : (f.map pt).length = ([a, b, c].map pt).length := by
      rcases h with (rfl | rfl) | rfl <;> rfl
    have hn : normalDir (f.map pt) = smul (-1) (normalDir ([a, b, c].map pt)) := by
      rcases h with (rfl | rfl) | rfl <;> exact ha
    exact ⟨signDot_mirror cellPts _ _ hv hl hn, ha⟩
  · simp only [Bool.or_eq_true, beq_iff_eq] at h
    rename_i a b c d
    have hv : vsum (f.map pt) = vsum ([a, b, c, d].map pt) := by
      rcases h with ((rfl | rfl) | rfl) | rfl <;>
        simp only [List.map, vsum, List.foldr, add_left_comm_v3]
    have ha : areaVec2 (f.map pt) = smul (-1) (areaVec2 ([a, b, c, d].map pt)) := by
      rcases h with ((rfl | rfl) | rfl) | rfl <;> simp only [List.map]
      · exact areaVec2_rev4 _ _ _ _
      · rw [areaVec2_rot4, areaVec2_rev4]
      · rw [areaVec2_rot4, areaVec2_rot4, areaVec2_rev4]
      · rw [areaVec2_rot4, areaVec2_rot4, areaVec2_rot4, areaVec2_rev4]
    have hl : (f.map pt).length = ([a, b, c, d].map pt).length := by
      rcases h with ((rfl | rfl) | rfl) | rfl <;> rfl
    have hn : normalDir (f.map pt) = smul (-1) (normalDir ([a, b, c, d].map pt)) := by
      rcases h with ((rfl | rfl) | rfl) | rfl <;>
        simp only [List.map, normalDir_quad] at ha ⊢ <;> rw [ha, smul_smul_swap]
    exact ⟨signDot_mirror cellPts _ _ hv hl hn, ha⟩
  · cases h

/-- For a tetrahedron of positive volume the computed sign is `+1` on each of its own table
    faces (which are outward by `C10_element_outward`) and `−1` on every mirror image of one of them (the
    orientation in which a facet stored by the neighbouring cell appears). Hence an interior facet gets opposite
    signs from its two cells. -/
theorem C12_tet_sign (p0 p1 p2 p3 : V3 R) (hpos : 0 < tet6 p0 p1 p2 p3) :
    ∀ g ∈ faces_tet,
      signOf [p0, p1, p2, p3] (ptsOf [p0, p1, p2, p3] g) = 1 ∧
      ∀ f, mirrorB g f = true → signOf [p0, p1, p2, p3] (ptsOf [p0, p1, p2, p3] f) = -1 := by
  intro g hg
  have h1 := tet_signDot p0 p1 p2 p3 g hg
  refine ⟨?_, fun f hf => ?_⟩
  · unfold signOf
    rw [h1, if_neg]
    simp only [Nat.cast_zero, not_lt]; linarith
  · have h2 : signDot [p0, p1, p2, p3] (ptsOf [p0, p1, p2, p3] f) (normalDir (ptsOf [p0, p1, p2, p3] f))
        = -(3 * tet6 p0 p1 p2 p3) := by
      rw [← h1]
      have key := (C12_mirror_sign (fun i => ([p0, p1, p2, p3][i]?).getD p0) [p0, p1, p2, p3] g f hf).1
      -- once `g` and `f` are concrete, `ptsOf` evaluates to the `List.map` of `key`
      simp only [faces_tet, List.mem_cons, List.mem_nil_iff, or_false] at hg
      rcases hg with rfl | rfl | rfl | rfl <;> simp only [mirrorB, Bool.or_eq_true, beq_iff_eq] at hf <;>
        rcases hf with (rfl | rfl) | rfl <;> exact key
    unfold signOf
    rw [h2, if_pos]
    simp only [Nat.cast_zero]; linarith

/-- non-vacuity: the unit tet -/
example : (0 : Rat) < tet6 (⟨0, 0, 0⟩ : V3 Rat) ⟨1, 0, 0⟩ ⟨0, 1, 0⟩ ⟨0, 0, 1⟩ := by
  decide +kernel

/-- For any cell and facet (hexahedron, or any other convex cell) and any facet normal
    `n`: if every cell vertex lies on the inner side of every facet vertex with respect to `n`
    (`(q − p)·n ≥ 0`, strictly for at least one pair — convexity with `n` pointing outwards), then the quantity
    whose sign the code takes, `(#cell·#facet)·(facet centre − cell centre)·n`, is positive: the sign is `+1`. -/
theorem C12_hex_sign_convex (cellPts facetPts : List (V3 R)) (n : V3 R)
    (hin : ∀ p ∈ cellPts, ∀ q ∈ facetPts, 0 ≤ dot (sub q p) n)
    (hstrict : ∃ p ∈ cellPts, ∃ q ∈ facetPts, 0 < dot (sub q p) n) :
    0 < signDot cellPts facetPts n := by
  rw [signDot_eq_sum]
  obtain ⟨p, hp, q, hq, h⟩ := hstrict
  exact sum_map_pos _ _ (fun p hp => sum_map_nonneg _ _ (hin p hp)) ⟨p, hp, sum_map_pos _ _ (hin p hp) ⟨q, hq, h⟩⟩

/-- non-vacuity: unit cube, top face with normal (0,0,1) -/
example : let cell : List (V3 Rat) := [⟨0,0,0⟩, ⟨1,0,0⟩, ⟨1,1,0⟩, ⟨0,1,0⟩, ⟨0,0,1⟩, ⟨1,0,1⟩, ⟨1,1,1⟩, ⟨0,1,1⟩]
    let facet : List (V3 Rat) := [⟨0,0,1⟩, ⟨1,0,1⟩, ⟨1,1,1⟩, ⟨0,1,1⟩]
    (∀ p ∈ cell, ∀ q ∈ facet, 0 ≤ dot (sub q p) (⟨0,0,1⟩ : V3 Rat)) ∧
    (∃ p ∈ cell, ∃ q ∈ facet, 0 < dot (sub q p) (⟨0,0,1⟩ : V3 Rat)) ∧ signDot cell facet ⟨0,0,1⟩ = 16 := by
  decide +kernel

/-- Convexity hypothesis that also covers hexahedra with SKEW (non-planar) faces, where
    `C12_hex_sign_convex` is vacuous (two of the four vertices of a skew face lie strictly outside the plane through
    the face centre, and they are cell vertices). Split the cell vertices into the vertices of the facet and the
    rest (`cellPts` is a permutation of `facetPts ++ restPts`). If every REMAINING cell vertex `p` lies on the inner
    side of the MEAN PLANE of the facet - the plane through the facet centre (vertex mean) perpendicular to `n`:
    `Σ_{q ∈ facet} (q − p)·n = #facet·(facet centre − p)·n ≥ 0`, strictly for one `p` - then the quantity whose sign
    the code takes, `(#cell·#facet)·(facet centre − cell centre)·n`, is positive. The facet's own vertices need no
    hypothesis: their deviations from the mean plane cancel. This is exactly why the facet CENTRE is the right
    reference point: see `C12_first_node_reference_counterexample`. -/
theorem C12_hex_sign_meanplane (cellPts facetPts restPts : List (V3 R)) (n : V3 R)
    (hperm : cellPts.Perm (facetPts ++ restPts))
    (hin : ∀ p ∈ restPts, 0 ≤ (facetPts.map fun q => dot (sub q p) n).sum)
    (hstrict : ∃ p ∈ restPts, 0 < (facetPts.map fun q => dot (sub q p) n).sum) :
    0 < signDot cellPts facetPts n := by
  -- the pairs with `p` a vertex of the facet itself cancel: they add up to `signDot facetPts facetPts n = 0`
  rw [signDot_eq_sum, (hperm.map _).sum_eq, List.map_append, List.sum_append, ← signDot_eq_sum, signDot_eq, sub_self,
    zero_add]
  exact sum_map_pos _ _ hin hstrict

/-- the lower cell of a thin two-layer plate (lateral size 100, layer thickness 10) whose middle node layer is displaced
    alternately by ±7 (more than half the layer thickness), and the upper cell; they share the skew face `wFace` -/
def wLower : List (V3 Rat) := [⟨0,0,0⟩, ⟨100,0,0⟩, ⟨100,100,0⟩, ⟨0,100,0⟩, ⟨0,0,17⟩, ⟨100,0,3⟩, ⟨100,100,17⟩, ⟨0,100,3⟩]
def wUpper : List (V3 Rat) := [⟨0,0,17⟩, ⟨100,0,3⟩, ⟨100,100,17⟩, ⟨0,100,3⟩, ⟨0,0,20⟩, ⟨100,0,20⟩, ⟨100,100,20⟩, ⟨0,100,20⟩]
def wFace : List (V3 Rat) := [⟨0,0,17⟩, ⟨100,0,3⟩, ⟨100,100,17⟩, ⟨0,100,3⟩]

/-- non-vacuity of `C12_hex_sign_meanplane` on a cell with a skew face (where the hypothesis of `C12_hex_sign_convex`
    is false: the facet vertex (100,0,3) is below the cell = facet vertex (0,0,17) with respect to the normal) -/
example : let rest : List (V3 Rat) := [⟨0,0,0⟩, ⟨100,0,0⟩, ⟨100,100,0⟩, ⟨0,100,0⟩]
    wLower.Perm (wFace ++ rest) ∧
    (∀ p ∈ rest, 0 ≤ (wFace.map fun q => dot (sub q p) (normalDir wFace)).sum) ∧
    (∃ p ∈ rest, 0 < (wFace.map fun q => dot (sub q p) (normalDir wFace)).sum) ∧
    ¬ (∀ p ∈ wLower, ∀ q ∈ wFace, 0 ≤ dot (sub q p) (normalDir wFace)) := by
  decide +kernel

/-- `signDot cell [q] n = #cell·(q − cell centre)·n` is the quantity whose
    sign is taken when ONE NODE `q` of the facet replaces the facet centre as the reference point ("any point of the
    facet lies on its plane" - true for planar facets only, `C12_planar_reference_point`). On the skew face shared by the
    two cells above, the real rule gives opposite signs to the two cells, the first-node rule gives both cells the SAME
    sign: the interior facet is not incident to its two cells with opposite signs. (Seeded change C12-10.) -/
theorem C12_first_node_reference_counterexample :
    (0 < signDot wLower wFace (normalDir wFace) ∧ signDot wUpper wFace (normalDir wFace) < 0) ∧
    (0 < signDot wLower (wFace.take 1) (normalDir wFace) ∧ 0 < signDot wUpper (wFace.take 1) (normalDir wFace)) := by
  decide +kernel

/-! ## similarity: the model is blind to absolute scale and position

The clauses of the property are invariant under `x ↦ s·x + t` (`s > 0`) in exact arithmetic: area vectors are multiplied by
`s²`, the quantity whose sign the code takes by `s³`, so the signed incidence matrix is unchanged. Hence an exact-rational model
cannot distinguish a mesh with millimetre cells, or one located 10⁷ cell sizes from the origin, from its unit-size image at the
origin: whatever the real code does differently there is a floating-point effect (a clamp such as `config.EPSILON`, cancellation),
which is why the harness streams `absolute-scale` and `far-offset` are oracle + metamorphic streams and why the relation they assert
("same facets, incidence, signs, normals and areas × `s²`") is the right one. -/

omit [LinearOrder R] [IsStrictOrderedRing R] in
/-- Under `x ↦ s·x + t` the un-normalised normal the code computes and the doubled area vector of a
    triangular / quadrilateral facet are multiplied by `s²` (a translation leaves them unchanged). -/
theorem C12_similarity_area (s : R) (t a b c d : V3 R) :
    normalDir ([a, b, c].map (simil s t)) = smul (s * s) (normalDir [a, b, c]) ∧
    normalDir ([a, b, c, d].map (simil s t)) = smul (s * s) (normalDir [a, b, c, d]) ∧
    areaVec2 ([a, b, c].map (simil s t)) = smul (s * s) (areaVec2 [a, b, c]) ∧
    areaVec2 ([a, b, c, d].map (simil s t)) = smul (s * s) (areaVec2 [a, b, c, d]) := by
  simp only [simil_eq, normalDir_affine, areaVec2_affine, Femio.C11.scaleM_cof_app, and_self]

/-- For `s > 0` the sign the code computes for a (cell, triangular or quadrilateral facet) pair is
    unchanged by `x ↦ s·x + t`: the signed incidence matrix of a uniformly scaled and translated mesh is that of the original
    mesh (any cell type, any coordinates). -/
theorem C12_similarity_sign (cellPts : List (V3 R)) (s : R) (hs : 0 < s) (t a b c d : V3 R) :
    signOf (cellPts.map (simil s t)) ([a, b, c].map (simil s t)) = signOf cellPts [a, b, c] ∧
    signOf (cellPts.map (simil s t)) ([a, b, c, d].map (simil s t)) = signOf cellPts [a, b, c, d] := by
  have hdet : 0 < (Femio.C11.scaleM s).det := by rw [Femio.C11.scaleM_det]; positivity
  rw [simil_eq]
  exact ⟨signOf_affine _ hdet t cellPts [a, b, c], signOf_affine _ hdet t cellPts [a, b, c, d]⟩

/-- non-vacuity: millimetre cells in metres (`s = 2⁻¹³`), UTM-like offset; the top face of the unit cube keeps its `+1` -/
example : (0 : Rat) < 1 / 8192 ∧
    signOf ([⟨0,0,0⟩, ⟨1,0,0⟩, ⟨1,1,0⟩, ⟨0,1,0⟩, ⟨0,0,1⟩, ⟨1,0,1⟩, ⟨1,1,1⟩, ⟨0,1,1⟩].map
        (simil (1 / 8192 : Rat) ⟨523456, 4123456, 123⟩))
      ([⟨0,0,1⟩, ⟨1,0,1⟩, ⟨1,1,1⟩, ⟨0,1,1⟩].map (simil (1 / 8192 : Rat) ⟨523456, 4123456, 123⟩)) = 1 := by
  decide +kernel

/-! ## affine maps: the model is blind to aspect ratio and grading

A thin layer is the image of an ordinary layer under the stretch `diag(1, 1, τ)`, every cell of a graded tensor grid is an affine
image of the unit cube. Under an affine map `x ↦ A·x + t` the un-normalised normal transforms with the cofactor matrix and the
quantity whose sign the code takes is multiplied by `det A`: for `det A > 0` the computed sign is unchanged, for EVERY `τ > 0` and
every size ratio. So in exact arithmetic a cell of thickness `10⁻⁹` of the model extent, or a cell `10⁶` times smaller than its
neighbour, gets the signs of the unit cell; whatever the real code does differently there (positions stored in single precision, a
clamp relative to the largest facet of the batch) is a floating-point effect that the exact model cannot see - which is why the
harness stream `extreme-geometry` judges the real code by an exact integer reference and ties only facets / incidence / signs to
the model. -/

/-- the affine map `x ↦ A·x + t`, `A` given by its rows `r1 r2 r3` -/
def affMap (r1 r2 r3 t p : V3 R) : V3 R := V3.add ⟨dot r1 p, dot r2 p, dot r3 p⟩ t

/-- For `det A > 0` the sign the code computes for a (cell, triangular or quadrilateral facet) pair is unchanged
    by `x ↦ A·x + t` (any cell type, any coordinates): in particular by the stretch `diag(1, 1, τ)` for every `τ > 0` (thin layers)
    and by the map that takes the unit cube to any cell of a graded tensor grid. -/
theorem C12_affine_sign (cellPts : List (V3 R)) (r1 r2 r3 : V3 R) (hdet : 0 < det r1 r2 r3) (t a b c d : V3 R) :
    signOf (cellPts.map (affMap r1 r2 r3 t)) ([a, b, c].map (affMap r1 r2 r3 t)) = signOf cellPts [a, b, c] ∧
    signOf (cellPts.map (affMap r1 r2 r3 t)) ([a, b, c, d].map (affMap r1 r2 r3 t)) = signOf cellPts [a, b, c, d] :=
  -- `affMap r1 r2 r3 t` is `p ↦ A·p + t` for the matrix `A` with these rows, by unfolding
  ⟨signOf_affine (M3.ofRows r1 r2 r3) hdet t cellPts [a, b, c], signOf_affine (M3.ofRows r1 r2 r3) hdet t cellPts [a, b, c, d]⟩

/-- non-vacuity: a coating of thickness `10⁻⁹` (stretch `diag(1, 1, 10⁻⁹)`, offset) - the top face of the thin cell keeps its `+1` -/
example : (0 : Rat) < det (⟨1, 0, 0⟩ : V3 Rat) ⟨0, 1, 0⟩ ⟨0, 0, 1 / 1000000000⟩ ∧
    signOf ([⟨0,0,0⟩, ⟨1,0,0⟩, ⟨1,1,0⟩, ⟨0,1,0⟩, ⟨0,0,1⟩, ⟨1,0,1⟩, ⟨1,1,1⟩, ⟨0,1,1⟩].map
        (affMap (⟨1, 0, 0⟩ : V3 Rat) ⟨0, 1, 0⟩ ⟨0, 0, 1 / 1000000000⟩ ⟨3, -2, 1⟩))
      ([⟨0,0,1⟩, ⟨1,0,1⟩, ⟨1,1,1⟩, ⟨0,1,1⟩].map (affMap (⟨1, 0, 0⟩ : V3 Rat) ⟨0, 1, 0⟩ ⟨0, 0, 1 / 1000000000⟩ ⟨3, -2, 1⟩)) = 1 := by
  decide +kernel

end Signs

section Metric
variable {R : Type} [Field R]

/-- the un-normalised quad normal of `_calculate_quad_normals_centroid` is 16 × the doubled vector area -/
theorem C12_normal_is_area_vector (a b c d : V3 R) :
    normalDir [a, b, c, d] = smul 16 (areaVec2 [a, b, c, d]) ∧ ∀ a b c : V3 R, normalDir [a, b, c] = areaVec2 [a, b, c] :=
  ⟨normalDir_quad a b c d, fun _ _ _ => rfl⟩

/-- For a tetrahedron and for a hexahedron (any coordinates, warped faces included) the
    outward (own-orientation) doubled area vectors of the table faces sum to zero. With `C12_tet_sign` /
    `C12_hex_sign_convex` (sign `+1` on own orientation) and `C12_mirror_sign` (a mirrored stored facet has sign
    `−1` and the negated area vector) this is `Σ_f sign(c,f)·S_f = 0` for every cell. -/
theorem C12_area_sum_zero (p0 p1 p2 p3 p4 p5 p6 p7 : V3 R) :
    vsumL (faces_tet.map fun g => areaVec2 (g.filterMap fun i => [p0, p1, p2, p3][i]?)) = vzero ∧
    vsumL (faces_hex.map fun g => areaVec2 (g.filterMap fun i => [p0, p1, p2, p3, p4, p5, p6, p7][i]?)) = vzero := by
  constructor
  · simp only [faces_tet, List.map, vsumL, vzero, List.foldr, areaVec2, List.filterMap_cons, List.filterMap_nil,
      List.getElem?_cons_zero, List.getElem?_cons_succ, triCross, V3.cross, V3.sub, V3.add]
    congr 1 <;> ring
  · simp only [faces_hex, List.map, vsumL, vzero, List.foldr, areaVec2, List.filterMap_cons, List.filterMap_nil,
      List.getElem?_cons_zero, List.getElem?_cons_succ, V3.cross, V3.sub, V3.add]
    congr 1 <;> ring

/-- `Σ_f S2_f · Σ(vertices of f)` over the table faces equals `3·(6V)` for a tetrahedron and
    `24V` (centroid kernel) for a hexahedron, i.e. with `S_f = S2_f/2` and `c_f` the vertex mean:
    `⅓ Σ_f S_f · c_f = V`. For the hexahedron this holds for the vector areas without any planarity assumption;
    planarity is what makes femio's scalar area × unit normal equal to the vector area. -/
theorem C12_divergence (p0 p1 p2 p3 p4 p5 p6 p7 : V3 R) :
    ((faces_tet.map fun g =>
        let ps := g.filterMap fun i => [p0, p1, p2, p3][i]?
        dot (areaVec2 ps) (vsumL ps)).sum = 3 * tet6 p0 p1 p2 p3) ∧
    ((faces_hex.map fun g =>
        let ps := g.filterMap fun i => [p0, p1, p2, p3, p4, p5, p6, p7][i]?
        dot (areaVec2 ps) (vsumL ps)).sum = hexC24 p0 p1 p2 p3 p4 p5 p6 p7) := by
  -- face by face `S2_f · Σ(vertices of f)` is the flux through `f`; the fluxes add up to the volume kernel
  constructor
  · simp only [faces_tet, List.map, List.filterMap_cons, List.filterMap_nil, List.getElem?_cons_zero,
      List.getElem?_cons_succ, areaVec2, vsumL_tri, triCross_dot_sum]
    exact tet6_eq_faces 3 p0 p1 p2 p3
  · simp only [faces_hex, List.map, List.filterMap_cons, List.filterMap_nil, List.getElem?_cons_zero,
      List.getElem?_cons_succ, areaVec2, vsumL_quad, ← quadC4_eq_dot]
    exact hexC24_eq_faces p0 p1 p2 p3 p4 p5 p6 p7

/-- On a PLANAR quadrilateral every vertex lies on the mean plane: `(4v − Σ vertices)·S = 0`
    for each of the four vertices `v`, so `(v − cell centre)·S = (facet centre − cell centre)·S` - on planar-faced cells the
    sign does not depend on which point of the facet is the reference (and a change of the reference point is invisible
    there). For skew faces this fails: `C12_first_node_reference_counterexample`. -/
theorem C12_planar_reference_point (a b c d : V3 R) (hpl : det (sub b a) (sub c a) (sub d a) = 0) :
    let s := add (add a b) (add c d)
    dot (areaVec2 [a, b, c, d]) (sub s (smul 4 a)) = 0 ∧ dot (areaVec2 [a, b, c, d]) (sub s (smul 4 b)) = 0 ∧
    dot (areaVec2 [a, b, c, d]) (sub s (smul 4 c)) = 0 ∧ dot (areaVec2 [a, b, c, d]) (sub s (smul 4 d)) = 0 := by
  have h := quad_mean_plane a b c d
  simp only [hpl, mul_zero] at h
  exact h

/-- planar quadrilateral: the vector area is orthogonal to the facet, so `S·c` may be evaluated at any vertex -/
theorem planar_quad (a b c d : V3 R) (hpl : det (sub b a) (sub c a) (sub d a) = 0) :
    dot (areaVec2 [a, b, c, d]) (sub (add (add a b) (add c d)) (smul 4 a)) = 0 :=
  (C12_planar_reference_point a b c d hpl).1

/-- non-vacuity: unit cube, 24V = 24 -/
example : hexC24 (⟨0,0,0⟩ : V3 Rat) ⟨1,0,0⟩ ⟨1,1,0⟩ ⟨0,1,0⟩ ⟨0,0,1⟩ ⟨1,0,1⟩ ⟨1,1,1⟩ ⟨0,1,1⟩ = 24 := by
  decide +kernel

end Metric
end Femio.C12
