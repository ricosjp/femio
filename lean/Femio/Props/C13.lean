import Femio.Model.GraphOps
import Femio.Gen.Tables
import Femio.Lemmas.CoreProps
import Femio.Lemmas.GraphProps

/-! C13 — mesh graph matrices equal their combinatorial definitions. -/
namespace Femio.C13
open Core Graph

/-- (uniform and mixed branch at once) with distinct node ids and distinct element ids,
`(i, j)` is an entry of the incidence matrix iff the node *stored at position* `i` belongs to the `j`-th
element of the flattened (id-sorted when mixed) element list. -/
theorem C13_incidence (nodeIds : List Id) (blocks : List (List Elem))
    (hn : nodeIds.Nodup) (he : (blocks.flatten.map Elem.id).Nodup) (i j : Nat) :
    (i, j) ∈ incidenceOpt false nodeIds blocks ↔
      ∃ (hi : i < nodeIds.length) (hj : j < (flatten blocks).length), nodeIds[i] ∈ ((flatten blocks)[j]).conn :=
  incidence_spec nodeIds blocks hn he i j

/-- with `order1_only`, rows are positions in the list of first-order nodes
(the nodes kept by `filter_first_order_nodes`, in storage order) and membership is in the corner
connectivity. -/
theorem C13_incidence_order1 (nodeIds : List Id) (blocks : List (List Elem))
    (hn : nodeIds.Nodup) (he : (blocks.flatten.map Elem.id).Nodup) (i j : Nat) :
    (i, j) ∈ incidenceOpt true nodeIds blocks ↔
      ∃ (hi : i < (order1Nodes nodeIds blocks).length) (hj : j < (flatten (order1Blocks blocks)).length),
        (order1Nodes nodeIds blocks)[i] ∈ ((flatten (order1Blocks blocks))[j]).conn := by
  have hn' : (order1Nodes nodeIds blocks).Nodup := by
    unfold order1Nodes; split
    · exact hn
    · exact hn.filter _
  have he' : ((order1Blocks blocks).flatten.map Elem.id).Nodup := by rw [order1Blocks_ids]; exact he
  exact incidence_spec _ _ hn' he' i j

/-- the second-order test `'2' in t` on the generated `ELEMENT_TYPES` table -/
theorem C13_isSecond_table :
    (List.range Femio.Gen.elementTypes.length).all
      (fun k => isSecond k == (Femio.Gen.elementTypes.getD k []).contains '2') = true := by decide +kernel

example : (1, 1) ∈ incidenceOpt false [7, 3, 9] [[⟨5, 8, [3, 9]⟩], [⟨2, 14, [7]⟩]] := by decide +kernel

/-- **C13_adjacency** (elements): two elements are adjacent iff some node row is incident to both. -/
theorem C13_adjacency_elem (nNode : Nat) (I : BMat) (j k : Nat) :
    adjElem nNode I j k = true ↔ ∃ i, i < nNode ∧ I i j = true ∧ I i k = true :=
  mul_true nNode (fun a b => I b a) I j k

/-- **C13_adjacency** (nodes): two nodes are adjacent iff some element column is incident to both. -/
theorem C13_adjacency_node (nElem : Nat) (I : BMat) (i l : Nat) :
    adjNode nElem I i l = true ↔ ∃ j, j < nElem ∧ I i j = true ∧ I l j = true :=
  mul_true nElem I (fun a b => I b a) i l

/-- the materialised n-hop adjacency (what the driver computes and the harness compares
with `calculate_n_hop_adj`) is reachability within `hops` steps of the adjacency graph. -/
theorem C13_nhop_reach (n : Nat) (A : BMat) (hops : Nat) (hh : 1 ≤ hops) (i j : Nat) (hi : i < n) (hj : j < n) :
    (nHopM n A hops).get i j = true ↔ ∃ k, 1 ≤ k ∧ k ≤ hops ∧ Walk n A k i j := by
  unfold nHopM
  rw [(nHopAuxM_refines n A (hops - 1) i j hi hj).1]
  exact nHop_reach n A hops hh i j

example : (nHopM 3 (fun i j => (i, j) ∈ [(0, 1), (1, 0), (1, 2), (2, 1)]) 2).get 0 2 = true := by decide +kernel

/-- reachability within `h` steps implies reachability within any larger number of steps — a
query for a SMALLER hop count may never be answered from a larger one computed earlier on the same object
(the converse fails in general, see the example below). -/
theorem C13_nhop_mono (n : Nat) (A : BMat) (h h' : Nat) (h1 : 1 ≤ h) (hh : h ≤ h') (i j : Nat) (hi : i < n) (hj : j < n)
    (hr : (nHopM n A h).get i j = true) : (nHopM n A h').get i j = true := by
  rw [C13_nhop_reach n A h h1 i j hi hj] at hr
  rw [C13_nhop_reach n A h' (Nat.le_trans h1 hh) i j hi hj]
  obtain ⟨k, k1, k2, w⟩ := hr
  exact ⟨k, k1, Nat.le_trans k2 hh, w⟩

/-- strictness: on the path 0 – 1 – 2 vertex 2 is within 2 hops of vertex 0 but not within 1 -/
example : let A : BMat := fun i j => (i, j) ∈ [(0, 1), (1, 0), (1, 2), (2, 1)]
    (nHopM 3 A 2).get 0 2 = true ∧ (nHopM 3 A 1).get 0 2 = false := by decide +kernel

/-- a vertex with its self loop in the adjacency (every element; every referenced node)
has diagonal entry exactly `0` in the self-loop-free n-hop matrix for EVERY hop count `≥ 1` — also when it is an
isolated single-element component — and off the diagonal the self-loop-free matrix is the 0/1 reachability. -/
theorem C13_nhop_selfloop_diag (n : Nat) (A : BMat) (hops : Nat) (hh : 1 ≤ hops) (i : Nat) (hi : i < n)
    (hA : A i i = true) :
    nHopEntry (nHopM n A hops) false i i = 0 ∧
    ∀ j, j ≠ i → nHopEntry (nHopM n A hops) false i j = if (nHopM n A hops).get i j then 1 else 0 := by
  constructor
  · have : (nHopM n A hops).get i i = true :=
      (C13_nhop_reach n A hops hh i i hi hi).mpr ⟨1, le_refl _, hh, Walk.one hA⟩
    simp [nHopEntry, this]
  · intro j hj
    have : i ≠ j := fun h => hj h.symm
    simp [nHopEntry, this]

example : nHopEntry (nHopM 3 (fun i j => i == j || (i, j) ∈ [(0, 1), (1, 0)]) 2) false 2 2 = 0 := by decide +kernel

/-- the recursive formulation on the previous level is correct when the previous level is the
full Boolean reachability (self loops as the adjacency has them): `R_{h+1} = R_h ∨ R_h · A`. -/
theorem C13_nhop_step (n : Nat) (A : BMat) (h : Nat) (h1 : 1 ≤ h) (i j : Nat) (hi : i < n) (hj : j < n) :
    (nHopM n A (h + 1)).get i j = ((nHopM n A h).get i j || mul n (nHopM n A h).get A i j) := by
  apply Bool.eq_iff_iff.mpr
  rw [C13_nhop_reach n A (h + 1) (Nat.le_add_left 1 h) i j hi hj, Bool.or_eq_true, mul_true]
  constructor
  · rintro ⟨k, k1, k2, w⟩
    rcases Nat.lt_or_eq_of_le k2 with hk | rfl
    · exact Or.inl ((C13_nhop_reach n A h h1 i j hi hj).mpr ⟨k, k1, Nat.le_of_lt_succ hk, w⟩)
    · obtain ⟨m, hm, w', ha⟩ := walk_succ_inv h1 w
      exact Or.inr ⟨m, hm, (C13_nhop_reach n A h h1 i m hi hm).mpr ⟨h, h1, Nat.le_refl h, w'⟩, ha⟩
  · rintro (hr | ⟨m, hm, hr, ha⟩)
    · obtain ⟨k, k1, k2, w⟩ := (C13_nhop_reach n A h h1 i j hi hj).mp hr
      exact ⟨k, k1, Nat.le_succ_of_le k2, w⟩
    · obtain ⟨k, k1, k2, w⟩ := (C13_nhop_reach n A h h1 i m hi hm).mp hr
      exact ⟨k + 1, Nat.le_add_left 1 k, Nat.succ_le_succ k2, Walk.snoc w hm ha⟩

/-- when every vertex has its self loop the `R_h ∨` may be dropped: `R_{h+1} = R_h · A` -/
theorem C13_nhop_step_selfloops (n : Nat) (A : BMat) (hdiag : ∀ i, i < n → A i i = true) (h : Nat) (h1 : 1 ≤ h)
    (i j : Nat) (hi : i < n) (hj : j < n) :
    (nHopM n A (h + 1)).get i j = mul n (nHopM n A h).get A i j := by
  rw [C13_nhop_step n A h h1 i j hi hj]
  apply Bool.eq_iff_iff.mpr
  rw [Bool.or_eq_true, mul_true]
  constructor
  · rintro (hr | hm)
    · exact ⟨j, hj, hr, hdiag j hj⟩
    · exact hm
  · exact Or.inr

example : let A : BMat := fun i j => i == j || (i, j) ∈ [(0, 1), (1, 0), (1, 2), (2, 1)]
    (nHopM 3 A 2).get 0 2 = mul 3 (nHopM 3 A 1).get A 0 2 := by decide +kernel

/-- `R_{h+1} = R_h · A` fails when the previous level is the SELF-LOOP-FREE result (seeded change C13-6: the recursion forwards
`include_self_loop=False`): for an isolated single element (`n = 1`, `A = [[true]]`) extending the self-loop-free 1-hop
matrix by one hop and subtracting the identity gives `−1` on the diagonal, where `C13_nhop_selfloop_diag` demands `0`. -/
theorem C13_nhop_step_noloop_counterexample :
    let A : BMat := fun _ _ => true
    nHopEntry (nHopExtend 1 (nHopEntry (nHopM 1 A 1) false) A) false 0 0 = -1 ∧
    nHopEntry (nHopM 1 A 2) false 0 0 = 0 := by decide +kernel

/-- self loops pad a shorter walk to exactly `h` steps (`walk_pad`) -/
theorem nhop_walk (n : Nat) (A : BMat) (hdiag : ∀ i, i < n → A i i = true) (h : Nat) (h1 : 1 ≤ h)
    (i j : Nat) (hi : i < n) (hj : j < n) : (nHopM n A h).get i j = true ↔ Walk n A h i j := by
  rw [C13_nhop_reach n A h h1 i j hi hj]
  exact ⟨fun ⟨_, _, k2, w⟩ => walk_pad hdiag w hj k2, fun w => ⟨h, h1, Nat.le_refl h, w⟩⟩

/-- when every vertex has its self loop (every element; every referenced node), reachability within
`a + b` steps is the Boolean product of reachability within `a` and within `b` steps — what a formulation of
`calculate_n_hop_adj` by products of powers (binary powering, `O(log n_hop)` products) relies on.  Hop counts of 4 and more
are the first for which such a formulation can differ from the linear one (4 = 2 + 2 is the first squaring of a square). -/
theorem C13_nhop_add (n : Nat) (A : BMat) (hdiag : ∀ i, i < n → A i i = true) (a b : Nat) (ha : 1 ≤ a) (hb : 1 ≤ b)
    (i j : Nat) (hi : i < n) (hj : j < n) :
    (nHopM n A (a + b)).get i j = mul n (nHopM n A a).get (nHopM n A b).get i j := by
  apply Bool.eq_iff_iff.mpr
  rw [nhop_walk n A hdiag (a + b) (Nat.le_add_right_of_le ha) i j hi hj, mul_true]
  constructor
  · intro w
    obtain ⟨m, hm, wa, wb⟩ := walk_split a ha b hb w
    exact ⟨m, hm, (nhop_walk n A hdiag a ha i m hi hm).mpr wa, (nhop_walk n A hdiag b hb m j hm hj).mpr wb⟩
  · rintro ⟨m, hm, hra, hrb⟩
    exact walk_append ((nhop_walk n A hdiag a ha i m hi hm).mp hra) hm ((nhop_walk n A hdiag b hb m j hm hj).mp hrb)

/-- squaring: the `2a`-hop matrix is the Boolean square of the `a`-hop matrix (self loops present) -/
theorem C13_nhop_double (n : Nat) (A : BMat) (hdiag : ∀ i, i < n → A i i = true) (a : Nat) (ha : 1 ≤ a)
    (i j : Nat) (hi : i < n) (hj : j < n) :
    (nHopM n A (2 * a)).get i j = mul n (nHopM n A a).get (nHopM n A a).get i j := by
  have := C13_nhop_add n A hdiag a a ha ha i j hi hj
  rwa [← Nat.two_mul] at this

example : let A : BMat := fun i j => i == j || (i, j) ∈ [(0, 1), (1, 0), (1, 2), (2, 1), (2, 3), (3, 2)]
    (nHopM 4 A 3).get 0 3 = mul 4 (nHopM 4 A 1).get (nHopM 4 A 2).get 0 3 := by decide +kernel

/-- the path 0 – 1 – 2 – 3 – 4 with self loops (a strip of five elements) -/
def path5 : BMat := fun i j => i == j || i + 1 == j || j + 1 == i

/-- (seeded change C13-10) binary powering whose running power is updated
by `· adj` instead of being squared agrees with the definition for 1, 2 and 3 hops on every entry of the 5-path, and for
4 hops returns only the 3-hop matrix: the ends of the path, at distance exactly 4, are missing; with the squaring update
all hop counts 1..5 agree.  (Hop counts ≤ 3 and graphs of diameter ≤ 3 cannot tell the two apart.) -/
theorem C13_nhop_binary_power_counterexample :
    (∀ h ∈ [1, 2, 3], ∀ i ∈ List.range 5, ∀ j ∈ List.range 5,
        (nHopBin false 5 path5 h).get i j = (nHopM 5 path5 h).get i j) ∧
    (nHopBin false 5 path5 4).get 0 4 = false ∧ (nHopM 5 path5 4).get 0 4 = true ∧
    (∀ h ∈ [1, 2, 3, 4, 5], ∀ i ∈ List.range 5, ∀ j ∈ List.range 5,
        (nHopBin true 5 path5 h).get i j = (nHopM 5 path5 h).get i j) := by decide +kernel

/-- every row of the graph Laplacian sums to zero. -/
theorem C13_laplacian_rowsum (n : Nat) (A : BMat) (i : Nat) (hi : i < n) :
    ((List.range n).map (lapEntry n A i)).sum = 0 := by
  unfold lapEntry
  rw [sum_sub_single, if_pos hi, sub_self]

/-- off the diagonal the Laplacian is the adjacency -/
theorem C13_laplacian_offdiag (n : Nat) (A : BMat) (i j : Nat) (h : i ≠ j) :
    lapEntry n A i j = if A i j then 1 else 0 := by
  simp [lapEntry, woLoop, h]

/-- on the diagonal (of a vertex with its self loop, as `IᵀI` / `IIᵀ` give it) it is minus the number of neighbours -/
theorem C13_laplacian_diag (n : Nat) (A : BMat) (i : Nat) (hi : i < n) (hA : A i i = true) :
    lapEntry n A i i = - (((List.range n).filter fun j => j ≠ i ∧ A i j = true).length : Int) := by
  -- off `i` the row of `adj − I` is the indicator of the neighbours, and at `i` it is `0`
  have hw : woLoop A i = fun j => if j ≠ i ∧ A i j = true then 1 else 0 := by
    funext j
    by_cases hj : j = i
    · subst hj; simp [woLoop, hA]
    · by_cases hAj : A i j = true <;> simp [woLoop, hj, Ne.symm hj, hAj]
  simp only [lapEntry, if_true]
  rw [hw, sum_indicator]
  simp

example : ((List.range 3).map (lapEntry 3 (fun i j => i == j || (i, j) ∈ [(0, 1), (1, 0)]) 0)) = [-1, 1, 0] := by decide +kernel

/-- the edge-gradient matrix has exactly one row (`+1` at `r`, `−1` at `c`) per pair
`r < c` joined by the adjacency — for a symmetric adjacency one row per undirected edge. -/
theorem C13_edge_gradient (n : Nat) (A : BMat) :
    (gradEdges n A).Nodup ∧ ∀ r c, (r, c) ∈ gradEdges n A ↔ r < c ∧ c < n ∧ A r c = true := by
  refine ⟨nodup_entries n fun r c => r < c && A r c, fun r c => (mem_entries n _ r c).trans ?_⟩
  simp only [Bool.and_eq_true, decide_eq_true_eq]
  exact ⟨fun ⟨_, h2, h1, h3⟩ => ⟨h1, h2, h3⟩, fun ⟨h1, h2, h3⟩ => ⟨Nat.lt_trans h1 h2, h2, h1, h3⟩⟩

/-- for a symmetric adjacency, an undirected edge `{a, b}` is represented exactly once -/
theorem C13_edge_gradient_undirected (n : Nat) (A : BMat) (hs : ∀ i j, A i j = A j i) (a b : Nat)
    (ha : a < n) (hb : b < n) (hab : a ≠ b) (hA : A a b = true) :
    ((a, b) ∈ gradEdges n A ∧ (b, a) ∉ gradEdges n A) ∨ ((b, a) ∈ gradEdges n A ∧ (a, b) ∉ gradEdges n A) := by
  simp only [(C13_edge_gradient n A).2]
  rcases Nat.lt_or_gt_of_ne hab with h | h
  · exact Or.inl ⟨⟨h, hb, hA⟩, fun h' => Nat.lt_asymm h h'.1⟩
  · exact Or.inr ⟨⟨h, ha, hs a b ▸ hA⟩, fun h' => Nat.lt_asymm h h'.1⟩

/-- when every vertex has its self loop in the adjacency (every node touches an element /
every element has a node), the columns of the edge-to-vertex matrix are in one-to-one correspondence with
the directed edges `(i, j)`, `i ≠ j`, and column `(i, j)` has its single `1` in the row of its source `i`. -/
theorem C13_e2v (n : Nat) (A : BMat) (hdiag : ∀ i, i < n → A i i = true) :
    (e2vNonzeros n A false).Nodup ∧
    ∀ i j, (i, j) ∈ e2vNonzeros n A false ↔ i < n ∧ j < n ∧ i ≠ j ∧ A i j = true := by
  refine ⟨nodup_entries n fun i j => (i ≠ j && A i j) || (i = j && !A i j), fun i j =>
    (mem_entries n (fun i j => (i ≠ j && A i j) || (i = j && !A i j)) i j).trans ?_⟩
  refine and_congr_right fun hi => and_congr_right fun _ => ?_
  by_cases h : i = j
  · subst h; simp [hdiag i hi]
  · simp [h]

/-- with self loops included the columns are all adjacency entries -/
theorem C13_e2v_selfloop (n : Nat) (A : BMat) (i j : Nat) :
    (i, j) ∈ e2vNonzeros n A true ↔ i < n ∧ j < n ∧ A i j = true :=
  mem_entries n A i j

example : e2vNonzeros 2 (fun _ _ => true) false = [(0, 1), (1, 0)] ∧ gradEdges 2 (fun _ _ => true) = [(0, 1)] := by decide +kernel

/-- finding F13 (outside the property's quantifier): an isolated vertex (no self loop in `IIᵀ`) contributes
a spurious column, because `adj − I` has a `−1` on its diagonal. -/
theorem C13_e2v_isolated_vertex_column :
    e2vNonzeros 2 (fun i j => i == 0 && j == 0) false = [(1, 1)] := by decide +kernel

/-- the invariant the D-stream of the harness checks on the real code: every stored value is (still) the value of the
pure function at a key with that projection -/
def MemoSound {κ κ' ν : Type} (proj : κ → κ') (f : κ → ν) (tbl : List (κ' × ν)) : Prop :=
  ∀ e ∈ tbl, ∀ k, proj k = e.1 → e.2 = f k

/-- when the table is keyed on ALL of the key (`proj` injective: receiver and every option VALUE)
and stored values are never modified, every answer of every history — any order, any repeats, any capacity, hits,
misses and evictions alike — is the value of the pure function: the matrices of the model are the right expectation
for every call of a sequence on one live object. -/
theorem C13_memo_history {κ κ' ν : Type} [DecidableEq κ'] (proj : κ → κ') (hinj : Function.Injective proj)
    (f : κ → ν) (cap : Nat) (tbl : List (κ' × ν)) (hs : MemoSound proj f tbl) (ks : List κ) :
    memoRun proj f cap tbl ks = ks.map f := by
  induction ks generalizing tbl with
  | nil => rfl
  | cons k ks ih =>
    simp only [memoRun, List.map_cons]
    cases hl : memoLookup (proj k) tbl with
    | some v =>
      have hv : v = f k := hs _ (memoLookup_mem _ _ _ hl) k rfl
      simp only [memoQuery, hl]
      rw [ih tbl hs, hv]
    | none =>
      simp only [memoQuery, hl]
      rw [ih]
      intro e he k' hk'
      have he' := List.mem_of_mem_take he
      rcases List.mem_cons.mp he' with h | h
      · subst h
        simp only at hk' ⊢
        rw [hinj hk']
      · exact hs e h k' hk'

/-- from the empty table in particular -/
theorem C13_memo_history_fresh {κ κ' ν : Type} [DecidableEq κ'] (proj : κ → κ') (hinj : Function.Injective proj)
    (f : κ → ν) (cap : Nat) (ks : List κ) : memoRun proj f cap [] ks = ks.map f :=
  C13_memo_history proj hinj f cap [] (by intro e he; cases he) ks

example : memoRun (fun k : Nat × Bool => k) (fun k => if k.2 then k.1 + 1 else k.1) 1 []
    [(2, true), (2, false), (2, true), (2, true)] = [3, 2, 3, 3] := by decide +kernel

/-- a table keyed on part of the key only (the hop count but not `include_self_loop`; an option NAME but not its value)
answers a later query with the value of an earlier different one: the hypothesis `Function.Injective proj` is needed -/
theorem C13_memo_wrong_key_counterexample :
    memoRun (fun k : Nat × Bool => k.1) (fun k => if k.2 then k.1 + 1 else k.1) 4 [] [(2, true), (2, false)] = [3, 3] ∧
    [(2, true), (2, false)].map (fun k : Nat × Bool => if k.2 then k.1 + 1 else k.1) = [3, 2] := by decide +kernel

end Femio.C13
