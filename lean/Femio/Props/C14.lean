import Femio.Lemmas.ConvertProps
import Femio.Lemmas.Misc1

/-! C14 — `convert_nodal2elemental(calc_average=True)` and `convert_elemental2nodal` (modes 'mean' and
'effective') of femio/signal_processor.py, for one column of a field over an arbitrary (ordered) field `K`.

The three history theorems share the non-vacuity `example` after `C14_history_value`. -/
namespace Femio.C14

/-- incidence of the examples: node 0 touches elements 0 and 1, node 1 touches element 1 -/
private abbrev inc₀ (i j : Nat) : Bool := decide (i ≤ j)
/-- element sizes of the examples: 1 and 2 -/
private abbrev m₀ (j : Nat) : ℚ := j + 1

/-- If the nodal column is a function `g` of the node id (stored in the order of
`nodeIds`) and every id of the element occurs in `nodeIds`, the element value is the mean of `g` over the
element's own nodes — whatever the ids and the storage order are.  (`nodeIds.Nodup` is not needed: `idPos`
returns the first occurrence, whose value is `g id` anyway.) -/
theorem C14_mean_of_nodes {K : Type} [Field K]
    (nodeIds : List Nat) (vals : List K) (conn : List Nat) (g : Nat → K)
    (hlen : vals.length = nodeIds.length)
    (hg : ∀ k (h : k < nodeIds.length), vals[k]'(hlen ▸ h) = g nodeIds[k])
    (hconn : ∀ i ∈ conn, i ∈ nodeIds) :
    nodal2elemental nodeIds vals conn = some ((conn.map g).sum / (conn.length : K)) := by
  have hv : vals = nodeIds.map g :=
    List.ext_getElem (hlen.trans (List.length_map g).symm) fun k _ h2 => by
      rw [List.getElem_map, hg k (by simpa using h2)]
  unfold nodal2elemental
  rw [hv, gatherVals_of_fun nodeIds conn g hconn]
  simp [meanL]

/-- non-vacuity: ids 7, 3, 5 stored in that order, `g id = id²`, element (5, 7): (25 + 49) / 2 -/
example : nodal2elemental [7, 3, 5] [(49 : ℚ), 9, 25] [5, 7] = some 37 :=
  (C14_mean_of_nodes [7, 3, 5] [(49 : ℚ), 9, 25] [5, 7] (fun i => (i : ℚ) ^ 2) rfl (by decide +kernel)
    (by decide)).trans (by decide +kernel)

/-- the hypothesis on the ids cannot be dropped: an unknown id gives no value at all -/
theorem C14_mean_of_nodes_unknown_id {K : Type} [Field K]
    (nodeIds : List Nat) (vals : List K) (conn : List Nat) (h : ∃ i ∈ conn, i ∉ nodeIds) :
    nodal2elemental nodeIds vals conn = none := by
  unfold nodal2elemental
  rw [gatherVals_none nodeIds vals conn h]; rfl

example : nodal2elemental [7, 3, 5] [(49 : ℚ), 9, 25] [5, 4] = none :=
  C14_mean_of_nodes_unknown_id _ _ _ ⟨4, by decide, by decide⟩

/-- For an affine nodal field `g id = a·x(id) + b·y(id) + c·z(id) + d` the
element value is `g` evaluated at the vertex centroid of the element (characteristic 0, non-empty element). -/
theorem C14_affine_at_centroid {K : Type} [Field K] [CharZero K]
    (nodeIds : List Nat) (vals : List K) (conn : List Nat) (px py pz : Nat → K) (a b c d : K)
    (hlen : vals.length = nodeIds.length)
    (hg : ∀ k (h : k < nodeIds.length),
      vals[k]'(hlen ▸ h) = a * px nodeIds[k] + b * py nodeIds[k] + c * pz nodeIds[k] + d)
    (hconn : ∀ i ∈ conn, i ∈ nodeIds) (hne : conn ≠ []) :
    nodal2elemental nodeIds vals conn
      = some (a * meanL (conn.map px) + b * meanL (conn.map py) + c * meanL (conn.map pz) + d) := by
  have hL : (conn.length : K) ≠ 0 := Nat.cast_ne_zero.2 fun h => hne (List.length_eq_zero_iff.mp h)
  rw [C14_mean_of_nodes nodeIds vals conn (fun i => a * px i + b * py i + c * pz i + d) hlen hg hconn]
  simp only [meanL, List.length_map, List.sum_map_add, List.sum_map_mul_left, List.map_const', List.sum_replicate,
    nsmul_eq_mul, add_div, mul_div_assoc, mul_div_cancel_left₀ _ hL]

/-- non-vacuity: nodes 7, 3, 5 at x = 0, 1, 4 (y = z = id), field 2x + y − z + 10, element (5, 7):
centroid x = 2, so the value is 14 -/
example :
    nodal2elemental [7, 3, 5] [(10 : ℚ), 12, 18] [5, 7] = some 14 :=
  (C14_affine_at_centroid [7, 3, 5] [(10 : ℚ), 12, 18] [5, 7]
    (fun i => if i = 7 then 0 else if i = 3 then 1 else 4) (fun i => i) (fun i => i) 2 1 (-1) 10 rfl
    (by decide +kernel) (by decide) (by decide)).trans (by decide +kernel)

section Mean
variable {K : Type} [Field K] [LinearOrder K] [IsStrictOrderedRing K]

/-- If the elements touching node `i` have positive size and there is at least
one of them, row `i` of the 'mean' matrix is a probability vector supported on the touching elements. -/
theorem C14_mean_row_stochastic (e : Nat) (inc : Nat → Nat → Bool) (m : Nat → K) (i : Nat)
    (hm : ∀ j < e, inc i j = true → 0 < m j) (ht : ∃ j < e, inc i j = true) :
    (∀ j < e, 0 ≤ meanWeight e inc m i j) ∧
    (∀ j, inc i j = false → meanWeight e inc m i j = 0) ∧
    sumTo e (meanWeight e inc m i) = 1 := by
  refine ⟨meanWeight_nonneg e inc m i hm ht, ?_, ?_⟩
  · intro j hj; simp [meanWeight, metricInc, hj]
  · exact sumTo_meanWeight e inc m i (sumTo_metricInc_pos e inc m i hm ht).ne'

/-- non-vacuity: node 0 touches both elements, sizes 1 and 2: weights 1/3 and 2/3 -/
example :
    (∀ j < 2, inc₀ 0 j = true → 0 < m₀ j) ∧ (∃ j < 2, inc₀ 0 j = true) ∧
    meanWeight 2 inc₀ m₀ 0 0 = 1 / 3 ∧ meanWeight 2 inc₀ m₀ 0 1 = 2 / 3 ∧
    meanWeight 2 inc₀ m₀ 1 0 = 0 ∧ meanWeight 2 inc₀ m₀ 1 1 = 1 := by
  decide +kernel

/-- Same hypotheses: a constant elemental field is converted to the same constant. -/
theorem C14_constants (e : Nat) (inc : Nat → Nat → Bool) (m : Nat → K) (i : Nat) (c : K)
    (hm : ∀ j < e, inc i j = true → 0 < m j) (ht : ∃ j < e, inc i j = true) :
    e2nMean e inc m (fun _ => c) i = c :=
  e2nMean_const e inc m i c (sumTo_metricInc_pos e inc m i hm ht).ne'

/-- non-vacuity: the constant 7 at node 0 (two touching elements of different size) -/
example : e2nMean 2 inc₀ m₀ (fun _ => 7) 0 = 7 :=
  C14_constants 2 inc₀ m₀ 0 7 (by decide +kernel) (by decide)

/-- the touching hypothesis cannot be dropped: an isolated node gets 0 (`c · (1/0)` in a field; NaN in numpy) -/
example : e2nMean 2 (fun _ _ => false) m₀ (fun _ => 7) 0 = 0 := by
  decide +kernel

/-- Same hypotheses: the nodal value lies between any bounds of the values of the touching
elements (the values of the other elements are irrelevant). -/
theorem C14_bounds (e : Nat) (inc : Nat → Nat → Bool) (m x : Nat → K) (i : Nat) (lo hi : K)
    (hm : ∀ j < e, inc i j = true → 0 < m j) (ht : ∃ j < e, inc i j = true)
    (hx : ∀ j < e, inc i j = true → lo ≤ x j ∧ x j ≤ hi) :
    lo ≤ e2nMean e inc m x i ∧ e2nMean e inc m x i ≤ hi := by
  obtain ⟨h0, hz, h1⟩ := C14_mean_row_stochastic e inc m i hm ht
  have htouch : ∀ j, meanWeight e inc m i j ≠ 0 → inc i j = true := fun j hne =>
    (Bool.eq_false_or_eq_true _).resolve_right fun hb => hne (hz j hb)
  unfold e2nMean
  rw [sumTo_eq_sum]
  rw [sumTo_eq_sum] at h1
  exact convex_bounds (Finset.range e) (meanWeight e inc m i) x lo hi
    (fun j hj => h0 j (Finset.mem_range.mp hj)) h1
    (fun j hj hne => (hx j (Finset.mem_range.mp hj) (htouch j hne)).1)
    (fun j hj hne => (hx j (Finset.mem_range.mp hj) (htouch j hne)).2)

/-- non-vacuity: x = (3, 9) at node 0 gives (1·3 + 2·9)/3 = 7 ∈ [3, 9]; at node 1 the value 100 of the
non-touching element 0 does not matter -/
example :
    e2nMean 2 inc₀ m₀ (fun j => if j = 0 then 3 else 9) 0 = 7 ∧
    ((9 : ℚ) ≤ e2nMean 2 inc₀ m₀ (fun j => if j = 0 then 100 else 9) 1 ∧
      e2nMean 2 inc₀ m₀ (fun j => if j = 0 then 100 else 9) 1 ≤ 9) :=
  ⟨by decide +kernel, C14_bounds 2 inc₀ m₀ _ 1 9 9 (by decide +kernel) (by decide) (by decide +kernel)⟩

/-- Same hypotheses: the total size `D` of the touching elements is positive,
the weight of a touching element `j` is `m j / D`, and hence the weights of two touching elements are
proportional to their sizes.  `D` is the `Finset` sum of `m` over `{j < e | inc i j}`. -/
theorem C14_weights_prop_size (e : Nat) (inc : Nat → Nat → Bool) (m : Nat → K) (i : Nat)
    (hm : ∀ j < e, inc i j = true → 0 < m j) (ht : ∃ j < e, inc i j = true) :
    0 < ∑ j' ∈ (Finset.range e).filter (fun j' => inc i j' = true), m j' ∧
    (∀ j, inc i j = true →
      meanWeight e inc m i j = m j / ∑ j' ∈ (Finset.range e).filter (fun j' => inc i j' = true), m j') ∧
    (∀ j k, inc i j = true → inc i k = true →
      meanWeight e inc m i j * m k = meanWeight e inc m i k * m j) := by
  refine ⟨?_, ?_, ?_⟩
  · rw [← sumTo_metricInc]; exact sumTo_metricInc_pos e inc m i hm ht
  · intro j hj
    rw [meanWeight_eq_div, sumTo_metricInc, metricInc, if_pos hj]
  · intro j k hj hk
    rw [meanWeight_eq_div, meanWeight_eq_div, metricInc, metricInc, if_pos hj, if_pos hk]
    ring

/-- non-vacuity: at node 0, D = 1 + 2 and the weights 1/3, 2/3 are in the ratio of the sizes 1 : 2 -/
example :
    ∑ j' ∈ (Finset.range 2).filter (fun j' => inc₀ 0 j' = true), m₀ j' = 3 ∧
    meanWeight 2 inc₀ m₀ 0 0 * m₀ 1 = meanWeight 2 inc₀ m₀ 0 1 * m₀ 0 ∧
    meanWeight 2 inc₀ m₀ 0 1 = 2 / 3 := by
  have h := C14_weights_prop_size 2 inc₀ m₀ 0 (by decide +kernel) (by decide)
  have hD : ∑ j' ∈ (Finset.range 2).filter (fun j' => inc₀ 0 j' = true), m₀ j' = 3 := by decide +kernel
  refine ⟨hD, h.2.2 0 1 (by decide) (by decide), ?_⟩
  rw [h.2.1 1 (by decide), hD]; decide +kernel

end Mean

section Effective
variable {K : Type} [Field K] [CharZero K]

/-- If element `j` has at least one node among the `n` nodes, column `j` of the
'effective' matrix sums to one, every node of the element gets the same share `1 / #{i' < n | inc i' j}`
(the count is the `Finset.card` of the filtered range, cast to `K`; it equals
`sumTo n fun k => ind (inc k j)`), and the other nodes get nothing. -/
theorem C14_effective_colsum (n : Nat) (inc : Nat → Nat → Bool) (j : Nat)
    (hj : ∃ i < n, inc i j = true) :
    sumTo n (fun i => (effWeight n inc i j : K)) = 1 ∧
    (∀ i, inc i j = true →
      (effWeight n inc i j : K) = 1 / (((Finset.range n).filter (fun k => inc k j = true)).card : K)) ∧
    (∀ i, inc i j = false → (effWeight n inc i j : K) = 0) ∧
    sumTo n (fun k => (ind (inc k j) : K)) = (((Finset.range n).filter (fun k => inc k j = true)).card : K) := by
  refine ⟨sumTo_effWeight n inc j (sumTo_ind_ne_zero n inc j hj), ?_, ?_, sumTo_ind n inc j⟩
  · intro i hi
    rw [effWeight_eq_div, sumTo_ind, hi]; rfl
  · intro i hi
    simp [effWeight, ind, hi]

/-- non-vacuity: element 1 has the two nodes 0 and 1, each gets 1/2; element 0 has node 0 only -/
example :
    (∃ i < 2, inc₀ i 1 = true) ∧
    (effWeight 2 inc₀ 0 1 : ℚ) = 1 / 2 ∧ (effWeight 2 inc₀ 1 1 : ℚ) = 1 / 2 ∧
    (effWeight 2 inc₀ 0 0 : ℚ) = 1 ∧ (effWeight 2 inc₀ 1 0 : ℚ) = 0 ∧
    ((Finset.range 2).filter (fun k => inc₀ k 1 = true)).card = 2 := by
  decide +kernel

/-- If every element has at least one node, the 'effective' conversion conserves
the grand total: Σ_nodes result = Σ_elements x. -/
theorem C14_effective_total (n e : Nat) (inc : Nat → Nat → Bool) (x : Nat → K)
    (h : ∀ j < e, ∃ i < n, inc i j = true) :
    sumTo n (fun i => e2nEffective n e inc x i) = sumTo e x :=
  sumTo_e2nEffective n e inc x (fun j hj => sumTo_ind_ne_zero n inc j (h j hj))

/-- non-vacuity: x = (3, 9): node 0 gets 3 + 9/2, node 1 gets 9/2, total 12 -/
example :
    (∀ j < 2, ∃ i < 2, inc₀ i j = true) ∧
    e2nEffective 2 2 inc₀ (fun j => if j = 0 then (3 : ℚ) else 9) 0 = 15 / 2 ∧
    e2nEffective 2 2 inc₀ (fun j => if j = 0 then (3 : ℚ) else 9) 1 = 9 / 2 ∧
    sumTo 2 (fun i => e2nEffective 2 2 inc₀ (fun j => if j = 0 then (3 : ℚ) else 9) i) = 12 := by
  decide +kernel

/-- the hypothesis cannot be dropped: the value of an element without nodes is lost -/
example :
    sumTo 1 (fun i => e2nEffective 1 2 inc₀ (fun j => if j = 0 then (3 : ℚ) else 9) i) = 12 ∧
    sumTo 1 (fun i => e2nEffective 1 2 (fun i j => decide (i = j)) (fun j => if j = 0 then (3 : ℚ) else 9) i) = 3 := by
  decide +kernel

end Effective

section History
variable {I K : Type} [Field K]

/-- A call returns its argument objects (incidence, weights, data) unchanged, and the value
it returns for node `i` is `e2nMean` / `e2nEffective` of exactly these arguments — the subject of the law theorems above.
(The first part holds by definition of the model; it is the statement the harness ties to the code by comparing a bit-exact
snapshot of every argument object taken before a call with the object after the call.) -/
theorem C14_call_returns_arguments (rel : I → Nat → Nat → Bool) (n e : Nat) (mode : ConvMode) (a : ConvArgs I K) :
    (e2nCall rel n e mode a).2 = a ∧
    (e2nCall rel n e mode a).1.length = n ∧
    ∀ i, i < n → (e2nCall rel n e mode a).1[i]? = some (match mode with
      | .mean => e2nMean e (rel a.inc) (fun j => a.weights.getD j 0) (fun j => a.data.getD j 0) i
      | .effective => e2nEffective n e (rel a.inc) (fun j => a.data.getD j 0) i) := by
  refine ⟨rfl, by rw [e2nCall, List.length_map, List.length_range], fun i h => ?_⟩
  rw [e2nCall, List.getElem?_map, List.getElem?_range h]
  cases mode <;> rfl

/-- In a history of conversions that all receive the same incidence object, every call returns what
the same call returns on the ORIGINAL incidence object (i.e. what a call with freshly built, equal arguments returns), and the
incidence object is unchanged at the end — whatever the modes, weights and data of the earlier calls were. -/
theorem C14_history_fresh (rel : I → Nat → Nat → Bool) (n e : Nat) (cs : List (ConvCall K)) (inc : I) :
    (e2nHistory rel n e cs inc).1 = cs.map (fun c => e2nCall rel n e c.mode ⟨inc, c.weights, c.data⟩) ∧
    (e2nHistory rel n e cs inc).2 = inc := by
  induction cs with
  | nil => exact ⟨rfl, rfl⟩
  | cons c cs ih =>
    have h1 : (e2nCall rel n e c.mode (⟨inc, c.weights, c.data⟩ : ConvArgs I K)).2.inc = inc := rfl
    simp only [e2nHistory, h1, ih.1, ih.2, List.map_cons, and_self]

/-- Consequently the value at node `i` returned by the `k`-th call of any history is `e2nMean` (mode
'mean') resp. `e2nEffective` (mode 'effective') of the original incidence relation and that call's own weights and data: the
law theorems (`C14_constants`, `C14_bounds`, `C14_weights_prop_size`, `C14_effective_colsum`, `C14_effective_total`) apply to
every call of a history, not only to the first. -/
theorem C14_history_value (rel : I → Nat → Nat → Bool) (n e : Nat) (cs : List (ConvCall K)) (inc : I)
    (k : Nat) (c : ConvCall K) (hk : cs[k]? = some c) (i : Nat) (hi : i < n) :
    ((e2nHistory rel n e cs inc).1[k]?.map fun out => out.1[i]?) = some (some (match c.mode with
      | .mean => e2nMean e (rel inc) (fun j => c.weights.getD j 0) (fun j => c.data.getD j 0) i
      | .effective => e2nEffective n e (rel inc) (fun j => c.data.getD j 0) i)) := by
  rw [(C14_history_fresh rel n e cs inc).1, List.getElem?_map, hk]
  simp only [Option.map_some]
  exact congrArg some ((C14_call_returns_arguments rel n e c.mode ⟨inc, c.weights, c.data⟩).2.2 i hi)

/-- non-vacuity: 'mean' with sizes (1, 2), then 'effective', then 'mean' again on the same incidence object (pairs of `inc₀`):
the third call returns what the first returned (7 at node 0: weights 1/3, 2/3), the 'effective' call in between 3 + 9/2 -/
example :
    let cs : List (ConvCall ℚ) := [⟨.mean, [1, 2], [3, 9]⟩, ⟨.effective, [], [3, 9]⟩, ⟨.mean, [1, 2], [3, 9]⟩]
    let h := e2nHistory incOfPairs 2 2 cs [(0, 0), (0, 1), (1, 1)]
    h.1.map (·.1) = [[7, 9], [15 / 2, 9 / 2], [7, 9]] ∧ h.2 = [(0, 0), (0, 1), (1, 1)] := by
  decide +kernel

end History

/-- "Returns its arguments unchanged" is not a formality: for the variant that applies the
weights by scaling the caller's incidence matrix in place (`e2nMeanInPlace`; not femio — seeded change C14-6) the first call is
right (7 at node 0 for sizes 1, 2 and values 3, 9: weights 1/3, 2/3) but a second identical call on the matrix left behind
uses the weights 1/5, 4/5 — proportional to size² — and returns 39/5.  Constants are still preserved by that second call, so
only a check of the weights themselves can see it. -/
theorem C14_inplace_counterexample :
    let A₀ : Nat → Nat → ℚ := fun i j => ind (decide (i ≤ j))
    let m : Nat → ℚ := fun j => (j : ℚ) + 1
    let x : Nat → ℚ := fun j => if j = 0 then 3 else 9
    let first := e2nMeanInPlace 2 A₀ m x
    let second := e2nMeanInPlace 2 first.2 m x
    first.1 0 = 7 ∧ first.1 0 = e2nMean 2 (fun i j => decide (i ≤ j)) m x 0 ∧
    second.1 0 = 39 / 5 ∧ meanWeightV 2 first.2 m 0 0 = 1 / 5 ∧ meanWeightV 2 first.2 m 0 1 = 4 / 5 ∧
    (e2nMeanInPlace 2 first.2 m (fun _ => 7)).1 0 = 7 := by
  decide +kernel

/-- For a mesh with distinct node ids and distinct element ids the Boolean matrix used by the
conversions (`incOfPairs` of `Core.incidence` = `calculate_incidence_matrix`) relates node position `i` and element
position `j` (flattened order) exactly when the node is one of the element's own nodes. -/
theorem C14_incidence_of_mesh (nodeIds : List Nat) (blocks : List (List Core.Elem))
    (hn : nodeIds.Nodup) (he : (blocks.flatten.map Core.Elem.id).Nodup) (i j : Nat) :
    incOfPairs (Core.incidence nodeIds blocks) i j = true ↔
      ∃ (hi : i < nodeIds.length) (hj : j < (Core.flatten blocks).length),
        nodeIds[i] ∈ ((Core.flatten blocks)[j]).conn := by
  rw [← incidence_spec nodeIds blocks hn he i j]
  simp [incOfPairs]

/-- non-vacuity: nodes 7, 3, 5; a triangle (id 2) stored before a line (id 1): flattened order is by id -/
example : incOfPairs (Core.incidence [7, 3, 5] [[⟨1, 0, [5, 7]⟩], [⟨2, 3, [3, 5, 7]⟩]]) 1 1 = true ∧
    incOfPairs (Core.incidence [7, 3, 5] [[⟨1, 0, [5, 7]⟩], [⟨2, 3, [3, 5, 7]⟩]]) 1 0 = false := by decide

end Femio.C14
