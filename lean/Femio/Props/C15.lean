import Femio.Lemmas.GradientLemmas

/-! # C15 — spatial gradient operators are exact on affine fields

`Model/Gradient.lean` transcribes `calculate_spatial_gradient_adjacency_matrices` and
`calculate_{nodal,elemental}_spatial_gradients`; the driver executes the same definitions at `K = ℚ`. Left out: coincident
vertices and `Σ_j w_ij = 0` give `inf`/`nan` in numpy (`x / 0 = 0` here); both lie outside the property's quantifier and the
driver reports both guards for every case. `IsUnit (det M_i)` is Mathlib's determinant, equal to the model's `det3` by `det3_eq_det`. -/
namespace Femio.C15
open Femio.Gradient V3

variable {K : Type} [Field K]

/-- **C15, clause 1.**  Every spatial-gradient operator — with or without moment matrix, any neighbour
    lists (nodal / elemental, any hop count), any weights (any kernel, volume weighting on or off) — maps
    every constant field to zero, at every vertex; stated on the three COO matrices `grad_adjs[k]` applied
    with `sparse.dot`, i.e. on what the convenience functions compute. -/
theorem C15_const_zero (I : Inp K) (c : K) (i : Nat) (hi : i < I.n) :
    spatialGradients I (fun _ => c) i = vzero := by
  rw [spatialGradients_eq I _ i hi, const_zero_row]

/-- **C15, clause 2.**  With the moment-matrix correction the computed gradient of every affine field
    `x ↦ a·x + b` equals `a` at every vertex `i` (interior or boundary alike: nothing is assumed about
    the neighbour list) whose moment matrix `M_i = Σ_j w_ij d_ij d_ijᵀ / |d_ij|²` is invertible, i.e. whose
    neighbourhood spans space.  Stated on the result of the convenience function. -/
theorem C15_affine_exact (I : Inp K) (hm : I.moment = true) (i : Nat) (hi : i < I.n)
    (hdet : IsUnit (toMatrix (momentAt I i)).det) (a : V3 K) (b : K) :
    spatialGradients I (fun j => dot a (I.pos j) + b) i = a := by
  rw [spatialGradients_eq I _ i hi]
  exact affine_exact_row I hm i (by rw [det3_eq_det]; exact hdet.ne_zero) a b

/-- **C15, clause 3.**  The convenience functions are the explicit matrices applied by hand
    (`np.stack([G_k.dot(data)])`, definitional), and each matrix row acts as the operator row
    "off-diagonal entries, diagonal = −row sum" of that vertex. -/
theorem C15_convenience (I : Inp K) (data : Nat → K) (i : Nat) (hi : i < I.n) :
    spatialGradients I data i
        = ⟨dotCoo (gradAdj I 0) data i, dotCoo (gradAdj I 1) data i, dotCoo (gradAdj I 2) data i⟩
      ∧ spatialGradients I data i = applyRow (opRow I i) data :=
  ⟨rfl, spatialGradients_eq I data i hi⟩

/-! ### translation invariance (the metamorphic relation of the oracle's stream `translated`) -/

/-- **C15, translation invariance.**  The operator is a function of the differences `x_j − x_i` only: translating every
    vertex by the same vector `t` changes neither any row of the three matrices nor what the convenience functions
    return for any data, for every variant (moment matrix or not, any neighbour lists, any weights).  This is an
    identity over every field; in binary64 the two sides differ by the conditioning of the differences
    (`ulp(max|x|) / |x_j − x_i|`), which is what the oracle's stream `translated` measures on the real code — a
    formula in absolute positions that is *equal over ℚ* (e.g. the expanded moment tensor, `C15_moment_expanded`)
    passes this theorem and fails there. -/
theorem C15_translation_invariant (I : Inp K) (t : V3 K) (data : Nat → K) (i : Nat) :
    opRow (translate I t) i = opRow I i
      ∧ spatialGradients (translate I t) data i = spatialGradients I data i :=
  ⟨opRow_congr (offRow_translate I t) i, spatialGradients_congr (offRow_translate I t) rfl data i⟩

/-- **C15, why the exact model cannot see absolute-position formulas.**  Over every field the moment tensor
    `Σ_j s_j (x_j − x_i) ⊗ (x_j − x_i)` equals its expansion in ABSOLUTE positions
    `Σ_j s_j x_j ⊗ x_j − (Σ_j s_j x_j) ⊗ x_i − x_i ⊗ (Σ_j s_j x_j) + (Σ_j s_j) x_i ⊗ x_i`.
    A rewrite of femio along this identity is invisible to any exact-rational comparison and loses
    `(max|x| / h)²` in binary64; it is caught by the oracle on translated meshes only (seeded change C15-5). -/
theorem C15_moment_expanded (s : Nat → K) (x : Nat → V3 K) (xi : V3 K) (l : List Nat) :
    sumM (l.map fun j => msmul (s j) (outer (V3.sub (x j) xi) (V3.sub (x j) xi)))
      = madd (madd (sumM (l.map fun j => msmul (s j) (outer (x j) (x j))))
                   (msmul (-1) (madd (outer (sumV (l.map fun j => smul (s j) (x j))) xi)
                                     (outer xi (sumV (l.map fun j => smul (s j) (x j)))))))
             (msmul (sumR (l.map s)) (outer xi xi)) := by
  -- entry (a, b) of the step is one identity in the coordinates `u_a, u_b` of the new point and `c_a, c_b` of `xi`
  have key : ∀ t ua ub ca cb A va vb r : K,
      t * ((ua - ca) * (ub - cb)) + (A + -1 * (va * cb + ca * vb) + r * (ca * cb))
        = t * (ua * ub) + A + -1 * ((t * ua + va) * cb + ca * (t * ub + vb)) + (t + r) * (ca * cb) := by
    intros; ring
  induction l with
  | nil =>
    simp only [List.map_nil, sumM_nil, sumV_nil, sumR_nil, madd, msmul, outer, mzero, vzero, V3.add, smul,
      zero_mul, mul_zero, add_zero]
  | cons h t ih =>
    simp only [List.map_cons, sumM_cons, sumV_cons, sumR_cons, ih]
    simp only [madd, msmul, outer, V3.add, V3.sub, smul, M3.mk.injEq, V3.mk.injEq]
    refine ⟨⟨?_, ?_, ?_⟩, ⟨?_, ?_, ?_⟩, ⟨?_, ?_, ?_⟩⟩ <;> apply key

/-- **C15, the weights of a vertex matter only up to a common non-zero factor.**  Multiplying all weights `w_ij` of row
    `i` by `c_i ≠ 0` changes neither any operator row nor what the convenience functions return (every variant), while the
    determinant of the moment matrix is multiplied by `c_i³`.  With volume weighting `c_i` is of the order of the local
    cell volume `h_i³`, so on a graded mesh `det M_i ∼ h_i⁹` varies by `ratio⁹` between vertices whose operator rows are
    equally well determined: the SIZE of `det M_i` relative to other vertices says nothing about whether a neighbourhood
    spans space (seeded change C15-8 zeroed the rows with `|det M_i| < 1e-10 · max_k |det M_k|`, i.e. every vertex of a
    region refined more than 13 : 1).  The exactness theorem needs `det M_i ≠ 0` only, which is invariant. -/
theorem C15_row_weight_scale (I : Inp K) (c : Nat → K) (hc : ∀ i, c i ≠ 0) (data : Nat → K) (i : Nat) :
    opRow (scaleW I c) i = opRow I i
      ∧ spatialGradients (scaleW I c) data i = spatialGradients I data i
      ∧ det3 (momentAt (scaleW I c) i) = c i ^ 3 * det3 (momentAt I i)
      ∧ (det3 (momentAt (scaleW I c) i) ≠ 0 ↔ det3 (momentAt I i) ≠ 0) := by
  have hdet : det3 (momentAt (scaleW I c) i) = c i ^ 3 * det3 (momentAt I i) := by
    rw [momentAt_scaleW, det3_msmul]
  refine ⟨opRow_congr (offRow_scaleW I c hc) i, spatialGradients_congr (offRow_scaleW I c hc) rfl data i, hdet, ?_⟩
  rw [hdet, mul_ne_zero_iff_left (pow_ne_zero 3 (hc i))]

def truncV (v : V3 ℚ) : V3 ℚ := ⟨truncQ v.x, truncQ v.y, truncQ v.z⟩

/-- **C15, integer-valued affine fields.**  For an affine field with integer slope `a`, given as integers (`f_j = a·x_j + b`
    evaluated in ℤ on integer-valued positions), the moment-corrected gradient is exactly the integer vector `a`: over ℚ
    an output array of the INPUT's integer dtype (truncation on assignment, seeded change C15-7) loses nothing on such a
    field.  Hence the exact model cannot see that change on affine fields; what reveals it is binary64 rounding
    (`15.999999999999998 → 15`: oracle, integer-typed arrays) or any non-affine integer field
    (`example` below: the truncated result differs from the explicit matrices applied by hand). -/
theorem C15_integer_affine_field (I : Inp ℚ) (hm : I.moment = true) (i : Nat) (hi : i < I.n)
    (hdet : IsUnit (toMatrix (momentAt I i)).det) (P : Nat → V3 ℤ)
    (hP : ∀ j, I.pos j = ⟨((P j).x : ℚ), ((P j).y : ℚ), ((P j).z : ℚ)⟩) (a : V3 ℤ) (b : ℤ) :
    spatialGradients I (fun j => ((a.x * (P j).x + a.y * (P j).y + a.z * (P j).z + b : ℤ) : ℚ)) i
        = ⟨(a.x : ℚ), (a.y : ℚ), (a.z : ℚ)⟩
      ∧ truncV (spatialGradients I (fun j => ((a.x * (P j).x + a.y * (P j).y + a.z * (P j).z + b : ℤ) : ℚ)) i)
        = spatialGradients I (fun j => ((a.x * (P j).x + a.y * (P j).y + a.z * (P j).z + b : ℤ) : ℚ)) i := by
  -- over `ℚ` the integer field is the affine field with slope `a` and offset `b`
  have h := C15_affine_exact I hm i hi hdet ⟨(a.x : ℚ), (a.y : ℚ), (a.z : ℚ)⟩ (b : ℚ)
  simp only [dot, hP] at h
  simp only [Int.cast_add, Int.cast_mul, h, truncV, truncQ_int, and_self]

/-- vertex 0 at the origin, neighbours at `(1,0,0)`, `(0,2,0)`, `(1,1,3)`; weights 1, 2, 5 -/
def I0 (moment : Bool) : Inp ℚ where
  n := 4
  pos := fun j => match j with | 0 => ⟨0, 0, 0⟩ | 1 => ⟨1, 0, 0⟩ | 2 => ⟨0, 2, 0⟩ | _ => ⟨1, 1, 3⟩
  nbrs := fun i => (List.range 4).filter (· != i)
  w := fun _ j => match j with | 1 => 1 | 2 => 2 | 3 => 5 | _ => 7
  moment := moment

theorem I0_spans : IsUnit (toMatrix (momentAt (I0 true) 0)).det := by
  rw [← det3_eq_det, isUnit_iff_ne_zero]; decide +kernel

example : IsUnit (toMatrix (momentAt (I0 true) 0)).det := I0_spans
example : spatialGradients (I0 true) (fun j => dot ⟨2, -3, 5⟩ ((I0 true).pos j) + 11) 0 = ⟨2, -3, 5⟩ :=
  C15_affine_exact (I0 true) rfl 0 (by decide) I0_spans ⟨2, -3, 5⟩ 11
example : spatialGradients (I0 false) (fun _ => 11) 0 = vzero ∧ spatialGradients (I0 true) (fun _ => 11) 3 = vzero :=
  ⟨C15_const_zero (I0 false) 11 0 (by decide), C15_const_zero (I0 true) 11 3 (by decide)⟩
/-- without the correction the gradient of an affine field is *not* exact on this vertex -/
example : spatialGradients (I0 false) (fun j => dot ⟨2, -3, 5⟩ ((I0 false).pos j) + 11) 0 ≠ ⟨2, -3, 5⟩ := by
  decide +kernel

/-- translation invariance on the corner example: every row and the gradient of a non-affine field are unchanged by a
    large translation -/
example : opRow (translate (I0 true) ⟨431250, 3912500, 128⟩) 0 = opRow (I0 true) 0
    ∧ spatialGradients (translate (I0 false) ⟨431250, 3912500, 128⟩) (fun j => (j : ℚ) * j) 3
        = spatialGradients (I0 false) (fun j => (j : ℚ) * j) 3 :=
  ⟨(C15_translation_invariant (I0 true) _ (fun _ => 0) 0).1, (C15_translation_invariant (I0 false) _ _ 3).2⟩
/-- the left-hand side of `C15_moment_expanded` on concrete data is not the zero matrix -/
example : sumM ([1, 2, 3].map fun j => msmul ((I0 true).w 0 j) (outer (V3.sub ((I0 true).pos j) ⟨5, 7, 9⟩) (V3.sub ((I0 true).pos j) ⟨5, 7, 9⟩)))
    ≠ (mzero : M3 ℚ) := by
  decide +kernel

/-- row-wise rescaling of the weights on the corner example: vertex 0's weights divided by 10⁹ (a vertex of a region refined
    1000 : 1 under volume weighting), vertex 3's multiplied by 7: same rows, determinant of vertex 0 smaller by 10²⁷ -/
example : opRow (scaleW (I0 true) fun i => if i = 0 then 1 / 1000000000 else 7) 0 = opRow (I0 true) 0
    ∧ opRow (scaleW (I0 false) fun i => if i = 0 then 1 / 1000000000 else 7) 3 = opRow (I0 false) 3
    ∧ det3 (momentAt (scaleW (I0 true) fun i => if i = 0 then 1 / 1000000000 else 7) 0) * 1000000000 ^ 3
        = det3 (momentAt (I0 true) 0) := by
  have hc : ∀ i, (if i = 0 then (1 : ℚ) / 1000000000 else 7) ≠ 0 := fun i => by split <;> decide +kernel
  exact ⟨(C15_row_weight_scale (I0 true) _ hc (fun _ => 0) 0).1, (C15_row_weight_scale (I0 false) _ hc (fun _ => 0) 3).1,
    by decide +kernel⟩

/-- a NON-affine integer (even Boolean) field, the indicator of vertex 2, on the corner example: the gradient (= the explicit
    matrices applied by hand) is `(0, 1/2, -1/6)`; an output array of the input's integer dtype holds `(0, 0, 0)` -/
example : spatialGradients (I0 true) (fun j => if j = 2 then 1 else 0) 0 = ⟨0, 1 / 2, -1 / 6⟩
    ∧ applyRow (opRow (I0 true) 0) (fun j => if j = 2 then 1 else 0) = ⟨0, 1 / 2, -1 / 6⟩
    ∧ truncV ⟨0, 1 / 2, -1 / 6⟩ = ⟨0, 0, 0⟩ := by
  have h : applyRow (opRow (I0 true) 0) (fun j => if j = 2 then 1 else 0) = ⟨0, 1 / 2, -1 / 6⟩ := by decide +kernel
  exact ⟨(C15_convenience (I0 true) _ 0 (by decide)).2.trans h, h, by decide +kernel⟩

/-- **C15, tiny kernel weights: the operator is unchanged, the determinant is not representable.**  The corner example with
    all weights multiplied by `10⁻¹⁰⁹` (kernel `exp`, default `alpha`, millimetre coordinates with 250 mm elements): every
    entry of the moment matrix of vertex 0 is still far above the smallest normal binary64 number (`> 10⁻³⁰⁸`) and the operator
    row is the SAME row (`C15_row_weight_scale`), but `det M_0` - positive, so the neighbourhood spans space - lies below
    `10⁻³⁰⁸`: a closed-form inverse `adj / det` evaluated in binary64 (seeded change C15-11) divides by a subnormal number
    or reports "singular", although nothing about the vertex is degenerate.  Over `ℚ` (this model, the driver) the closed
    form is exact whatever the size of the weights, which is why only the oracle (stream kernel-scale) can see such a change. -/
theorem C15_det_underflow_counterexample :
    let c : Nat → ℚ := fun _ => 1 / 10 ^ 109
    let M := momentAt (scaleW (I0 true) c) 0
    opRow (scaleW (I0 true) c) 0 = opRow (I0 true) 0
      ∧ 0 < det3 (momentAt (I0 true) 0)
      ∧ 0 < det3 M ∧ det3 M < 1 / 10 ^ 308
      ∧ 1 / 10 ^ 200 < M.r0.x ∧ 1 / 10 ^ 200 < M.r1.y ∧ 1 / 10 ^ 200 < M.r2.z := by
  intro c M
  exact ⟨(C15_row_weight_scale (I0 true) c (fun _ => by decide +kernel) (fun _ => 0) 0).1, by decide +kernel⟩

/-- seeded change C15-12 as a call model of the shape of `callFresh` (`held`: the arrays returned so far; a call returns the
    index of its array): the result is assembled in ONE work array kept on the object and that array is returned (all
    results of one shape and dtype are the same array) -/
def callWork {α : Type} (held : List α) (v : α) : List α × Nat :=
  match held with
  | [] => ([v], 0)
  | _ :: t => (v :: t, 0)

/-- **C15, results are values.**  With a fresh array per call, whatever calls follow, every array returned earlier still
    holds what was returned (so it still equals the true gradient / the explicit matrices applied by hand to ITS field), and
    a call returns its own value. -/
theorem C15_held_results_stable {α : Type} (held : List α) (vs : List α) (k : Nat) (hk : k < held.length) (v : α) :
    (callsFresh held vs)[k]? = held[k]? ∧ (callFresh held v).1[(callFresh held v).2]? = some v :=
  ⟨by rw [callsFresh_eq_append, List.getElem?_append_left hk], List.getElem?_concat_length⟩

/-- the work-array variant: each call is right when it returns, but the array returned for the first field holds the
    gradient of the second field afterwards -/
theorem C15_work_array_counterexample :
    let h1 := callWork ([] : List (List ℚ)) [2, -3, 5]
    let h2 := callWork h1.1 [7, 0, 1]
    h1.1[h1.2]? = some [2, -3, 5] ∧ h2.1[h2.2]? = some [7, 0, 1] ∧ h2.1[h1.2]? ≠ h1.1[h1.2]? := by
  decide

end Femio.C15
