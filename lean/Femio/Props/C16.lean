import Femio.Lemmas.C16Hop
import Femio.Lemmas.C16Haus
/-! # C16 — spatial searches return exactly what brute force returns

Property theorems about the model `Femio/Model/Search.lean` (transcription of `build_octree_node`,
`_nns_from_nodes_to_nodes`, `_calc_directed_hausdorff_nodes`, the BFS kernels of
`calculate_euclidean_hop_graph`).  All distances are squared; `Key` order = heap order of the code
(`(d², −idx)`: nearer first, larger index first on ties). -/
namespace Femio.C16

/-- the box lower bound `possible_dist_min` never exceeds the distance to a point of the box. -/
theorem C16_lb_sound (b : Box) (q p : P3) (h : inBox b p = true) : lb2 b q ≤ dist2 q p := lb2_le b q p h

example : inBox ⟨⟨0, 0, 0⟩, 1⟩ ⟨1, -1, 1/2⟩ = true ∧ lb2 ⟨⟨0, 0, 0⟩, 1⟩ ⟨3, 0, 0⟩ = 4 ∧ dist2 ⟨3, 0, 0⟩ ⟨1, -1, 1/2⟩ = 21/4 := by
  decide +kernel

/-- the two upper bounds of the Hausdorff kernel dominate every pair distance:
    `possible_dist_range(...)[1]` for (point, box) and `possible_dist_max_node` for (box, box). -/
theorem C16_ub_sound :
    (∀ (b : Box) (q p : P3), inBox b p = true → dist2 q p ≤ hi2 b q) ∧
    (∀ (a b : Box) (pa pb : P3), 0 ≤ a.w → 0 ≤ b.w → inBox a pa = true → inBox b pb = true → dist2 pa pb ≤ ubNode2 a b) :=
  ⟨fun b q p h => hi2_ge b q p h, fun a b pa pb _ _ hpa hpb => ubNode2_ge a b pa pb hpa hpb⟩

example : hi2 ⟨⟨0, 0, 0⟩, 1⟩ ⟨3, 0, 0⟩ = 18 ∧ ubNode2 ⟨⟨0, 0, 0⟩, 1⟩ ⟨⟨4, 0, 0⟩, 1/2⟩ = 139/4 := by
  decide +kernel

/-- the root box of the wrappers (centre = midpoint of the bounding box, half width `w ≥` half the largest extent,
    which `0.51 * extent` is) contains every point of the bounding box -/
theorem C16_root_contains (lo hi p : P3) (w : Rat)
    (hx : lo.x ≤ p.x ∧ p.x ≤ hi.x) (hy : lo.y ≤ p.y ∧ p.y ≤ hi.y) (hz : lo.z ≤ p.z ∧ p.z ≤ hi.z)
    (hwx : (hi.x - lo.x) / 2 ≤ w) (hwy : (hi.y - lo.y) / 2 ≤ w) (hwz : (hi.z - lo.z) / 2 ≤ w) :
    inBox ⟨⟨(lo.x + hi.x) / 2, (lo.y + hi.y) / 2, (lo.z + hi.z) / 2⟩, w⟩ p = true :=
  (inBox_iff _ _).mpr ⟨Axis.mid_mem hx hwx, Axis.mid_mem hy hwy, Axis.mid_mem hz hwz⟩

/-- for targets inside the root box (exact arithmetic) the tree built by recursive descent
    stores every target exactly once, every index stored under a box lies in that box (`WB`), and a point lies in
    every box along the path it is assigned to — in particular in its leaf. -/
theorem C16_leaf_contains (pt : Nat → P3) (n depth : Nat) (root : Box) (hw : 0 ≤ root.w)
    (hall : ∀ i, i < n → inBox root (pt i) = true) :
    WB pt root (build pt depth root (List.range n)) ∧
    (build pt depth root (List.range n)).idxs.Perm (List.range n) ∧
    ∀ i, i < n → ∀ pre, pre <+: assign root (pt i) depth → inBox (boxOf root pre) (pt i) = true :=
  ⟨WB_build pt depth root _ hw (fun i hi => hall i (List.mem_range.mp hi)),
   build_idxs_perm pt depth root _,
   fun i hi pre hpre => in_prefix_box root (pt i) hw (hall i hi) depth pre hpre⟩

/-- points on the border between two children (here the centre plane x = 0) go to the first child that contains
    them, exactly one leaf each -/
example : assign ⟨⟨0, 0, 0⟩, 4⟩ ⟨0, 1, -1⟩ 2 = [1, 6] ∧
    (build (fun i => [⟨0, 1, -1⟩, ⟨-3, 2, 2⟩, (⟨0, 1, -1⟩ : P3)].getD i ⟨0, 0, 0⟩) 2 ⟨⟨0, 0, 0⟩, 4⟩ [0, 1, 2]).idxs = [0, 2, 1] := by
  decide +kernel

/-- abstract, order-independent correctness. From the initial state (the root queued,
    empty result) take *any* sequence of steps — skip a subtree none of whose points beats the full result heap, drop a
    subtree without admissible points, expand an inner node, scan a leaf (`heappushpop`), reorder the queue
    arbitrarily —; whenever the queue is empty the bounded result list holds the `k` smallest keys of all points,
    ascending. -/
theorem C16_branch_and_bound {T α : Type} [LinearOrder α] (tr : SearchTree T α) (k : ℕ) (root : T) (s : St T α)
    (hreach : Relation.ReflTransGen (Step tr k) ⟨[root], [], [], []⟩ s) (hq : s.queue = []) :
    IsBest k (tr.pts root) s.res := by
  have hinv : SInv tr k (tr.pts root) s := by
    clear hq
    induction hreach with
    | refl => exact ⟨by simp, isBest_nil k, by simp⟩
    | tail _ hstep ih => exact step_inv ih hstep
  exact final_best hinv hq

/-- non-vacuity: a two-leaf tree over `ℕ`, scan one leaf, skip the other (its points cannot beat the full heap) -/
example :
    let tr : SearchTree ℕ ℕ := ⟨fun t => if t = 0 then [1, 9, 5, 7] else if t = 1 then [1, 5] else [9, 7],
      fun t => if t = 0 then some [1, 2] else none,
      by
        intro t cs h
        by_cases h0 : t = 0
        · subst h0; simp at h; subst h; decide
        · simp [h0] at h⟩
    IsBest 2 (tr.pts 0) [1, 5] := by
  intro tr
  have h1 : Step tr 2 ⟨[0], [], [], []⟩ ⟨[1, 2] ++ [], [], [], []⟩ := Step.expand 0 [1, 2] [] [] [] [] rfl
  have h2 : Step tr 2 ⟨[1, 2], [], [], []⟩ ⟨[2], [1, 5], (tr.pts 1).reverse ++ [], []⟩ :=
    Step.scan 1 [2] [] [] [] rfl
  have h3 : Step tr 2 ⟨[2], [1, 5], (tr.pts 1).reverse ++ [], []⟩ ⟨[], [1, 5], (tr.pts 1).reverse ++ [], tr.pts 2 ++ []⟩ :=
    Step.skip 2 [] [1, 5] _ [] rfl (by decide)
  exact C16_branch_and_bound tr 2 0 _
    (Relation.ReflTransGen.tail (Relation.ReflTransGen.tail (Relation.ReflTransGen.single h1) h2) h3) rfl

/-- `Oct.size` iterations always empty the queue (the driver uses exactly this fuel). -/
theorem C16_knn_terminates (pt : Nat → P3) (k : Nat) (bound : Option Rat) (root : Box) (t : Oct) (q : P3) :
    (knnRun pt k bound root t q t.size).queue = [] := knnRun_queue_empty pt k bound root t q

/-- the concrete best-first loop (queue ordered by the box lower bound, strict pruning against the
    k-th best, `distance_upper_bound` on boxes and on points) over the octree of the targets `0..n-1` returns the `k` best
    keys `(d², idx)` among the targets within the bound — ascending distance, larger index first on exact ties —
    for every point set inside the root box, every depth, every `k`, every bound, every query point. -/
theorem C16_knn_refines (pt : Nat → P3) (q : P3) (bound : Option Rat) (n depth k : Nat) (root : Box) (hw : 0 ≤ root.w)
    (hall : ∀ i, i < n → inBox root (pt i) = true) :
    let t := build pt depth root (List.range n)
    IsBest k (admKeys pt q bound (List.range n)) (knnRun pt k bound root t q t.size).res := by
  intro t
  exact knn_correct pt q bound n depth k root hw hall t.size (knnRun_queue_empty pt k bound root t q)

/-- what the caller sees. The row for one query has exactly `k` entries; with
    `c = min k #{targets within the bound}`, the first `c` entries are targets within the bound listed by ascending
    squared distance, each with the offset vector `target − query` and its squared length, no other target within the
    bound is strictly nearer than a listed one, and the remaining `k − c` entries are the padding (`-1`, `inf`). -/
theorem C16_knn_output (pt : Nat → P3) (q : P3) (bound : Option Rat) (n depth k : Nat) (root : Box) (hw : 0 ≤ root.w)
    (hall : ∀ i, i < n → inBox root (pt i) = true) :
    let out := knn pt k bound root (build pt depth root (List.range n)) q
    let adm := (List.range n).filter fun i => !exceeds bound (dist2 q (pt i))
    let c := min k adm.length
    out.length = k ∧
    (∀ j, c ≤ j → j < k → out[j]? = some none) ∧
    (∃ hits : List Hit, hits.length = c ∧ out = hits.map some ++ List.replicate (k - c) none ∧
      hits.Pairwise (fun a b => a.d2 ≤ b.d2) ∧ (hits.map (·.idx)).Nodup ∧
      (∀ h ∈ hits, h.idx ∈ adm ∧ h.d2 = dist2 q (pt h.idx) ∧
        h.vec = ⟨(pt h.idx).x - q.x, (pt h.idx).y - q.y, (pt h.idx).z - q.z⟩) ∧
      (∀ i ∈ adm, i ∉ hits.map (·.idx) → ∀ h ∈ hits, h.d2 ≤ dist2 q (pt i))) := by
  intro out adm c
  -- everything is read off the three fields of `IsBest` for the admissible keys, which are the keys of `adm`
  obtain ⟨hsorted, hlen, rest, hperm, hrest⟩ := C16_knn_refines pt q bound n depth k root hw hall
  set res := (knnRun pt k bound root (build pt depth root (List.range n)) q
    (build pt depth root (List.range n)).size).res with hres
  have hkeys : admKeys pt q bound (List.range n) = keysOf pt q adm := by
    simp only [admKeys, keysOf, adm, List.filter_map]
    rfl
  rw [hkeys] at hlen hperm
  have hidx : (keysOf pt q adm).map (·.idx) = adm := by simp [keysOf, Function.comp_def]
  have hlen' : res.length = c := by rw [hlen, keysOf, List.length_map]
  have hck : c ≤ k := Nat.min_le_left _ _
  let hit (x : Key) : Hit := ⟨x.idx, ⟨(pt x.idx).x - q.x, (pt x.idx).y - q.y, (pt x.idx).z - q.z⟩, x.d⟩
  have hout : out = (res.map hit).map some ++ List.replicate (k - c) none := by
    simp only [out, knn, knnOut, ← hres, hlen', List.map_map]
    rfl
  have hmem : ∀ x ∈ res, x.idx ∈ adm ∧ x.d = dist2 q (pt x.idx) := by
    intro x hx
    obtain ⟨i, hi, rfl⟩ := List.mem_map.mp (hperm.symm.subset (List.mem_append_left _ hx))
    exact ⟨hi, rfl⟩
  -- indices are not repeated among the keys, the listed and the others together
  have hnodup : (res.map (·.idx) ++ rest.map (·.idx)).Nodup := by
    rw [← List.map_append, ← (hperm.map _).nodup_iff, hidx]
    exact List.nodup_range.filter _
  refine ⟨?_, ?_, res.map hit, ?_, hout, ?_, ?_, ?_, ?_⟩
  · rw [hout, List.length_append, List.length_map, List.length_map, List.length_replicate, hlen']
    omega
  · intro j hj hjk
    rw [hout, List.getElem?_append_right (by simpa [hlen'] using hj), List.getElem?_replicate]
    simp only [List.length_map, hlen', ite_eq_left_iff, reduceCtorEq, imp_false, not_not]
    omega
  · rw [List.length_map, hlen']
  · exact List.pairwise_map.mpr (hsorted.imp d_le_of_le)
  · rw [List.map_map]
    exact hnodup.of_append_left
  · intro h hh
    obtain ⟨x, hx, rfl⟩ := List.mem_map.mp hh
    exact ⟨(hmem x hx).1, (hmem x hx).2, rfl⟩
  · intro i hi hnot h hh
    obtain ⟨x, hx, rfl⟩ := List.mem_map.mp hh
    have hki : (⟨dist2 q (pt i), i⟩ : Key) ∈ res ++ rest := hperm.subset (List.mem_map.mpr ⟨i, hi, rfl⟩)
    rcases List.mem_append.mp hki with hin | hin
    · exact absurd (List.mem_map.mpr ⟨_, List.mem_map.mpr ⟨_, hin, rfl⟩, rfl⟩) hnot
    · exact d_le_of_le (hrest _ hin x hx)

/-- non-vacuity: five targets with an exact tie (indices 1 and 3 at distance² 1 from the query), k = 3 with bound² = 4,
    then k = 6 (> number of targets) unbounded: ties come larger index first, the tail is padding -/
example :
    let P : List P3 := [⟨0, 0, 0⟩, ⟨1, 0, 0⟩, ⟨3, 3, 3⟩, ⟨-1, 0, 0⟩, ⟨0, 2, 0⟩]
    let pt : Nat → P3 := fun i => P.getD i ⟨0, 0, 0⟩
    let root : Box := ⟨⟨1, 3/2, 3/2⟩, 51/25⟩
    (knn pt 3 (some 4) root (build pt 3 root (List.range 5)) ⟨0, 0, 0⟩).map (fun o => o.map (·.idx)) = [some 0, some 3, some 1] ∧
    (knn pt 6 none root (build pt 3 root (List.range 5)) ⟨0, 0, 0⟩).map (fun o => o.map (·.idx))
      = [some 0, some 3, some 1, some 4, some 2, none] ∧
    (∀ i, i < 5 → inBox root (pt i) = true) := by
  decide +kernel

/-- the pruned max–min (leaf upper bounds, descending order with `break`, early exit of the inner
    search) equals `max_a min_b |a − b|²`: it is the minimal squared distance of some point of A to B, and every point
    of A has a point of B at most that far.  The symmetric value is the larger of the two directed ones. -/
theorem C16_hausdorff (ptA ptB : Nat → P3) (nA nB depth : Nat) (root : Box) (hw : 0 ≤ root.w)
    (hA : ∀ i, i < nA → inBox root (ptA i) = true) (hB : ∀ j, j < nB → inBox root (ptB j) = true)
    (hnA : 0 < nA) (hnB : 0 < nB) :
    IsHausdorff2 ptA ptB nA nB (hausDirected ptA ptB nA nB depth root) ∧
    hausSymmetric ptA ptB nA nB depth root
      = maxR (hausDirected ptA ptB nA nB depth root) (hausDirected ptB ptA nB nA depth root) :=
  ⟨hausDirected_correct ptA ptB nA nB depth root hw hA hB hnA hnB, rfl⟩

theorem hausDirected_three_two :
    let A : List P3 := [⟨0, 0, 0⟩, ⟨4, 0, 0⟩, ⟨0, 0, 0⟩]
    let B : List P3 := [⟨1, 0, 0⟩, ⟨0, 2, 0⟩]
    let pa : Nat → P3 := fun i => A.getD i ⟨0, 0, 0⟩
    let pb : Nat → P3 := fun i => B.getD i ⟨0, 0, 0⟩
    hausDirected pa pb 3 2 2 ⟨⟨2, 1, 0⟩, 51/25⟩ = 9 ∧ hausDirected pb pa 2 3 2 ⟨⟨2, 1, 0⟩, 51/25⟩ = 4 := by
  decide +kernel

example :
    let A : List P3 := [⟨0, 0, 0⟩, ⟨4, 0, 0⟩, ⟨0, 0, 0⟩]
    let B : List P3 := [⟨1, 0, 0⟩, ⟨0, 2, 0⟩]
    let pa : Nat → P3 := fun i => A.getD i ⟨0, 0, 0⟩
    let pb : Nat → P3 := fun i => B.getD i ⟨0, 0, 0⟩
    hausDirected pa pb 3 2 2 ⟨⟨2, 1, 0⟩, 51/25⟩ = 9 ∧ hausDirected pb pa 2 3 2 ⟨⟨2, 1, 0⟩, 51/25⟩ = 4 :=
  hausDirected_three_two

/-- `possible_dist_max_node` with the `abs` of the centre differences dropped ("it is squared anyway"): the variant is NOT an
    upper bound when box `b` lies on the + side of box `a` -/
def ubNode2Signed (a b : Box) : Rat :=
  let dw := a.w + b.w
  sq (a.c.x - b.c.x + dw) + sq (a.c.y - b.c.y + dw) + sq (a.c.z - b.c.z + dw)

/-- the `abs` in the box-to-box upper bound is needed for the sense of the direction
    from the source box to the target box: for a target box on the + side the signed variant is below an actual pair distance
    (so `C16_ub_sound` fails for it), while for the point-reflected configuration it coincides with `ubNode2`. -/
theorem C16_ub_needs_abs_counterexample :
    let a : Box := ⟨⟨0, 0, 0⟩, 1⟩
    let b : Box := ⟨⟨10, 0, 0⟩, 1⟩
    inBox a ⟨-1, 0, 0⟩ = true ∧ inBox b ⟨11, 0, 0⟩ = true ∧
    ubNode2Signed a b < dist2 ⟨-1, 0, 0⟩ ⟨11, 0, 0⟩ ∧ dist2 ⟨-1, 0, 0⟩ ⟨11, 0, 0⟩ ≤ ubNode2 a b ∧
    ubNode2Signed b a = ubNode2 b a := by
  decide +kernel

/-- the directed Hausdorff distance is zero only if every source point IS a target point -- there
    is no tolerance in the definition: one source point that differs from every target point (by however little, relative to
    the size of the coordinates) makes the value positive.  (A "same cloud" shortcut may test exact equality only.) -/
theorem C16_hausdorff_positive (ptA ptB : Nat → P3) (nA nB : Nat) (h : Rat) (H : IsHausdorff2 ptA ptB nA nB h)
    (i : Nat) (hi : i < nA) (hne : ∀ j, j < nB → ptA i ≠ ptB j) : 0 < h := by
  obtain ⟨m, ⟨⟨j, hj, hjm⟩, _⟩, hmh⟩ := H.2 i hi
  have := dist2_pos_of_ne (ptA i) (ptB j) (hne j hj)
  rw [hjm] at this
  exact lt_of_lt_of_le this hmh

/-- non-vacuity: two clouds of equal size and order at coordinates ~10^7 that differ by one unit in one coordinate of one point
    (relative 10^-7): the directed values are 1 both ways, not 0 -/
example :
    let A : List P3 := [⟨10000000, -30000000, 20000000⟩, ⟨10000040, -30000000, 20000007⟩, ⟨10000013, -29999990, 20000000⟩]
    let B : List P3 := [⟨10000000, -30000000, 20000000⟩, ⟨10000040, -30000001, 20000007⟩, ⟨10000013, -29999990, 20000000⟩]
    let pa : Nat → P3 := fun i => A.getD i ⟨0, 0, 0⟩
    let pb : Nat → P3 := fun i => B.getD i ⟨0, 0, 0⟩
    let root : Box := ⟨⟨10000020, -29999995, 20000007/2⟩, 51/100 * 40⟩
    hausDirected pa pb 3 3 2 root = 1 ∧ hausDirected pb pa 3 3 2 root = 1 ∧ pa 1 ≠ pb 0 ∧ pa 1 ≠ pb 1 ∧ pa 1 ≠ pb 2 := by
  decide +kernel

/-- the two directed values differ in general (here 9 from the larger set to the
    smaller one, 4 the other way): `directed=True` must answer for (self -> target) whichever cloud is larger. -/
theorem C16_hausdorff_directed_not_symmetric :
    let A : List P3 := [⟨0, 0, 0⟩, ⟨4, 0, 0⟩, ⟨0, 0, 0⟩]
    let B : List P3 := [⟨1, 0, 0⟩, ⟨0, 2, 0⟩]
    let pa : Nat → P3 := fun i => A.getD i ⟨0, 0, 0⟩
    let pb : Nat → P3 := fun i => B.getD i ⟨0, 0, 0⟩
    hausDirected pa pb 3 2 2 ⟨⟨2, 1, 0⟩, 51/25⟩ ≠ hausDirected pb pa 2 3 2 ⟨⟨2, 1, 0⟩, 51/25⟩ := by
  intro A B pa pb h
  have e := hausDirected_three_two
  exact absurd (e.1.symm.trans (h.trans e.2)) (by decide)

/-- the BFS kernels return exactly the vertices reachable in the node–element graph through
    elements (always) and through nodes inside the ball (`nbd`): `w` is listed for the source node `v` iff `w ≠ v` is a
    node reachable from `v`; `f` is listed for the source element `e` iff `f ≠ e` is an element reachable from `e`.
    `n` bounds all vertex numbers (`V + E`). -/
theorem C16_hop_graph (h : Hop) (nbd : Nat → Bool) (n : Nat) (hsucc : ∀ x y, y ∈ hopSucc h x → y < n) :
    (∀ v w, v < n → (w ∈ hopNodal h nbd n v ↔ w < h.V ∧ w ≠ v ∧
      Relation.ReflTransGen (fun x y => y ∈ hopSucc h x ∧ hopAllowed h nbd y = true) v w)) ∧
    (∀ e f, h.V + e < n → (f ∈ hopElemental h nbd n e ↔ f ≠ e ∧
      Relation.ReflTransGen (fun x y => y ∈ hopSucc h x ∧ hopAllowed h nbd y = true) (h.V + e) (h.V + f))) :=
  ⟨fun v w hv => hopNodal_correct h nbd n v hv hsucc w, fun e f he => hopElemental_correct h nbd n e he hsucc f⟩

/-- a path of three segments 0–1–2–3 (elements 4, 5, 6): from node 0 with nodes 1, 2 inside the ball, node 3 outside -/
example :
    let h : Hop := ⟨4, fun v => [[0], [0, 1], [1, 2], [2]].getD v [], fun e => [[0, 1], [1, 2], [2, 3]].getD e []⟩
    hopNodal h (fun w => decide (w ≤ 2)) 7 0 = [1, 2] ∧ hopElemental h (fun w => decide (w ≤ 2)) 7 0 = [1, 2] := by
  decide

/-- the docstring's definition of the nodal graph. `w` is listed for the source node `v` iff
    `w ≠ v` and there is a chain of nodes `v = v_0, v_1, …, v_n = w` in which consecutive nodes share an element and every
    `v_i` (i ≥ 1) lies inside the ball of `v` (`nbd`). Hypothesis: `nodesOf` returns node numbers (`< V`). -/
theorem C16_hop_nodal_chain (h : Hop) (nbd : Nat → Bool) (n v : Nat) (hv : v < h.V) (hVn : h.V ≤ n)
    (hsucc : ∀ x y, y ∈ hopSucc h x → y < n) (hN : ∀ e w, w ∈ h.nodesOf e → w < h.V) (w : Nat) :
    w ∈ hopNodal h nbd n v ↔ w ≠ v ∧ Relation.ReflTransGen
      (fun a b => (∃ e, e ∈ h.elemsOf a ∧ b ∈ h.nodesOf e) ∧ nbd b = true) v w :=
  hopNodal_chain h nbd n v hv hVn hsucc hN w

/-- the elemental kernel is *not* the docstring's chain of elements "each within r of e, consecutive ones sharing a
    node": it additionally needs the shared node itself inside the ball.  Three elements e0 = {0,1}, e1 = {1,2},
    e2 = {2,3}; from e0 the nodes 0, 1, 3 are near (node 3 belongs to e2, so dist(e0, e2) < r) but the node 2 shared by e1
    and e2 is not: e2 is not reached from e0, although e0 is reached from e2 when node 2 is near e2 (it is its own
    vertex) and node 1 is near e2 -/
example :
    let h : Hop := ⟨4, fun v => [[0], [0, 1], [1, 2], [2]].getD v [], fun e => [[0, 1], [1, 2], [2, 3]].getD e []⟩
    hopElemental h (fun w => decide (w ≠ 2)) 7 0 = [1] ∧ hopElemental h (fun w => decide (w ≠ 0)) 7 2 = [1, 0] := by
  decide

end Femio.C16
