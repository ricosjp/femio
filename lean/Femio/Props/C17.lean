import Femio.Lemmas.EigenSystem
import Femio.Lemmas.AlignLemmas
import Femio.Model.TensorRound

/-! # C17 — tensor helpers are mutually inverse and reconstruct their input

Theorems about `Femio.Tensor` (`Model/Tensor.lean`).  The index tables and the engineering-shear factors are
the generated ones (`Femio/Gen/Tables.lean`), so every statement is re-checked against the working tree.
`np.linalg.eigh` is not modelled: its post-condition `IsEigh` (A V = V diag(w), Vᵀ V = 1; ascending `w`
where the order matters) is an explicit hypothesis, and the harness evaluates it exactly on every
eigen-system the real call returned.  "Does not modify the caller's array" is an aliasing fact of numpy
and is checked on the implementation only (harness snapshot). -/
namespace Femio.C17
open Femio.Tensor Femio.Gradient V3 Femio.Gen
variable {K : Type} [Field K]

theorem C17_arr_mat_inverse [CharZero K] (σ : Equiv.Perm (Fin 6)) (eng : Bool) (a : List K) (ha : a.length = 6) :
    mat2arr (ordList σ⁻¹) eng (arr2mat (ordList σ) eng a) = a
    ∧ transpose (toM3 (arr2mat (ordList σ) eng a)) = toM3 (arr2mat (ordList σ) eng a) := by
  have hb : (gather (ordList σ) a).length = 6 := by rw [gather_length, ordList_length]
  constructor
  · unfold mat2arr arr2mat
    cases eng
    · simp only [Bool.false_eq_true, if_false]
      rw [gather_tables _ hb, gather_perm σ a ha]
    · simp only [if_true]
      rw [gather_tables _ (scaleBy_length _ _ rfl hb), (scale_cancel _ hb).1, gather_perm σ a ha]
  · unfold arr2mat
    -- whatever list `arr2matIdx` spreads over the nine cells, cells `(r, s)` and `(s, r)` read the same slot
    generalize (if eng = true then scaleBy arr2matEng (gather (ordList σ) a) else gather (ordList σ) a) = c
    rfl

/-- **C17, principal components.**  Let `(w, V)` satisfy the post-condition of `eigh` for `A` with `w`
    ascending.  Then the result of `calculate_principal_components` has (1) values sorted descending,
    (2) orthonormal directions, (3) right-handed (`det = +1`, by the Lagrange identity), (4) they rebuild
    the tensor: `calculate_symmetric_matrices_from_eigens(values, directions) = A` — also when eigenvalues
    repeat or vanish, whatever orthonormal basis `eigh` chose —, (5) vectors = value · direction.
    `≤` is any relation on `K`: clause (1) is `hasc` read in the reversed order, nothing else uses it. -/
theorem C17_principal [LE K] (A : M3 K) (w : V3 K) (V : M3 K) (h : IsEigh A w V)
    (hasc : w.x ≤ w.y ∧ w.y ≤ w.z) :
    let p := principalPost w V
    (p.vals.y ≤ p.vals.x ∧ p.vals.z ≤ p.vals.y)
    ∧ mmul (transpose (ofCols p.d0 p.d1 p.d2)) (ofCols p.d0 p.d1 p.d2) = one3
    ∧ det3 (ofCols p.d0 p.d1 p.d2) = 1
    ∧ fromEigens p.vals p.d0 p.d1 p.d2 = A
    ∧ (p.v0 = V3.smul p.vals.x p.d0 ∧ p.v1 = V3.smul p.vals.y p.d1 ∧ p.v2 = V3.smul p.vals.z p.d2) := by
  obtain ⟨-, ⟨-, h11, -⟩, ⟨-, h21, h22⟩⟩ := (orth_iff (col0 V) (col1 V) (col2 V)).1 h.orth
  obtain ⟨hgram, hdet⟩ := frame_orth h22 h11 h21
  exact ⟨⟨hasc.2, hasc.1⟩, hgram, hdet, (fromEigens_principal h.orth w).trans h.rebuild, rfl, rfl, rfl⟩

theorem arr_mat_default [CharZero K] (eng : Bool) (a : List K) (ha : a.length = 6) :
    mat2arr defaultOrder eng (arr2mat defaultOrder eng a) = a := by
  have := (C17_arr_mat_inverse (K := K) 1 eng a ha).1
  rwa [inv_one, ordList_one] at this

theorem arr2mat_default_inj [CharZero K] (eng : Bool) {a b : List K} (ha : a.length = 6) (hb : b.length = 6)
    (h : toM3 (arr2mat defaultOrder eng a) = toM3 (arr2mat defaultOrder eng b)) : a = b := by
  have hl : arr2mat defaultOrder eng a = arr2mat defaultOrder eng b := by
    rw [← flat_toM3 _ (arr2mat_length _ _ a), h, flat_toM3 _ (arr2mat_length _ _ b)]
  rw [← arr_mat_default eng a ha, hl, arr_mat_default eng b hb]

/-- **C17, rebuild clause on arrays.**  For every component order `σ` and both shear conventions:
    `calculate_array_from_eigens(values, directions, to_engineering)` of the principal components of `a`
    is `a[:, order]` (the function has no `order` option, so it answers in the default component order). -/
theorem C17_principal_array [CharZero K] (σ : Equiv.Perm (Fin 6)) (eng : Bool) (a : List K)
    (w : V3 K) (V : M3 K) (h : IsEigh (toM3 (arr2mat (ordList σ) eng a)) w V) :
    let p := principalPost w V
    arrayFromEigens p.vals p.d0 p.d1 p.d2 eng = gather (ordList σ) a := by
  intro p
  have hb : (gather (ordList σ) a).length = 6 := by rw [gather_length, ordList_length]
  have hre : fromEigens p.vals p.d0 p.d1 p.d2 = toM3 (arr2mat (ordList σ) eng a) :=
    (fromEigens_principal h.orth w).trans h.rebuild
  unfold arrayFromEigens
  rw [hre, flat_toM3 _ (arr2mat_length _ _ _)]
  have : arr2mat (ordList σ) eng a = arr2mat defaultOrder eng (gather (ordList σ) a) := by
    unfold arr2mat; rw [gather_default _ hb]
  rw [this, arr_mat_default eng _ hb]

/-- **C17, `invert_strain`.**  If `(w, V)` is what `eigh` returned for the matrix of the strain `a`
    (either shear convention) and no `1 + λ_k` vanishes, the answer `r` is the array of the matrix `B` with
    `(1 + A)(1 + B) = 1`, i.e. `B = (1 + A)⁻¹ − 1` — whatever orthonormal eigen-system `eigh` chose, also
    for repeated eigenvalues — and inverting `r` again, with any eigen-system `(w', V')` that `eigh` may return
    for `B`, gives back `a` itself (`1 + λ'_k ≠ 0` is then automatic: `1 + B` is invertible). -/
theorem C17_invert_strain [CharZero K] (eng : Bool) (a : List K) (ha : a.length = 6) (w : V3 K) (V : M3 K)
    (h : IsEigh (toM3 (arr2mat defaultOrder eng a)) w V) (hne : 1 + w.x ≠ 0 ∧ 1 + w.y ≠ 0 ∧ 1 + w.z ≠ 0) :
    let r := invertStrainPost w V eng
    mmul (madd one3 (toM3 (arr2mat defaultOrder eng a))) (madd one3 (toM3 (arr2mat defaultOrder eng r))) = one3
    ∧ ∀ (w' : V3 K) (V' : M3 K), IsEigh (toM3 (arr2mat defaultOrder eng r)) w' V' →
        invertStrainPost w' V' eng = a := by
  intro r
  have h1 := invert_core eng a w V h hne
  refine ⟨h1, ?_⟩
  intro w' V' h'
  have hne' := eig_ne _ _ w' V' h' h1
  have h2 := invert_core eng r w' V' h' hne'
  set A := toM3 (arr2mat defaultOrder eng a)
  set B := toM3 (arr2mat defaultOrder eng r)
  set C := toM3 (arr2mat defaultOrder eng (invertStrainPost w' V' eng))
  -- 1 + C = (1 + A)(1 + B)(1 + C) = 1 + A
  have hCA : madd one3 C = madd one3 A := by
    calc madd one3 C = mmul one3 (madd one3 C) := (one_mmul _).symm
      _ = mmul (mmul (madd one3 A) (madd one3 B)) (madd one3 C) := by rw [h1]
      _ = mmul (madd one3 A) (mmul (madd one3 B) (madd one3 C)) := mmul_assoc _ _ _
      _ = madd one3 A := by rw [h2, mmul_one]
  exact arr2mat_default_inj eng (mat2arr_default_length eng _) ha (madd_left_cancel hCA)

/-- **C17, thermal-expansion tensors.**  `convert_lte_global2local` followed by `convert_lte_local2global`
    returns the original six values: the stored pair (ascending eigenvalues, first two eigenvectors) with the
    third axis re-created as `o0 × o1` rebuilds the tensor, and the factor-2 shear layout is undone. -/
theorem C17_lte_roundtrip [CharZero K] (f : List K) (hf : f.length = 6) (w : V3 K) (V : M3 K)
    (h : IsEigh (lteMatrix f) w V) :
    lteLocal2Global (lteGlobal2LocalPost w V).1 (lteGlobal2LocalPost w V).2 = f := by
  show lteLocal2Global w (v3list (col0 V) ++ v3list (col1 V) ++ [0, 0, 0]) = f
  rw [lteLocal2Global_pair, rebuild_cross (a := col0 V) (b := col1 V) (c := col2 V) h.orth w, ofCols_cols, h.rebuild]
  exact lteMatrix_layout f hf

/-- **C17, `align_nnz`.**  For canonical sparse inputs of a common shape `rows × cols` (distinct cells, all
    inside the shape; explicit zeros, any signs, empty and full matrices allowed), over an ordered field:
    every output carries exactly the pattern `unionKeys ms` = the union of the input patterns in row-major
    order, and on every cell of it the value the input shows there (its stored value, or 0 where it stores
    nothing).  The dummy scale `D = 2|min| + 1` makes every `s_ij + c_ij·D` strictly positive, so scipy's
    dropping of exact zeros never shifts the positional subtraction `(s + dummy).data − dummy.data`. -/
theorem C17_align_nnz [LinearOrder K] [IsStrictOrderedRing K] (rows cols : Nat) (ms : List (Sp K))
    (hwf : ∀ s ∈ ms, (s.map (·.1)).Nodup ∧ ∀ e ∈ s, e.1.1 < rows ∧ e.1.2 < cols) :
    alignNnz (rows * cols) ms = ms.map (fun s => (unionKeys ms).map fun k => (k, lookup s k))
    ∧ ∀ k, k ∈ unionKeys ms ↔ ∃ s ∈ ms, k ∈ s.map (·.1) := by
  refine ⟨align_nnz_of_full _ ms ?_, mem_unionKeys ms⟩
  intro s hs hlen k hk
  obtain ⟨s', hs', hk'⟩ := (mem_unionKeys ms k).mp hk
  obtain ⟨e, he, rfl⟩ := List.mem_map.mp hk'
  exact full_covers rows cols s (hwf s hs).1 (hwf s hs).2 hlen e.1 ((hwf s' hs').2 e he)

/-- the six orderings of the three axes -/
def orders3 : List (Nat × Nat × Nat) := [(0, 1, 2), (0, 2, 1), (1, 0, 2), (1, 2, 0), (2, 0, 1), (2, 1, 0)]

/-- **C17, shear-free tensors without `eigh`.**  For `diag(a)` and ANY ordering `(i, j, k)` of the three axes (all six,
    including the two 3-cycles; no assumption on the values, so repeated and zero values are covered) the frame whose
    COLUMN `m` is the axis of the `m`-th value rebuilds `diag(a)`, is orthonormal and right-handed.  This is the statement a
    shortcut for already-diagonal tensors has to satisfy; the harness generates all six orders in every run. -/
theorem C17_diag_shortcut (a : V3 K) (i j k : Nat) (h : (i, j, k) ∈ orders3) :
    let p := diagShortcut true a i j k
    fromEigens p.vals p.d0 p.d1 p.d2 = diag3 a
    ∧ mmul (transpose (ofCols p.d0 p.d1 p.d2)) (ofCols p.d0 p.d1 p.d2) = one3
    ∧ det3 (ofCols p.d0 p.d1 p.d2) = 1 := by
  have hd : ∀ t ∈ orders3, t.1 < 3 ∧ t.2.1 < 3 ∧ t.2.2 < 3 ∧ t.1 ≠ t.2.1 ∧ t.1 ≠ t.2.2 ∧ t.2.1 ≠ t.2.2 := by decide
  obtain ⟨hi, hj, hk, hij, hik, hjk⟩ := hd _ h
  exact diagShortcut_cols_spec a hi hj hk hij hik hjk

/-- The frame `np.eye(3)[σ]` (axis of the `m`-th value in ROW `m`) encodes the inverse permutation: it still rebuilds `diag(a)`
    for the identity and the three swaps, which are their own inverses. -/
theorem C17_diag_shortcut_rows_selfinverse (a : V3 K) (i j k : Nat)
    (h : (i, j, k) ∈ [(0, 1, 2), (0, 2, 1), (1, 0, 2), (2, 1, 0)]) :
    let p := diagShortcut false a i j k
    fromEigens p.vals p.d0 p.d1 p.d2 = diag3 a := by
  have hs : transpose ⟨axis3 i, axis3 j, axis3 k⟩ = (⟨axis3 i, axis3 j, axis3 k⟩ : M3 K) := by
    simp only [List.mem_cons, Prod.mk.injEq, List.mem_nil_iff, or_false] at h
    rcases h with ⟨rfl, rfl, rfl⟩ | ⟨rfl, rfl, rfl⟩ | ⟨rfl, rfl, rfl⟩ | ⟨rfl, rfl, rfl⟩ <;> rfl
  rw [diagShortcut_rows a i j k hs]
  have hsub : ∀ t ∈ [(0, 1, 2), (0, 2, 1), (1, 0, 2), (2, 1, 0)], t ∈ orders3 := by decide
  exact (C17_diag_shortcut a i j k (hsub _ h)).1

/-- The row frame `np.eye(3)[σ]` is wrong for the 3-cycles, although the values are sorted and the frame is orthonormal and
    right-handed:
    `diag(2, 1, 3)` (descending order z, x, y) is rebuilt as `diag(1, 3, 2)` (seeded change C17-8).  Only the clause
    "rebuilds the original tensor" sees it. -/
theorem C17_diag_shortcut_rows_counterexample :
    let p := diagShortcut false (⟨2, 1, 3⟩ : V3 ℚ) 2 0 1
    (p.vals.y ≤ p.vals.x ∧ p.vals.z ≤ p.vals.y)
    ∧ mmul (transpose (ofCols p.d0 p.d1 p.d2)) (ofCols p.d0 p.d1 p.d2) = one3
    ∧ det3 (ofCols p.d0 p.d1 p.d2) = 1
    ∧ fromEigens p.vals p.d0 p.d1 p.d2 = diag3 ⟨1, 3, 2⟩
    ∧ fromEigens p.vals p.d0 p.d1 p.d2 ≠ diag3 ⟨2, 1, 3⟩ := by
  decide +kernel

/-- **C17, aligning by flattened keys.**  In exact arithmetic the flattened position `row · n_col + col` orders the cells of an
    `n_row × n_col` matrix exactly as the row-major order of `unionKeys` does (and is injective), whatever the shape: an
    `align_nnz` that places entries by searching flattened keys agrees with the model as long as the keys are computed
    without wrap-around. -/
theorem C17_flat_key_order (cols : Nat) (a b : Nat × Nat) (ha : a.2 < cols) (hb : b.2 < cols) :
    (flatKey cols a < flatKey cols b ↔ keyLt a b) ∧ (flatKey cols a = flatKey cols b ↔ a = b) := by
  obtain ⟨i, j⟩ := a
  obtain ⟨i', j'⟩ := b
  simp only [flatKey, keyLt, Prod.mk.injEq] at *
  -- a later row starts after the end of an earlier one
  have step : ∀ p q : Nat, p < q → p * cols + cols ≤ q * cols := fun p q hpq =>
    Nat.succ_mul p cols ▸ Nat.mul_le_mul_right cols hpq
  rcases Nat.lt_trichotomy i i' with h | rfl | h
  · have := step i i' h
    omega
  · omega
  · have := step i' i h
    omega

/-- In the int32 index dtype scipy uses for a 70000 × 70000 matrix the keys wrap inside row 30678: the cell `(30678, 23648)`
    follows `(30678, 23647)` in row-major order but its key is the most negative int32, below the key of `(0, 0)`, so a binary
    search on the keys misplaces it (seeded change C17-7).  Below 2³¹ cells nothing wraps: the last cell of a 46340 × 46341
    matrix keeps its key, the last cell of 46341 × 46341 does not. -/
theorem C17_flat_key_wrap_counterexample :
    keyLt (30678, 23647) (30678, 23648)
    ∧ flatKeyWrap 32 70000 (30678, 23647) = 2147483647
    ∧ flatKeyWrap 32 70000 (30678, 23648) = -2147483648
    ∧ flatKeyWrap 32 70000 (30678, 23648) < flatKeyWrap 32 70000 (0, 0)
    ∧ flatKeyWrap 32 46341 (46340, 46340) < 0
    ∧ flatKeyWrap 32 46341 (46339, 46340) = 2147441939 := by
  decide +kernel

/-- a non-trivial permutation: the cycle (0 3 1)(2 5) -/
def σ0 : Equiv.Perm (Fin 6) := Equiv.swap 0 3 * Equiv.swap 3 1 * Equiv.swap 2 5
example : mat2arr (ordList σ0⁻¹) true (arr2mat (ordList σ0) true ([1, 2, 3, 4, 5, 6] : List ℚ)) = [1, 2, 3, 4, 5, 6] :=
  (C17_arr_mat_inverse σ0 true _ rfl).1
example : ordList σ0 ≠ defaultOrder := by decide
example : arr2mat (ordList σ0) true ([1, 2, 3, 4, 5, 6] : List ℚ) ≠ arr2mat defaultOrder false [1, 2, 3, 4, 5, 6] := by
  decide +kernel

/-- an eigen-system with a repeated eigenvalue and rational rotated axes:
    `A = V diag(1, 1, 4) Vᵀ`, `V` = rotation with columns (3/5, 4/5, 0), (−4/5, 3/5, 0), (0, 0, 1)… permuted so that
    the left-handed input is exercised: columns `(0,0,1), (3/5,4/5,0), (4/5,−3/5,0)` have determinant `−1`. -/
def V0 : M3 ℚ := ⟨⟨0, 3/5, 4/5⟩, ⟨0, 4/5, -3/5⟩, ⟨1, 0, 0⟩⟩
def w0 : V3 ℚ := ⟨1, 1, 4⟩
def A0 : M3 ℚ := mmul (mmul V0 (diag3 w0)) (transpose V0)
theorem eigh0 : IsEigh A0 w0 V0 := ⟨by decide +kernel, by decide +kernel⟩
example : det3 V0 = -1 := by decide +kernel
example : det3 (ofCols (principalPost w0 V0).d0 (principalPost w0 V0).d1 (principalPost w0 V0).d2) = 1 :=
  (C17_principal A0 w0 V0 eigh0 ⟨by decide, by decide⟩).2.2.1
example : fromEigens (principalPost w0 V0).vals (principalPost w0 V0).d0 (principalPost w0 V0).d1 (principalPost w0 V0).d2 = A0 :=
  (C17_principal A0 w0 V0 eigh0 ⟨by decide, by decide⟩).2.2.2.1

/-- the diagonal strain (1, 1/2, −1/2) with engineering shear; `eigh` lists its axes in ascending order of the values -/
example : IsEigh (toM3 (arr2mat defaultOrder true ([1, 1/2, -1/2, 0, 0, 0] : List ℚ))) ⟨-1/2, 1/2, 1⟩
    ⟨⟨0, 0, 1⟩, ⟨0, 1, 0⟩, ⟨1, 0, 0⟩⟩ := ⟨by decide +kernel, by decide +kernel⟩
example : invertStrainPost (⟨-1/2, 1/2, 1⟩ : V3 ℚ) ⟨⟨0, 0, 1⟩, ⟨0, 1, 0⟩, ⟨1, 0, 0⟩⟩ true = [-1/2, -1/3, 1, 0, 0, 0] := by
  decide +kernel

/-- thermal expansion with engineering shear: eigenvalues 1, 2, 4 on the axes (3/5, 4/5, 0), (−4/5, 3/5, 0), (0, 0, 1) -/
def f0 : List ℚ := [41/25, 34/25, 4, -24/25, 0, 0]
def Vl : M3 ℚ := ⟨⟨3/5, -4/5, 0⟩, ⟨4/5, 3/5, 0⟩, ⟨0, 0, 1⟩⟩
theorem eighl : IsEigh (lteMatrix f0) ⟨1, 2, 4⟩ Vl := ⟨by decide +kernel, by decide +kernel⟩
example : lteLocal2Global (lteGlobal2LocalPost (⟨1, 2, 4⟩ : V3 ℚ) Vl).1 (lteGlobal2LocalPost (⟨1, 2, 4⟩ : V3 ℚ) Vl).2 = f0 :=
  C17_lte_roundtrip f0 rfl _ _ eighl
example : (lteGlobal2LocalPost (⟨1, 2, 4⟩ : V3 ℚ) Vl).2 = [3/5, 4/5, 0, -4/5, 3/5, 0, 0, 0, 0] := by decide +kernel

/-- two 2×2 matrices, different patterns, a negative value and an explicit zero -/
def ms0 : List (Sp ℚ) := [[((0, 0), -3), ((1, 1), 0)], [((0, 1), 5)]]
example : ∀ s ∈ ms0, (s.map (·.1)).Nodup ∧ ∀ e ∈ s, e.1.1 < 2 ∧ e.1.2 < 2 := by decide
example : alignNnz 4 ms0 = [[((0, 0), -3), ((0, 1), 0), ((1, 1), 0)], [((0, 0), 0), ((0, 1), 5), ((1, 1), 0)]] := by
  decide +kernel

/-- the 3-cycle order of `diag(2, 1, 3)` (z, x, y): the column frame rebuilds it (the row frame does not, see above) -/
example : fromEigens (diagShortcut true (⟨2, 1, 3⟩ : V3 ℚ) 2 0 1).vals (diagShortcut true (⟨2, 1, 3⟩ : V3 ℚ) 2 0 1).d0
    (diagShortcut true (⟨2, 1, 3⟩ : V3 ℚ) 2 0 1).d1 (diagShortcut true (⟨2, 1, 3⟩ : V3 ℚ) 2 0 1).d2 = diag3 ⟨2, 1, 3⟩ :=
  (C17_diag_shortcut (⟨2, 1, 3⟩ : V3 ℚ) 2 0 1 (by decide)).1
example : (diagShortcut true (⟨2, 1, 3⟩ : V3 ℚ) 2 0 1).vals = ⟨3, 2, 1⟩ := by decide +kernel
example : fromEigens (diagShortcut false (⟨1, 3, 2⟩ : V3 ℚ) 1 0 2).vals (diagShortcut false (⟨1, 3, 2⟩ : V3 ℚ) 1 0 2).d0
    (diagShortcut false (⟨1, 3, 2⟩ : V3 ℚ) 1 0 2).d1 (diagShortcut false (⟨1, 3, 2⟩ : V3 ℚ) 1 0 2).d2 = diag3 ⟨1, 3, 2⟩ :=
  C17_diag_shortcut_rows_selfinverse (⟨1, 3, 2⟩ : V3 ℚ) 1 0 2 (by decide)

/-- the last cells of a 70000 × 70000 matrix: exact keys keep the row-major order although they exceed 2³² -/
example : flatKey 70000 (69998, 69999) < flatKey 70000 (69999, 0) :=
  (C17_flat_key_order 70000 (69998, 69999) (69999, 0) (by decide) (by decide)).1.mpr (Or.inl (by decide))
example : flatKey 70000 (69999, 0) > 2 ^ 32 := by decide

section AlignCast
open Femio.TensorRound

/-- **C17, `align_nnz` with a cast back to the dtype of the input, exact arithmetic.**  Over the rationals the value recovered
    for an integer entry `v` is `v` itself whatever the dummy scale `D` and the number `c` of matrices that store the cell, so
    truncating it toward zero (`ndarray.astype(int)`) changes nothing: the exact model `alignNnz` (and `C17_align_nnz`) cannot
    see such a cast.  What makes it wrong is the round-off of the three binary64 operations — see the counterexample below. -/
theorem C17_align_cast_exact (v : Int) (c : Nat) (D : ℚ) : truncCast (((v : ℚ) + (c : ℚ) * D) - (c : ℚ) * D) = v := by
  have h : ((v : ℚ) + (c : ℚ) * D) - (c : ℚ) * D = (v : ℚ) := by ring
  rw [h]
  unfold truncCast
  split
  · exact Rat.floor_intCast v
  · exact Rat.ceil_intCast v

/-- **C17, `align_nnz` with a cast back to the dtype of the input, binary64: counterexample (seeded change C17-9).**  A 0/1 integer adjacency matrix
    aligned together with float weights whose minimum is `fl(−1.3)`: `D = fl(2·1.3 + 1) = fl(3.6)` is not a dyadic number of few
    bits, `1 + D` lies in the binade above `D`, and the entry `1` comes back as `1 − 2⁻⁵¹ = 0.9999999999999996` — inside the
    tolerance of the property (`≤ 10⁻¹²·D`), but truncated to `0` by the cast: every edge of the graph is lost.  In the same way
    the count `14` next to a minimum of `fl(−0.7)` (`D = fl(2.4)`) comes back as `14 − 2⁻⁴⁹` and is truncated to `13`. -/
theorem C17_align_cast_roundoff_counterexample :
    (let D := dummyScaleFl (fl (-13 / 10))
     alignEntryFl D 1 1 = 1 - 1 / 2 ^ 51 ∧ 1 - alignEntryFl D 1 1 ≤ D / 10 ^ 12 ∧ truncCast (alignEntryFl D 1 1) = 0) ∧
    (let D := dummyScaleFl (fl (-7 / 10))
     alignEntryFl D 1 14 = 14 - 1 / 2 ^ 49 ∧ 14 - alignEntryFl D 1 14 ≤ D / 10 ^ 12 ∧ truncCast (alignEntryFl D 1 14) = 13) := by
  decide +kernel

/-- the same entries next to a dyadic minimum (`−1.5`, `D = 4`) are recovered exactly: the situation of femio's own test
    (integer matrices only, `D = 1`) and of every list whose minimum is an integer or a short dyadic fraction -/
example : alignEntryFl (dummyScaleFl (fl (-3 / 2))) 2 1 = 1 ∧ alignEntryFl (dummyScaleFl 0) 3 14 = 14 := by decide +kernel
example : truncCast (((1 : Int) : ℚ) + ((2 : Nat) : ℚ) * (18 / 5) - ((2 : Nat) : ℚ) * (18 / 5)) = 1 := C17_align_cast_exact 1 2 (18 / 5)

end AlignCast

end Femio.C17
