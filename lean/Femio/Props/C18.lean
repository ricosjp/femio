import Femio.Model.Retype
import Femio.Lemmas.FluxD
import Femio.Lemmas.GeomProps2
import Femio.Lemmas.PosCorrect
import Femio.Lemmas.CoreProps
import Femio.Lemmas.RetypeProps
import Mathlib.Tactic.Ring
import Mathlib.Algebra.Order.Field.Basic

/-! # C18 — re-typing elements (polyhedron, prism, reorientation) keeps shape

The polyhedron face patterns and the four degeneracy patterns are regenerated from /repo on every run
(`Femio/Gen/Tables.lean`; the polyhedron kernels are tabulated under a non-identity `argsort`, so a kernel that forgets
`argsort[...]` shows up in its table). The theorems are about `Cfg.fixed` (DESIGN §5 F10 repaired);
`C18_pyr_counterexample` is the `decide`d failure of `Cfg.upstream`. -/
namespace Femio.C18
open Core Faces V3 Geom Femio.Gen Femio.C10

/-- `argsort[searchsorted(sort ids, id)]` is the storage position of `id`: for duplicate-free
    node ids, the position computed for the id stored at position `k` is `k`; and whatever position is returned for
    an existing id holds that id. -/
theorem C18_pos_correct (ids : List Nat) (hn : ids.Nodup) :
    (∀ k (hk : k < ids.length), posOf ids ids[k] = some k) ∧
    (∀ x p, x ∈ ids → posOf ids x = some p → ids[p]? = some x) :=
  ⟨fun k hk => posOf_correct ids hn k hk, fun x p hx h => getElem?_of_posOf ids hn x p h hx⟩

/-- non-vacuity (storage order ≠ ascending ids) -/
example : [30, 10, 20].Nodup ∧ posOf [30, 10, 20] 20 = some 2 ∧ rankOf [30, 10, 20] 20 = 1 := by decide +kernel

/-! `C18_pyr_table : polyFaces_pyr = pyrPolyFaces` (F10) is in `Femio/Props/C18Pyr.lean`, so that a `pyr_to_polyhedron`
    that omits `argsort[...]` fails that module and not this one. -/

def polyClosedTable (fs : List (List Nat)) : Bool :=
  let es := edgesOf fs
  es.all fun e => es.count e == 1 && es.count (e.2, e.1) == 1

/-- Each of the four face patterns is a closed oriented surface: every directed edge once,
    its reverse once. -/
theorem C18_poly_closed :
    ∀ ty ∈ [8, 10, 12, 14], ∃ tab, polyTable ty = some tab ∧ polyClosedTable tab = true ∧ tab ≠ [] := by decide +kernel

/-- (i) every pattern uses exactly the local vertex numbers `0 … arity−1`; (ii) for
    duplicate-free node ids and an element whose nodes exist, every storage position that `to_polyhedron`
    (repaired configuration) writes into the face data holds one of the element's own nodes. -/
theorem C18_poly_own_nodes :
    (∀ ty ∈ [8, 10, 12, 14], ∃ tab, polyTable ty = some tab ∧
      (List.range (arity ty)).all (fun k => tab.flatten.contains k) = true ∧ tab.flatten.all (· < arity ty) = true) ∧
    ∀ (nodeIds : List Nat) (e : Elem) (fs : List (List Nat)), nodeIds.Nodup → (∀ id ∈ e.conn, id ∈ nodeIds) →
      polyFaces Cfg.fixed nodeIds e = some fs → ∀ f ∈ fs, ∀ p ∈ f, ∃ id ∈ e.conn, nodeIds[p]? = some id := by
  refine ⟨by decide +kernel, ?_⟩
  intro nodeIds e fs hn hsub h f hf p hp
  unfold polyFaces at h
  simp only [Option.bind_eq_bind, Option.bind_eq_some_iff] at h
  obtain ⟨tab, _, hm⟩ := h
  obtain ⟨g, _, hg⟩ := mem_of_mapM _ _ _ hm f hf
  obtain ⟨k, _, hk⟩ := mem_of_mapM _ _ _ hg p hp
  simp only [Cfg.fixed, Bool.not_true, Bool.false_eq_true, and_false, if_false, Option.bind_eq_some_iff] at hk
  obtain ⟨id, hid, hpos⟩ := hk
  have hmem : id ∈ e.conn := List.mem_of_getElem? hid
  exact ⟨id, hmem, getElem?_of_posOf nodeIds hn id p hpos (hsub id hmem)⟩

/-- non-vacuity: one prism stored in shuffled order -/
example : polyFaces Cfg.fixed [30, 10, 60, 20, 50, 40] ⟨1, 12, [10, 20, 30, 40, 50, 60]⟩
    = some [[1, 3, 0], [2, 4, 5], [3, 1, 5, 4], [0, 3, 4, 2], [1, 0, 2, 5]] := by decide +kernel

/-- For every tet / pyr / prism / hex with any coordinates in any commutative ring the
    fluxes of `x/3` through the faces of the polyhedron pattern add up to the signed "centroid" volume kernel of the
    original element (×24): the face list is outward for a positive element and encloses the element's volume. -/
theorem C18_poly_outward_volume {R : Type} [CommRing R] (pt : Nat → V3 R) (e : Elem)
    (h : ((e.ty == 8 || e.ty == 10 || e.ty == 12 || e.ty == 14) && e.conn.length == arity e.ty) = true) :
    ∃ tab, polyTable e.ty = some tab ∧
      sumR 0 ((tab.filterMap (pick e.conn)).map (faceFlux24 4 0 pt)) = elemVol24 4 0 pt e := by
  obtain ⟨id, ty, conn⟩ := e
  simp only [Bool.and_eq_true, Bool.or_eq_true, beq_iff_eq] at h
  obtain ⟨hty, hlen⟩ := h
  rcases hty with ((h8 | h10) | h12) | h14
  -- each pattern lists the faces over which the kernel is summed by definition, some from another starting vertex
  · subst h8
    obtain ⟨a, b, c, d, rfl⟩ := len4 conn hlen
    refine ⟨_, rfl, ?_⟩
    show sumR 0 ([[a, c, b], [d, a, b], [d, c, a], [d, b, c]].map (faceFlux24 4 0 pt))
      = 4 * tet6 (pt a) (pt b) (pt c) (pt d)
    simp only [List.map, sumR, List.foldr, faceFlux24, tet6, det_sub_eq]
    linear_combination 4 * (det_rot (pt a) (pt d) (pt c) - det_rot (pt d) (pt a) (pt b) - det_rot (pt d) (pt b) (pt c))
  · subst h10
    obtain ⟨a, b, c, d, e, rfl⟩ := len5 conn hlen
    refine ⟨_, rfl, ?_⟩
    show sumR 0 ([[d, c, b, a], [a, b, e], [b, c, e], [c, d, e], [d, a, e]].map (faceFlux24 4 0 pt))
      = pyrC24 4 (pt a) (pt b) (pt c) (pt d) (pt e)
    simp only [List.map, sumR, List.foldr, faceFlux24, pyrC24]
    linear_combination - quadC4_rot2 (pt d) (pt c) (pt b) (pt a)
  · subst h12
    obtain ⟨a, b, c, d, e, f, rfl⟩ := len6 conn hlen
    refine ⟨_, rfl, ?_⟩
    show sumR 0 ([[a, b, c], [f, e, d], [b, a, d, e], [c, b, e, f], [a, c, f, d]].map (faceFlux24 4 0 pt))
      = prismC24 4 (pt a) (pt b) (pt c) (pt d) (pt e) (pt f)
    simp only [List.map, sumR, List.foldr, faceFlux24, prismC24]
    linear_combination - quadC4_rot (pt b) (pt a) (pt d) (pt e) - quadC4_rot (pt c) (pt b) (pt e) (pt f)
      - quadC4_rot (pt a) (pt c) (pt f) (pt d)
  · subst h14
    obtain ⟨a, b, c, d, e, f, g, i, rfl⟩ := len8 conn hlen
    refine ⟨_, rfl, ?_⟩
    show sumR 0 ([[e, f, g, i], [f, e, a, b], [g, f, b, c], [i, g, c, d], [e, i, d, a], [d, c, b, a]].map
        (faceFlux24 4 0 pt)) = hexC24 (pt a) (pt b) (pt c) (pt d) (pt e) (pt f) (pt g) (pt i)
    simp only [List.map, sumR, List.foldr, faceFlux24, hexC24]
    linear_combination - quadC4_rot2 (pt e) (pt f) (pt g) (pt i) - quadC4_rot (pt g) (pt f) (pt b) (pt c)
      - quadC4_rot2 (pt i) (pt g) (pt c) (pt d)

/-- What femio's two polyhedron volume kernels compute per face, in terms of the flux used
    above: "centroid" (`Σ_i det(ΣF, F[i−1], F[i])`, to be divided by `#F`) is `3·det` for a triangle and the centroid
    fan `quadC4` for a quadrilateral; "linear" (fan from the first vertex) is `det` for a triangle. -/
theorem C18_poly_kernels {R : Type} [CommRing R] (pt : Nat → V3 R) (a b c d : Nat) :
    4 * fanCentroid 0 pt [a, b, c] = 3 * faceFlux24 4 0 pt [a, b, c] ∧
    fanCentroid 0 pt [a, b, c, d] = faceFlux24 4 0 pt [a, b, c, d] ∧
    4 * fanLin6 0 pt [a, b, c] = faceFlux24 4 0 pt [a, b, c] := by
  refine ⟨?_, ?_, ?_⟩
  · simp only [fanCentroid, faceFlux24, sumR, List.getLast?_cons_cons, List.getLast?_singleton, List.foldr_cons,
      List.foldr_nil, List.zip_cons_cons, List.zip_nil_right, List.map_cons, List.map_nil, V3.det, V3.add]
    ring
  · simp only [fanCentroid, faceFlux24, sumR, List.getLast?_cons_cons, List.getLast?_singleton, List.foldr_cons,
      List.foldr_nil, List.zip_cons_cons, List.zip_nil_right, List.map_cons, List.map_nil]
    -- `ΣF` is the vertex sum that `quadC4` uses; the fan runs over the same four edges, starting one earlier
    have hs : add (pt a) (add (pt b) (add (pt c) (add (pt d) ⟨0, 0, 0⟩))) = add (add (pt a) (pt b)) (add (pt c) (pt d)) := by
      simp only [V3.add]; congr 1 <;> ring
    rw [hs, quadC4]; ring
  · simp only [fanLin6, faceFlux24, add_zero]

/-- For each of the four edge-collapse patterns (the regenerated node orders `degen_ab`): the
    prism that replaces the degenerate hexahedron has the same id, exactly the same nodes, and the same signed
    volume (centroid kernels), for any coordinates in any commutative ring. -/
theorem C18_degeneracy {R : Type} [CommRing R] (pt : Nat → V3 R) (id c0 c1 c2 c3 c4 c5 c6 c7 : Nat) :
    -- 0 = 1, 4 = 5
    (∃ p, applyPattern degen_01 ⟨id, 14, [c0, c0, c2, c3, c4, c4, c6, c7]⟩ = some p ∧ p.id = id ∧ p.ty = 12 ∧
      (∀ x, x ∈ p.conn ↔ x ∈ [c0, c0, c2, c3, c4, c4, c6, c7]) ∧ p.conn.length = 6 ∧
      elemVol24 4 0 pt p = elemVol24 4 0 pt ⟨id, 14, [c0, c0, c2, c3, c4, c4, c6, c7]⟩) ∧
    -- 1 = 2, 5 = 6
    (∃ p, applyPattern degen_12 ⟨id, 14, [c0, c1, c1, c3, c4, c5, c5, c7]⟩ = some p ∧ p.id = id ∧ p.ty = 12 ∧
      (∀ x, x ∈ p.conn ↔ x ∈ [c0, c1, c1, c3, c4, c5, c5, c7]) ∧ p.conn.length = 6 ∧
      elemVol24 4 0 pt p = elemVol24 4 0 pt ⟨id, 14, [c0, c1, c1, c3, c4, c5, c5, c7]⟩) ∧
    -- 2 = 3, 6 = 7
    (∃ p, applyPattern degen_23 ⟨id, 14, [c0, c1, c2, c2, c4, c5, c6, c6]⟩ = some p ∧ p.id = id ∧ p.ty = 12 ∧
      (∀ x, x ∈ p.conn ↔ x ∈ [c0, c1, c2, c2, c4, c5, c6, c6]) ∧ p.conn.length = 6 ∧
      elemVol24 4 0 pt p = elemVol24 4 0 pt ⟨id, 14, [c0, c1, c2, c2, c4, c5, c6, c6]⟩) ∧
    -- 3 = 0, 7 = 4
    (∃ p, applyPattern degen_30 ⟨id, 14, [c0, c1, c2, c0, c4, c5, c6, c4]⟩ = some p ∧ p.id = id ∧ p.ty = 12 ∧
      (∀ x, x ∈ p.conn ↔ x ∈ [c0, c1, c2, c0, c4, c5, c6, c4]) ∧ p.conn.length = 6 ∧
      elemVol24 4 0 pt p = elemVol24 4 0 pt ⟨id, 14, [c0, c1, c2, c0, c4, c5, c6, c4]⟩) := by
  refine ⟨⟨⟨id, 12, [c0, c3, c2, c4, c7, c6]⟩, rfl, rfl, rfl, ?_, rfl, (degenerate01 ..).symm⟩,
    ⟨⟨id, 12, [c0, c3, c1, c4, c7, c5]⟩, rfl, rfl, rfl, ?_, rfl, (degenerate12 ..).symm⟩,
    ⟨⟨id, 12, [c0, c2, c1, c4, c6, c5]⟩, rfl, rfl, rfl, ?_, rfl, (degenerate23 ..).symm⟩,
    ⟨⟨id, 12, [c0, c2, c1, c4, c6, c5]⟩, rfl, rfl, rfl, ?_, rfl, (degenerate30 ..).symm⟩⟩
  -- membership in either list is the same disjunction up to order and repetition
  all_goals
    intro x
    simp only [List.mem_cons, List.mem_nil_iff, false_or, or_self, or_self_left, or_comm, or_left_comm]

/-- **C18_degeneracy (other elements untouched).** `resolve_degeneracy` keeps every non-degenerate hexahedron
    unchanged in the hex block, keeps every existing prism, and the new prism block is a permutation of the old
    prisms plus one prism per degenerate hexahedron and pattern (other blocks are not looked at). -/
theorem C18_degeneracy_untouched (hexes prisms h' p' : List Elem) (h : resolveDegeneracy hexes prisms = some (h', p')) :
    h' = hexes.filter (fun e => !degenerate e.conn) ∧ (∀ e ∈ prisms, e ∈ p') ∧
    ∃ d01 d12 d23 d30,
      (hexes.filter fun e => eqAt e.conn 0 1).mapM (applyPattern degen_01) = some d01 ∧
      (hexes.filter fun e => eqAt e.conn 1 2).mapM (applyPattern degen_12) = some d12 ∧
      (hexes.filter fun e => eqAt e.conn 2 3).mapM (applyPattern degen_23) = some d23 ∧
      (hexes.filter fun e => eqAt e.conn 3 0).mapM (applyPattern degen_30) = some d30 ∧
      p'.Perm (prisms ++ d01 ++ d12 ++ d23 ++ d30) := by
  unfold resolveDegeneracy at h
  split at h
  · cases h
  · simp only [Option.bind_eq_bind, Option.bind_eq_some_iff, Option.pure_def, Option.some.injEq, Prod.mk.injEq] at h
    obtain ⟨d01, h01, d12, h12, d23, h23, d30, h30, rfl, rfl⟩ := h
    refine ⟨rfl, ?_, d01, d12, d23, d30, h01, h12, h23, h30, sortElems_perm _⟩
    intro e he
    exact (sortElems_perm _).mem_iff.mpr (by simp [he])

/-- non-vacuity: a mesh with one degenerate hex (pattern 12), one regular hex and one existing prism -/
example : resolveDegeneracy [⟨5, 14, [1, 2, 2, 4, 5, 6, 6, 8]⟩, ⟨2, 14, [11, 12, 13, 14, 15, 16, 17, 18]⟩]
      [⟨9, 12, [21, 22, 23, 24, 25, 26]⟩]
    = some ([⟨2, 14, [11, 12, 13, 14, 15, 16, 17, 18]⟩], [⟨5, 12, [1, 4, 2, 5, 8, 6]⟩, ⟨9, 12, [21, 22, 23, 24, 25, 26]⟩]) := by
  decide +kernel

/-- For a tetrahedron with any coordinates in an ordered field: after `make_elements_positive`
    the element has the same id and type, the same nodes (a permutation), the same absolute volume, and a freshly
    evaluated volume that is non-negative; an element that was not negative is untouched. -/
theorem C18_positive {R : Type} [Field R] [LinearOrder R] [IsStrictOrderedRing R]
    (pt : Nat → V3 R) (id ty a b c d : Nat) :
    let e : Elem := ⟨id, ty, [a, b, c, d]⟩
    let e' := makePositive 0 pt e
    e'.id = id ∧ e'.ty = ty ∧ e'.conn.Perm e.conn ∧ tetVol6 0 pt e'.conn = |tetVol6 0 pt e.conn| ∧
      0 ≤ tetVol6 0 pt e'.conn ∧ (0 ≤ tetVol6 0 pt e.conn → e' = e) := by
  intro e e'
  have h := makePositive_spec pt e
  exact ⟨h.1, h.2.1, h.2.2.1, h.2.2.2.1, h.2.2.2.2, fun h0 => if_neg (not_lt.mpr h0)⟩

/-- the permutation `_permute` applies is the transposition (1 2) and it negates the signed volume -/
theorem C18_permute_table : tetPermute = [0, 2, 1, 3] := by decide +kernel

/-- non-vacuity: an inverted unit tet is re-oriented -/
def unitTetPt : Nat → V3 Rat
  | 0 => ⟨0, 0, 0⟩ | 1 => ⟨1, 0, 0⟩ | 2 => ⟨0, 1, 0⟩ | _ => ⟨0, 0, 1⟩
example : tetVol6 (0 : Rat) unitTetPt [0, 2, 1, 3] = -1 ∧
    (makePositive (0 : Rat) unitTetPt ⟨1, 8, [0, 2, 1, 3]⟩).conn = [0, 1, 2, 3] := by
  decide +kernel

/-! ## make_elements_positive after a history of public calls on the same object

    Model: `HOp`, `HState`, `runH` in `Model/Retype.lean` (volume / metric queries answer from and fill the stored
    `elemental_data` entries exactly as the code does). `Cfg.freshMetric` is the repair e608c63: before it
    `make_elements_positive()` decided from the stored `metric` entry, which an earlier absolute-value query had filled
    with `|metric|` or an earlier `make_elements_positive()` had left stale. -/

section Hist
set_option linter.unusedSectionVars false
variable {R : Type} [Field R] [LinearOrder R] [IsStrictOrderedRing R]

/-- (repaired configuration) Whatever public volume / metric queries — signed or
    absolute, raising or not, in any order and number — and whatever earlier `make_elements_positive()` calls were made
    on the same object, `make_elements_positive()` leaves exactly the connectivity it produces on a freshly built
    object: every element keeps its id and type, its nodes (a permutation) and its absolute volume, and its freshly
    evaluated volume is non-negative (`C18_positive` element by element). -/
theorem C18_positive_any_history (pt : Nat → V3 R) (es : List Elem) (h : List HOp) :
    (runH Cfg.fixed 0 pt (fresh0 es) (h ++ [HOp.positive])).elems = es.map (makePositive 0 pt) ∧
    ∀ e ∈ es, (makePositive 0 pt e).id = e.id ∧ (makePositive 0 pt e).ty = e.ty ∧
      (makePositive 0 pt e).conn.Perm e.conn ∧ tetVol6 0 pt (makePositive 0 pt e).conn = |tetVol6 0 pt e.conn| ∧
      0 ≤ tetVol6 0 pt (makePositive 0 pt e).conn := by
  refine ⟨?_, fun e _ => makePositive_spec pt e⟩
  rw [runH_append]
  show (stepPositive Cfg.fixed 0 pt _).elems = _
  rw [stepPositive_fixed_elems, runH_fixed_elems]
  rfl

/-- (unrepaired configuration `Cfg.upstream`) The same
    conclusion holds only for histories without an earlier `make_elements_positive()` and without a metric query with
    `return_abs_metric=True`; `C18_stored_metric_counterexample` shows that both restrictions are needed. -/
theorem C18_positive_history_partial (pt : Nat → V3 R) (es : List Elem) (h : List HOp)
    (hq : h.all signedQuery = true) :
    (runH Cfg.upstream 0 pt (fresh0 es) (h ++ [HOp.positive])).elems = es.map (makePositive 0 pt) := by
  rw [runH_append]
  obtain ⟨he, hm⟩ := runH_upstream_inv pt es h hq (fresh0 es) rfl (Or.inl rfl)
  generalize runH Cfg.upstream 0 pt (fresh0 es) h = s at he hm
  show (stepPositive Cfg.upstream 0 pt s).elems = _
  simp only [stepPositive, Cfg.upstream, Bool.false_eq_true, if_false]
  rcases hm with hm | hm
  · simp only [stepMetrics, hm, validate, Bool.false_and, Bool.false_eq_true, if_false, he]
    exact permuteIfNeg_elems pt es _ _ rfl rfl
  · simp only [stepMetrics, hm, validate, Bool.false_and, Bool.false_eq_true, if_false]
    exact permuteIfNeg_elems pt es _ _ (by show permuteNeg 0 _ s.elems = _; rw [he]) he

end Hist

/-- integer coordinates of the unit tetrahedron (for `decide`) -/
def unitTetPtI : Nat → V3 Int
  | 0 => ⟨0, 0, 0⟩ | 1 => ⟨1, 0, 0⟩ | 2 => ⟨0, 1, 0⟩ | _ => ⟨0, 0, 1⟩

/-- Two tetrahedra, the first inverted (signed metric −1). Unrepaired
    configuration: (A) after `calculate_element_metrics(raise_negative_metric=False, return_abs_metric=True)`,
    `make_elements_positive()` leaves the inverted element as it is; (B) a second `make_elements_positive()` undoes the
    first. The repaired configuration re-orients the element in both histories. -/
theorem C18_stored_metric_counterexample :
    let es : List Elem := [⟨7, 8, [0, 2, 1, 3]⟩, ⟨9, 8, [0, 1, 2, 3]⟩]
    tetVol6 (0 : Int) unitTetPtI [0, 2, 1, 3] = -1 ∧
    (runH Cfg.upstream (0 : Int) unitTetPtI (fresh0 es) [.metrics false true, .positive]).elems.map (·.conn)
      = [[0, 2, 1, 3], [0, 1, 2, 3]] ∧
    (runH Cfg.upstream (0 : Int) unitTetPtI (fresh0 es) [.positive, .positive]).elems.map (·.conn)
      = [[0, 2, 1, 3], [0, 1, 2, 3]] ∧
    (runH Cfg.fixed (0 : Int) unitTetPtI (fresh0 es) [.metrics false true, .positive]).elems.map (·.conn)
      = [[0, 1, 2, 3], [0, 1, 2, 3]] ∧
    (runH Cfg.fixed (0 : Int) unitTetPtI (fresh0 es) [.positive, .positive]).elems.map (·.conn)
      = [[0, 1, 2, 3], [0, 1, 2, 3]] := by decide +kernel

/-- non-vacuity of `C18_positive_any_history` / `C18_positive_history_partial`: the seeded-change history "signed
    metric query, absolute metric query, make positive" on the same two tetrahedra -/
example : (runH Cfg.fixed (0 : Int) unitTetPtI (fresh0 [⟨7, 8, [0, 2, 1, 3]⟩, ⟨9, 8, [0, 1, 2, 3]⟩])
      [.metrics false false, .metrics false true, .positive]).elems.map (·.conn) = [[0, 1, 2, 3], [0, 1, 2, 3]] ∧
    (runH Cfg.upstream (0 : Int) unitTetPtI (fresh0 [⟨7, 8, [0, 2, 1, 3]⟩, ⟨9, 8, [0, 1, 2, 3]⟩])
      [.metrics false false, .metrics false true, .positive]).elems.map (·.conn) = [[0, 1, 2, 3], [0, 1, 2, 3]] := by
  decide +kernel

/-- **C18_pyr_counterexample (F10).** With `argsort` omitted for pyramids (`Cfg.upstream`) and node ids stored in
    descending order, the face data of a pyramid refers to storage position 0, which holds node 60 — not a node of
    the element; the repaired configuration does not. -/
theorem C18_pyr_counterexample :
    let ids := [60, 50, 40, 30, 20, 10]
    let e : Elem := ⟨1, 10, [10, 20, 30, 40, 50]⟩
    (∃ fs, polyFaces Cfg.upstream ids e = some fs ∧ 0 ∈ fs.flatten) ∧ ids[0]? = some 60 ∧ 60 ∉ e.conn ∧
    (∃ fs, polyFaces Cfg.fixed ids e = some fs ∧ 0 ∉ fs.flatten) := by decide +kernel

end Femio.C18
