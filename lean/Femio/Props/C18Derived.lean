import Femio.Model.Retype
import Femio.Lemmas.RetypeProps

/-!
# C18 on DERIVED objects: the id → row table (`FEMData.dict_element_id2index`)

Seeded change C18-10, finding `C18-resolve-degeneracy-stale-id2index`.  femio binds per-block results
(`calculate_element_volumes` on mixed meshes; `to_polyhedron` in the seeded variant) to the rows of the merged element
list through a table `id ↦ row` that `FEMData.__init__` builds from `elements.ids`.  `resolve_degeneracy` constructs its
result first and replaces the hex / prism blocks afterwards (the merged list is then re-sorted by id), so the result carries
the table of the source's storage order. -/

namespace Femio.C18
open Core

/-- the value stored in row `p` by `out[tbl[blockIds]] = val(blockIds)` -/
def reported {α : Type} (tbl : Nat → Option Nat) (blockIds : List Nat) (val : Nat → α) (p : Nat) : Option α :=
  (blockIds.find? fun x => tbl x == some p).map val

/-- With the table built for the CURRENT merged id list `cur` (duplicate-free), the row of every
    element `x` of a block receives `x`'s own value - whatever the storage order of `cur` and of the block is.  (This is
    the hypothesis `tbl = rowOf cur` that `resolve_degeneracy`'s result violates.) -/
theorem C18_table_current {α : Type} (cur : List Nat) (hn : cur.Nodup) (blockIds : List Nat) (val : Nat → α)
    (x : Nat) (hx : x ∈ blockIds) (p : Nat) (hp : cur[p]? = some x) :
    reported (rowOf cur) blockIds val p = some (val x) := by
  have hlt : p < cur.length := by
    rcases Nat.lt_or_ge p cur.length with h | h
    · exact h
    · simp [List.getElem?_eq_none h] at hp
  have hxe : cur[p] = x := by simpa [List.getElem?_eq_getElem hlt] using hp
  have hrow : rowOf cur x = some p := by rw [← hxe]; exact rowOf_getElem cur hn p hlt
  unfold reported
  cases hf : blockIds.find? (fun y => rowOf cur y == some p) with
  | none =>
    have := List.find?_eq_none.mp hf x hx
    simp [hrow] at this
  | some y =>
    have hy := List.find?_some hf
    have hy' : rowOf cur y = some p := by simpa using hy
    have := rowOf_some cur y p hy'
    rw [hp] at this
    cases this
    rfl

/-- non-vacuity: merged list stored out of ascending order, two blocks -/
example : [30, 10, 20].Nodup ∧ reported (rowOf [30, 10, 20]) [20, 30] id 2 = some 20
    ∧ reported (rowOf [30, 10, 20]) [10] id 1 = some 10 := by decide +kernel

/-- Hexahedra stored with ids `[30, 10, 20]`, element 10 collapsed (pattern 23):
    `resolve_degeneracy` gives the hex block `[30, 20]` and the prism block `[10]`; the merged list of the result is
    sorted by id, `[10, 20, 30]`.  Through the table of the SOURCE (`rowOf [30, 10, 20]`) the row of element 10 receives
    the value of element 30 and the row of element 20 the value of element 10's prism; through the rebuilt table every
    row receives its own element's value. -/
theorem C18_stale_table_counterexample :
    (resolveDegeneracy [⟨30, 14, [1, 2, 3, 4, 5, 6, 7, 8]⟩, ⟨10, 14, [5, 6, 7, 7, 9, 10, 11, 11]⟩,
        ⟨20, 14, [9, 10, 11, 12, 13, 14, 15, 16]⟩] []).map (fun r => (r.1.map (·.id), r.2.map (·.id)))
      = some ([30, 20], [10]) ∧
    [10, 20, 30][0]? = some 10 ∧ reported (rowOf [30, 10, 20]) [30, 20] id 0 = some 30 ∧
    [10, 20, 30][1]? = some 20 ∧ reported (rowOf [30, 10, 20]) [10] id 1 = some 10 ∧
    reported (rowOf [10, 20, 30]) [30, 20] id 0 = none ∧ reported (rowOf [10, 20, 30]) [10] id 0 = some 10 ∧
    reported (rowOf [10, 20, 30]) [30, 20] id 1 = some 20 ∧ reported (rowOf [10, 20, 30]) [30, 20] id 2 = some 30 := by
  decide +kernel

end Femio.C18
