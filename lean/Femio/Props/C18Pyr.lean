import Femio.Model.Retype

/-! # C18 — table obligation for the pyramid kernel (DESIGN §5 F10)

The `decide` is over the table that `harness/gen_tables.py` regenerates by running `pyr_to_polyhedron` under a
non-identity `argsort`; it does not type-check while the kernel emits sorted ranks instead of storage positions
(entries ≥ 1000 in the regenerated table). -/
namespace Femio.C18
open Femio.Gen

/-- **table obligation (F10).** The pyramid kernel, tabulated under a non-identity `argsort`, emits the storage
    positions of the element's own vertices in the pattern `pyrPolyFaces` — i.e. it applies `argsort[…]` like the
    other three kernels, whose regenerated tables the model uses directly. -/
theorem C18_pyr_table : polyFaces_pyr = pyrPolyFaces := by decide +kernel

/-- non-vacuity: the pattern is a genuine 5-face list over the local vertices 0..4 -/
example : pyrPolyFaces.length = 5 ∧ pyrPolyFaces.flatten.all (· < 5) = true := by decide +kernel

end Femio.C18
