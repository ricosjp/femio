import Femio.Model.QueryCache
import Femio.Model.StoredMetric
import Femio.Gen.Tables
import Femio.Lemmas.ListLemmas
import Femio.Lemmas.QueryCacheProps

/-! C19 — analysis queries are pure and independent of call history, over the cache model `Model/QueryCache.lean`.

The working tree does NOT invalidate its caches on in-place modification (`Cfg.invalidate = false`, DESIGN §5 F11, an open
known finding): `C19_history_independent` is proved for the repaired configuration, `C19_history_independent_partial`
(histories without in-place modifiers) for the tree as it is; the `…_counterexample`s show the restriction is necessary. -/
namespace Femio.C19

/-- a hit returns the stamp stored under exactly the requested key `(object, method, argument tuple)` — an entry is
never returned to another object or argument tuple. -/
theorem C19_objects_dont_share (k : Key) (l : List (Key × Nat)) (s : Nat) (h : lookup k l = some s) : (k, s) ∈ l :=
  mem_of_lookup_eq_some (eq_lookup lookup (fun _ => rfl) (fun _ _ _ _ => rfl) k l ▸ h)

/-- `Q` has to be closed under `min` because a miss returns the minimum of the current version and the stamps of the
nested calls on the same object.  The version list is the fixed `v`, not `w.version`, so that `Q` may speak of it
(`s = assoc 0 o v`, `s ≤ assoc 0 o v`) and stays the same `Q` while the induction passes from world to world. -/
theorem access_inv (rules : Rules) (v : List (Nat × Nat)) (Q : Nat → Nat → Prop)
    (hcur : ∀ o, Q o (assoc 0 o v)) (hmin : ∀ o a b, Q o a → Q o b → Q o (min a b)) :
    ∀ (fuel : Nat) (w : World) (k : Key), w.version = v → CacheInv Q w → Kept Q w k.obj (access rules fuel w k) := by
  intro fuel
  induction fuel with
  | zero => intro w k hv hw; subst hv; exact ⟨rfl, rfl, hw, hcur k.obj⟩
  | succ fuel ih =>
    intro w k hv hw
    subst hv
    unfold access
    cases hlk : lookup k (w.lruOf k.meth) with
    | some s =>
      have hs : Q k.obj s := hw _ k s (C19_objects_dont_share k _ s hlk)
      exact ⟨rfl, rfl, hw.setLru k.meth _
        (List.forall_mem_cons.mpr ⟨hs, fun e he => hw _ e.1 e.2 (List.mem_filter.mp he).1⟩) rfl, hs⟩
    | none =>
      simp only
      generalize hr : List.foldl _ _ _ = r
      have hk : Kept Q w k.obj r := by
        rw [← hr]
        refine List.foldlRecOn (motive := Kept Q w k.obj) _ _ ⟨rfl, rfl, hw, hcur k.obj⟩ ?_
        intro acc ha c _
        have g := ih acc.1 ⟨if c.recv = 0 then k.obj else w.nextTmp + c.recv - 1, c.meth, c.args⟩ ha.version ha.inv
        refine ⟨g.version.trans ha.version, g.cap.trans ha.cap, g.inv, ?_⟩
        by_cases hc : c.recv = 0
        · have gs := g.stamp
          simp only [hc, if_true] at gs ⊢
          exact hmin _ _ _ ha.stamp gs
        · simp only [hc, if_false]
          exact ha.stamp
      refine ⟨hk.version, hk.cap, hk.inv.setLru k.meth _ (fun e he => ?_) rfl, hk.stamp⟩
      rcases List.mem_cons.mp (List.mem_of_mem_take he) with h | h
      · rw [h]; exact hk.stamp
      · exact hk.inv _ e.1 e.2 h

theorem access_good (rules : Rules) : ∀ (fuel : Nat) (w : World) (k : Key), Fresh w → Good w k (access rules fuel w k) := by
  intro fuel w k hf
  have g := access_inv rules w.version (fun o s => s = assoc 0 o w.version) (fun _ => rfl)
    (fun _ _ _ ha hb => by rw [ha, hb, Nat.min_self]) fuel w k rfl hf
  exact ⟨g.version, g.cap, fun m k' s h => (g.inv m k' s h).trans (congrArg (assoc 0 k'.obj) g.version).symm, g.stamp⟩

/-- (model level) no query changes the mesh version of any object; the real
code is checked against this by before/after snapshots of ids, coordinates, connectivity and user variables. -/
theorem C19_user_data_untouched (cfg : Cfg) (rules : Rules) (w : World) (k : Key) (hf : Fresh w) :
    (step cfg rules w (.query k)).1.version = w.version := by
  simp only [step]
  exact (access_good rules depth { w with hits := 0, misses := 0 } k hf).version

theorem query_fresh (cfg : Cfg) (rules : Rules) (w : World) (k : Key) (hf : Fresh w) :
    Fresh (step cfg rules w (.query k)).1 ∧ ∃ h m, (step cfg rules w (.query k)).2 = .value (w.ver k.obj) h m := by
  simp only [step]
  have g := access_good rules depth { w with hits := 0, misses := 0 } k hf
  exact ⟨g.fresh, _, _, by rw [g.stamp]; rfl⟩

def isModify : Op → Bool | .modify _ => true | .query _ => false

/-- (the tree as it is) in every history WITHOUT in-place modifiers,
over any number of live objects and with any interleaving, every query returns the value for the current
mesh (its stamp is the object's current version), whatever was queried before. -/
theorem C19_history_independent_partial (rules : Rules) (w : World) (ops : List Op) (hf : Fresh w)
    (hno : ∀ op ∈ ops, isModify op = false) :
    Fresh (run ⟨false⟩ rules w ops).1 ∧
    ∀ o ∈ (run ⟨false⟩ rules w ops).2, ∃ k hh mm, o = Obs.value (w.ver k) hh mm := by
  induction ops generalizing w with
  | nil => exact ⟨hf, by simp [run]⟩
  | cons op ops ih =>
    cases op with
    | modify o => exact absurd (hno (.modify o) (by simp)) (by simp [isModify])
    | query k =>
      simp only [run]
      obtain ⟨hf', h, m, hobs⟩ := query_fresh ⟨false⟩ rules w k hf
      have hv := C19_user_data_untouched ⟨false⟩ rules w k hf
      obtain ⟨hfin, hall⟩ := ih (step ⟨false⟩ rules w (.query k)).1 hf' (fun op hop => hno op (List.mem_cons_of_mem _ hop))
      refine ⟨hfin, List.forall_mem_cons.mpr ⟨⟨k.obj, h, m, hobs⟩, fun o ho => ?_⟩⟩
      obtain ⟨k', hh, mm, rfl⟩ := hall o ho
      exact ⟨k', hh, mm, congrArg (Obs.value · hh mm) (congrArg (assoc 0 k') hv)⟩

/-- (repaired configuration: modifiers clear the caches) after ANY history —
queries, in-place modifications, several objects — the caches hold only values of the current meshes, so
the next query returns the value for the current mesh. -/
theorem C19_history_independent (rules : Rules) (w : World) (ops : List Op) (hf : Fresh w) (k : Key) :
    Fresh (run ⟨true⟩ rules w ops).1 ∧
    ∃ h m, (step ⟨true⟩ rules (run ⟨true⟩ rules w ops).1 (.query k)).2 = .value ((run ⟨true⟩ rules w ops).1.ver k.obj) h m := by
  have hfin : Fresh (run ⟨true⟩ rules w ops).1 := by
    induction ops generalizing w with
    | nil => exact hf
    | cons op ops ih =>
      simp only [run]
      apply ih
      cases op with
      | query k' => exact (query_fresh ⟨true⟩ rules w k' hf).1
      | modify o => intro m k' s hm; simp [step, World.lruOf, assoc] at hm
  exact ⟨hfin, (query_fresh ⟨true⟩ rules _ k hfin).2⟩

/-- every cached value was computed from the current or an EARLIER version of its object (never invented) -/
def NoFuture (w : World) : Prop := ∀ m k s, (k, s) ∈ w.lruOf m → s ≤ w.ver k.obj

/-- (the tree as it is, ANY history incl. in-place modifiers) a query never returns a
value newer than the current mesh, and whatever stale value it returns was computed by an earlier query from an
earlier version of the SAME object — staleness is the only way the working tree departs from history
independence (there is no cross-object or cross-argument leakage in the model; the tie checks that on the code). -/
theorem C19_no_future_values (cfg : Cfg) (rules : Rules) (w : World) (ops : List Op) (hf : NoFuture w) :
    NoFuture (run cfg rules w ops).1 := by
  induction ops generalizing w with
  | nil => exact hf
  | cons op ops ih =>
    simp only [run]
    apply ih
    intro m k s hm
    cases op with
    | query k' =>
      have g := access_inv rules w.version (fun o s => s ≤ assoc 0 o w.version) (fun _ => Nat.le_refl _)
        (fun _ _ _ ha _ => Nat.le_trans (Nat.min_le_left _ _) ha) depth { w with hits := 0, misses := 0 } k' rfl hf
      exact Nat.le_trans (g.inv m k s hm) (Nat.le_of_eq (congrArg (assoc 0 k.obj) g.version).symm)
    | modify o =>
      simp only [step, World.lruOf] at hm
      simp only [step, World.ver, assoc_assocSet]
      split at hm
      · cases hm
      · have := hf m k s hm
        split
        · rename_i hko; rw [← hko]; exact Nat.le_succ_of_le this
        · exact this

/-! ### a stale answer needs a stale entry of the SAME object (soundness of the oracle's attribution)

The harness attributes a value that differs from the fresh one to the open finding F11 only when the traced provenance of
the value contains an older version of the mesh; a query that reads nothing older must be fresh.  For the lru caches that
rule is this theorem: whatever the state of the caches (stale entries of OTHER objects included), a query on object `o`
whose answer is older than `o`'s current mesh found, before it started, an entry of `o` itself that was already older. -/

theorem access_goodObj (rules : Rules) (o : Nat) (fuel : Nat) (w : World) (k : Key) (hf : FreshObj w o) :
    GoodObj w k o (access rules fuel w k) := by
  have g := access_inv rules w.version (fun o' s => o' = o → s = assoc 0 o w.version) (fun _ h => h ▸ rfl)
    (fun _ _ _ ha hb h => by rw [ha h, hb h, Nat.min_self]) fuel w k rfl hf
  exact ⟨g.version, fun m k' s h ho => (g.inv m k' s h ho).trans (congrArg (assoc 0 o) g.version).symm, g.stamp⟩

/-- (the tree as it is, ANY state of the caches, any nested-call graph) if a query on an
object returns a value that was not computed from the object's current mesh, then the caches held — before the query — an
entry of THAT object which was already out of date.  Stale entries of other objects, evictions and temporaries cannot make a
query stale.  (Contrapositive: a query that meets no out-of-date entry of its own object returns the value of the current
mesh — the rule by which the oracle refuses to attribute an unexplained deviation to F11.) -/
theorem C19_stale_needs_stale_entry (rules : Rules) (fuel : Nat) (w : World) (k : Key)
    (h : (access rules fuel w k).2 ≠ w.ver k.obj) :
    ∃ m k' s, (k', s) ∈ w.lruOf m ∧ k'.obj = k.obj ∧ s ≠ w.ver k.obj := by
  by_contra hne
  apply h
  refine (access_goodObj rules k.obj fuel w k ?_).stamp rfl
  intro m k' s hm hk
  by_contra hs
  exact hne ⟨m, k', s, hm, hk, hs⟩

/-- … and the query leaves no out-of-date entry of that object behind (so the next query on it is fresh as well) -/
theorem C19_fresh_object_stays_fresh (rules : Rules) (fuel : Nat) (w : World) (k : Key) (o : Nat) (hf : FreshObj w o) :
    FreshObj (access rules fuel w k).1 o :=
  (access_goodObj rules o fuel w k hf).fresh

/-! ### the tree as it is: counterexamples (each replayed on the implementation by the harness) -/

def w0 : World := World.init [(0, 1), (1, 1)]
/-- adjacency (method 1) calls incidence (method 0) on self -/
def r0 : Rules := [((1, 0, 0), [⟨0, 0, 0⟩]), ((1, 0, 1), [⟨0, 0, 0⟩]), ((1, 1, 0), [⟨0, 0, 0⟩]), ((1, 1, 1), [⟨0, 0, 0⟩])]

/-- F11: query, modify in place, same query → the stale value (stamp 0 although the mesh has version 1) -/
theorem C19_stale_lru_counterexample :
    (run ⟨false⟩ r0 w0 [.query ⟨1, 0, 0⟩, .modify 1, .query ⟨1, 0, 0⟩]).2
      = [.value 0 0 1, .modified, .value 0 1 0] := by decide +kernel

/-- staleness propagates through nested cached calls: a *different* query that was never made before is
computed from the stale nested entry -/
theorem C19_stale_nested_counterexample :
    (run ⟨false⟩ r0 w0 [.query ⟨1, 0, 0⟩, .modify 1, .query ⟨1, 1, 0⟩]).2
      = [.value 0 0 1, .modified, .value 0 1 1] := by decide +kernel

/-- … and a query of another object on the 1-slot cache evicts the stale entry: the answer is fresh again
(the history-dependence the tie has to predict exactly) -/
theorem C19_eviction_refreshes :
    (run ⟨false⟩ r0 w0 [.query ⟨1, 0, 0⟩, .modify 1, .query ⟨2, 0, 0⟩, .query ⟨1, 0, 0⟩]).2
      = [.value 0 0 1, .modified, .value 0 0 1, .value 1 0 1] := by decide +kernel

/-- non-vacuity of the partial theorem: two objects, interleaved, nested calls, evictions -/
example : (run ⟨false⟩ r0 w0 [.query ⟨1, 1, 0⟩, .query ⟨2, 1, 0⟩, .query ⟨1, 0, 0⟩, .query ⟨1, 1, 0⟩]).2
    = [.value 0 0 2, .value 0 0 2, .value 0 0 1, .value 0 1 1] := by decide +kernel

/-- non-vacuity of `C19_stale_needs_stale_entry`: after [adjacency on object 1, modify object 1] the caches hold stale entries
of object 1 only; object 2 is `FreshObj` (hypothesis holds non-trivially: the lists are not empty) and its query is fresh,
while the query on object 1 is stale and the witness entry exists -/
example : let w1 := (run ⟨false⟩ r0 w0 [.query ⟨1, 1, 0⟩, .modify 1]).1
    (w1.lruOf 0 ≠ [] ∧ (access r0 depth w1 ⟨2, 1, 0⟩).2 = w1.ver 2 ∧ (access r0 depth w1 ⟨1, 1, 1⟩).2 ≠ w1.ver 1) := by decide +kernel

/-- the generated capacity table names every cached method once -/
theorem C19_lru_sizes_positive : Femio.Gen.lruSizes.all (fun e => decide (0 < e.2)) = true := by decide +kernel

/-! ### The derived variable stored in the mesh's own variable table (`Model/StoredMetric.lean`) -/
namespace Stored

/-- A volume query that RAISES leaves no table behind (tree configuration: blocks are evaluated with `update=False`, only the
assembled and validated result is stored), so every later query — whatever its options — is evaluated from the mesh exactly as
on a freshly built equal mesh. -/
theorem C19_failed_query_invisible (cfg : Cfg) (h : cfg.storePerBlock = false) (o o' : Opts) (blocks : List (List Int))
    (hfail : (query cfg o blocks none).1 = none) :
    (query cfg o blocks none).2 = none ∧ query cfg o' blocks (query cfg o blocks none).2 = query cfg o' blocks none := by
  have h2 : (query cfg o blocks none).2 = none := by
    unfold query at hfail ⊢
    cases he : evalBlocks o blocks with
    | mk r p =>
      cases r with
      | some r => simp [he] at hfail
      | none => simp [h]
  exact ⟨h2, by rw [h2]⟩

/-- non-vacuity: a tet (6V = 1) and an inverted hex (6V = -6); the default query raises -/
example : (query tree ⟨true, false⟩ [[1], [-6]] none).1 = none := by decide +kernel

/-- Writing every block to the table as soon as it is evaluated (seeded change C19-9) makes a failed query visible: after the
default query has raised on the inverted hex, the tolerant query returns the table of the tet block only. -/
theorem C19_partial_table_counterexample :
    let cfg : Cfg := ⟨true, .drop⟩
    let t := (query cfg ⟨true, false⟩ [[1], [-6]] none).2
    (query cfg ⟨false, false⟩ [[1], [-6]] t).1 = some [1] ∧ (query cfg ⟨false, false⟩ [[1], [-6]] none).1 = some [1, -6] := by decide +kernel

/-- `make_elements_positive` drops the stored table (tree configuration): the next query is evaluated from the modified mesh, as
on a freshly built equal mesh, whatever was stored before. -/
theorem C19_make_positive_drops_table (cfg : Cfg) (h : cfg.onPositive = .drop) (o : Opts) (block : List Int) (table : Table) :
    query cfg o [(makePositive cfg block table).1] (makePositive cfg block table).2 = query cfg o [block.map iabs] none := by
  simp [makePositive, h]

example : (query tree ⟨true, false⟩ [(makePositive tree [1, -1, 1] (some [1, 1, 1])).1] (makePositive tree [1, -1, 1] (some [1, 1, 1])).2).1
    = some [1, 1, 1] := by decide +kernel

/-- Negating the rows of the permuted elements instead (seeded change C19-8) is wrong whenever the table holds ABSOLUTE values:
[absolute query, make_elements_positive, default query] raises although every element of the modified mesh is positive. -/
theorem C19_make_positive_flip_counterexample :
    let cfg : Cfg := ⟨false, .flip⟩
    let t := (query cfg ⟨false, true⟩ [[1, -1, 1]] none).2
    let mt := makePositive cfg [1, -1, 1] t
    mt.1 = [1, 1, 1] ∧ (query cfg ⟨true, false⟩ [mt.1] mt.2).1 = none ∧ (query cfg ⟨true, false⟩ [mt.1] none).1 = some [1, 1, 1] := by
  decide +kernel

/-- The open finding `options-ignored` in the model: the table stored by an absolute query is returned to a signed query. -/
theorem C19_stored_options_ignored_counterexample :
    let t := (query tree ⟨false, true⟩ [[1, -1, 1]] none).2
    (query tree ⟨false, false⟩ [[1, -1, 1]] t).1 = some [1, 1, 1] ∧ (query tree ⟨false, false⟩ [[1, -1, 1]] none).1 = some [1, -1, 1] := by
  decide +kernel

end Stored

end Femio.C19
