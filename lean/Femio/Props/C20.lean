import Femio.Lemmas.C20Lemmas
import Mathlib.Algebra.Order.Field.Rat
import Mathlib.Tactic.FieldSimp

/-! C20 — mesh compressor: checker soundness, face cancellation, node renumbering, data transfer.
    Property theorems (model: `Femio/Model/Compress.lean`). -/
namespace Femio.C20
open Faces

/-- `check_polyhedron` as coded accepts a cell iff no face repeats a node and the
*set* of directed face edges is closed under reversal. -/
theorem C20_check_polyhedron_spec (c : Cell) :
    checkPolyhedron c = true ↔ (∀ f ∈ c, f.Nodup) ∧ ∀ e ∈ edgesOf c, (e.2, e.1) ∈ edgesOf c := by
  simp only [checkPolyhedron, Bool.and_eq_true, List.all_eq_true, nodupB_iff, List.contains_iff_mem]

example : checkPolyhedron [[0,2,1],[0,1,3],[1,2,3],[0,3,2]] = true := by decide +kernel

/-- a cell accepted by the checker has every face edge matched by the reverse edge in the
same cell, and every face has at least three pairwise distinct nodes. -/
theorem C20_checker_sound (c : Cell) (h : checkCell c = true) :
    (∀ e ∈ edgesOf c, (e.2, e.1) ∈ edgesOf c) ∧ (∀ f ∈ c, 3 ≤ f.length ∧ f.Nodup) := by
  simp only [checkCell, Bool.and_eq_true, List.all_eq_true, decide_eq_true_eq] at h
  obtain ⟨hp, h3⟩ := h
  obtain ⟨hn, he⟩ := (C20_check_polyhedron_spec c).mp hp
  exact ⟨he, fun f hf => ⟨h3 f hf, hn f hf⟩⟩

example : checkCell [[0,2,1],[0,1,3],[1,2,3],[0,3,2]] = true := by decide +kernel

/-- the as-coded test is set based — a tetrahedron with one face listed twice is
accepted although the edge `(0,2)` occurs twice and its reverse once. -/
theorem C20_checker_set_not_multiset :
    checkCell [[0,2,1],[0,1,3],[1,2,3],[0,3,2],[0,2,1]] = true ∧
    balancedCell [[0,2,1],[0,1,3],[1,2,3],[0,3,2],[0,2,1]] = false := by decide +kernel

/-- `kind="mean"` maps a constant field to the same constant, for every 0/1 matrix all of
whose rows are non-empty. -/
theorem C20_mean_constants (m : Mat) (c : Rat) (h : ∀ r ∈ m.rows, r ≠ []) :
    transferMean m (fun _ => c) = m.rows.map (fun _ => c) := by
  unfold transferMean
  apply List.map_congr_left
  intro r hr
  have hl : (r.length : Rat) ≠ 0 := by
    have := List.length_pos_iff.mpr (h r hr)
    exact_mod_cast this.ne'
  rw [sumL_eq_sum, sum_map_const]
  field_simp

example : (∀ r ∈ (⟨3, [[0,1],[2],[0,1,2]]⟩ : Mat).rows, r ≠ []) := by simp

/-- the same for the transposed matrix (transfer in the other direction), provided
every column index occurs in some row. -/
theorem C20_mean_constants_back (m : Mat) (c : Rat) (h : ∀ j < m.ncols, ∃ r ∈ m.rows, j ∈ r) :
    transferMean m.transpose (fun _ => c) = m.transpose.rows.map (fun _ => c) := by
  exact C20_mean_constants _ c (transpose_rows_ne_nil m h)

example : (∀ j < (⟨3, [[0,1],[2],[0,1,2]]⟩ : Mat).ncols, ∃ r ∈ (⟨3, [[0,1],[2],[0,1,2]]⟩ : Mat).rows, j ∈ r) := by
  decide +kernel

/-- `kind="sum"` (as documented / repaired) preserves the grand total when every column is hit by
at least one row. -/
theorem C20_sum_total (m : Mat) (x : Nat → Rat)
    (hnd : ∀ r ∈ m.rows, r.Nodup) (hlt : ∀ r ∈ m.rows, ∀ j ∈ r, j < m.ncols)
    (hcol : ∀ j < m.ncols, 0 < colCount m j) :
    sumL (transferSum m x) = sumL ((List.range m.ncols).map x) := by
  rw [sumL_eq_sum, sumL_eq_sum]
  unfold transferSum
  have : (m.rows.map fun r => sumL (r.map fun j => x j / (colCount m j : Rat)))
       = m.rows.map fun r => (r.map fun j => x j / (colCount m j : Rat)).sum := by
    apply List.map_congr_left; intro r _; rw [sumL_eq_sum]
  rw [this, sum_rows_eq m.rows m.ncols _ hnd hlt]
  congr 1
  apply List.map_congr_left
  intro j hj
  have hc : ((colCount m j : Nat) : Rat) ≠ 0 := by
    have := hcol j (List.mem_range.mp hj)
    exact_mod_cast this.ne'
  change (colCount m j : Rat) * (x j / (colCount m j : Rat)) = x j
  field_simp

example : let m : Mat := ⟨3, [[0,1],[2],[0,1,2]]⟩
    (∀ r ∈ m.rows, r.Nodup) ∧ (∀ r ∈ m.rows, ∀ j ∈ r, j < m.ncols) ∧ (∀ j < m.ncols, 0 < colCount m j) := by
  decide +kernel

/-- the same for the transposed matrix, provided all column indices are in range and every
row is non-empty. -/
theorem C20_sum_total_back (m : Mat) (x : Nat → Rat)
    (hlt : ∀ r ∈ m.rows, ∀ j ∈ r, j < m.ncols) (hne : ∀ r ∈ m.rows, r ≠ []) :
    sumL (transferSum m.transpose x) = sumL ((List.range m.rows.length).map x) := by
  apply C20_sum_total m.transpose x (transpose_rows_nodup m) (transpose_rows_lt m)
  intro i hi
  have hi' : i < m.rows.length := hi
  obtain ⟨j, hj⟩ := List.exists_mem_of_ne_nil _ (hne _ (List.getElem_mem hi'))
  exact transpose_colCount_pos m i hi' j (hlt _ (List.getElem_mem hi') j hj) hj

example : let m : Mat := ⟨3, [[0,1],[2],[0,1,2]]⟩
    (∀ r ∈ m.rows, ∀ j ∈ r, j < m.ncols) ∧ (∀ r ∈ m.rows, r ≠ []) := by
  decide +kernel

/-- the as-coded `kind="sum"` on one-column data: for the 1×2 matrix `[[1,1]]`
and data `(1, 2)` the result has 2 columns instead of one and its grand total is 6 = 2 · 3, twice the input total. -/
theorem C20_sum_broadcast_counterexample :
    let m : Mat := ⟨2, [[0,1]]⟩
    let x : Nat → Rat := fun i => if i = 0 then 1 else 2
    transferSumBroadcast m x = [[3, 3]] ∧
    sumL ((transferSumBroadcast m x).map sumL) = 2 * sumL ((List.range m.ncols).map x) ∧
    sumL (transferSum m x) = sumL ((List.range m.ncols).map x) := by
  decide +kernel

/-- let `φ` be a face weight that is constant on `canon`-classes and odd under
reversal on the faces present.  If on the faces present the reversed class is well defined (`hc1`) and reversal is
an involution on classes (`hc2`) — both hold when no face present repeats a node, where `canon` is a complete rotation
invariant (`C20_merge_closed_additive_nodup`) —
then the face cancellation of `merge_polyhedrons` preserves the total of `φ`. -/
theorem C20_merge_closed_additive (cells : List Cell) (φ : Face → ℤ)
    (hcls : ∀ f g, canon f = canon g → φ f = φ g)
    (hodd : ∀ f ∈ cells.flatten, φ f.reverse = - φ f)
    (hc1 : ∀ f ∈ cells.flatten, ∀ g ∈ cells.flatten, canon f = canon g → canon f.reverse = canon g.reverse)
    (hc2 : ∀ f ∈ cells.flatten, ∀ g ∈ cells.flatten, canon f.reverse = canon g → canon g.reverse = canon f) :
    ((mergeCells cells).map φ).sum = ((cells.flatten).map φ).sum :=
  mergeCells_sum φ cells (mergeOK_int hcls hodd hc1 hc2)

/-- two tetrahedra (femio's `tet_to_polyhedron` face table for the node tuples (0,1,2,3) and (1,2,3,4)) glued along
the face {1,2,3}, which they traverse in opposite directions -/
def twoTetCells : List Cell :=
  [[[0,2,1],[3,0,1],[3,2,0],[3,1,2]], [[1,3,2],[4,1,2],[4,3,1],[4,2,3]]]

example : (∀ f ∈ twoTetCells.flatten, ∀ g ∈ twoTetCells.flatten, canon f = canon g → canon f.reverse = canon g.reverse) ∧
    (∀ f ∈ twoTetCells.flatten, ∀ g ∈ twoTetCells.flatten, canon f.reverse = canon g → canon g.reverse = canon f) ∧
    mergeCells twoTetCells = [[0,2,1],[3,0,1],[3,2,0],[4,1,2],[4,3,1],[4,2,3]] := by decide +kernel

/-- if every input cell is closed (each directed edge as often as its reverse) the merged
cell is closed.  The weight `#e − #ē` satisfies the two weight hypotheses of `C20_merge_closed_additive` for every
face (`wt_canon_class`, `wt_reverse`); only the class-consistency of `canon` on the faces present remains. -/
theorem C20_merge_closed (cells : List Cell) (hbal : ∀ c ∈ cells, balancedCell c = true)
    (hc1 : ∀ f ∈ cells.flatten, ∀ g ∈ cells.flatten, canon f = canon g → canon f.reverse = canon g.reverse)
    (hc2 : ∀ f ∈ cells.flatten, ∀ g ∈ cells.flatten, canon f.reverse = canon g → canon g.reverse = canon f) :
    Bal (edgesOf (mergeCells cells)) :=
  mergeCells_bal cells (fun c hc => balB_sound _ (hbal c hc)) fun e =>
    mergeOK_int (wt_canon_class e) (fun f _ => wt_reverse e f) hc1 hc2

example : (∀ c ∈ twoTetCells, balancedCell c = true) ∧ balancedCell (mergeCells twoTetCells) = true := by decide +kernel

/-- `C20_merge_closed_additive` with the two class-consistency hypotheses
discharged: when no face present repeats a node (what `check_polyhedron` enforces), `canon` is a complete rotation
invariant, so the reversed class is well defined and reversal is an involution on classes
(`canon_reverse_congr`, `canon_reverse_symm`).  The face cancellation of `merge_polyhedrons` then preserves the total
of every face weight that is constant on `canon`-classes and odd under reversal. -/
theorem C20_merge_closed_additive_nodup (cells : List Cell) (φ : Face → ℤ)
    (hcls : ∀ f g, canon f = canon g → φ f = φ g)
    (hodd : ∀ f ∈ cells.flatten, φ f.reverse = - φ f)
    (hnd : ∀ f ∈ cells.flatten, f.Nodup) :
    ((mergeCells cells).map φ).sum = ((cells.flatten).map φ).sum :=
  C20_merge_closed_additive cells φ hcls hodd
    (fun f hf _ _ => canon_reverse_congr (hnd f hf)) (fun _ _ g hg => canon_reverse_symm (hnd g hg))

/-- if every input cell is closed (each directed edge as often as its reverse) and no
face repeats a node, the merged cell is closed — no further hypothesis on `canon`. -/
theorem C20_merge_closed_nodup (cells : List Cell) (hbal : ∀ c ∈ cells, balancedCell c = true)
    (hnd : ∀ f ∈ cells.flatten, f.Nodup) :
    Bal (edgesOf (mergeCells cells)) :=
  C20_merge_closed cells hbal
    (fun f hf _ _ => canon_reverse_congr (hnd f hf)) (fun _ _ g hg => canon_reverse_symm (hnd g hg))

/-- non-vacuity: the two glued tetrahedra satisfy both hypotheses of `C20_merge_closed_nodup` -/
example : (∀ c ∈ twoTetCells, balancedCell c = true) ∧ (∀ f ∈ twoTetCells.flatten, nodupB f = true) ∧
    balancedCell (mergeCells twoTetCells) = true := by decide +kernel

example : Bal (edgesOf (mergeCells twoTetCells)) :=
  C20_merge_closed_nodup twoTetCells (by decide +kernel) (fun f hf => (nodupB_iff f).mp ((by decide +kernel :
    ∀ f ∈ twoTetCells.flatten, nodupB f = true) f hf))

/-- (`remove_one_edge_from_polyhedron`) for `f1 = A :: B :: p` and `f2 = B :: A :: q` the merged face has exactly the edges of
`f1` and `f2` except the pair `(A,B)`, `(B,A)`; hence replacing `f1, f2` by the merged face keeps a closed cell
closed. -/
theorem C20_edge_merge (A B : Nat) (p q : List Nat) :
    (dirEdges (mergeAlong A B p q) ++ [(A,B),(B,A)]).Perm (dirEdges (A :: B :: p) ++ dirEdges (B :: A :: q)) ∧
    ∀ rest : List Face, Bal (edgesOf (rest ++ [A :: B :: p, B :: A :: q])) →
      Bal (edgesOf (rest ++ [mergeAlong A B p q])) :=
  ⟨edge_merge_perm A B p q, fun rest h => edge_merge_bal A B p q rest h⟩

/-- non-vacuity: a tetrahedron whose faces `[0,1,2]`, `[1,0,3]` are merged along the edge 0–1 -/
example : balB (edgesOf ([[2,1,3],[0,2,3]] ++ [[0,1,2],[1,0,3]])) = true ∧
    mergeAlong 0 1 [2] [3] = [1,2,0,3] ∧ removeEdge 0 1 [[0,1,2],[1,0,3],[2,1,3],[0,2,3]] = some [[2,1,3],[0,2,3],[1,2,0,3]] := by
  decide +kernel

/-- the fan flux `Σ_{i≥2} det P₀ P_{i-1} P_i` (femio's per-face term of the polyhedron
volume) of the merged face is the sum of the fan fluxes of the two faces when the two faces are coplanar (all
vertex differences orthogonal to both area vectors).  (`fanFlux_merge_of_edge` needs only
`(A − B) ⟂ cycArea2 f1`.) -/
theorem C20_edge_merge_flux {R : Type} [CommRing R] (A B : V3 R) (p q : List (V3 R))
    (hcop : ∀ v ∈ A :: B :: p ++ q, ∀ w ∈ A :: B :: p ++ q,
      V3.dot (v - w) (cycArea2 (A :: B :: p)) = 0 ∧ V3.dot (v - w) (cycArea2 (B :: A :: q)) = 0) :
    fanFlux (B :: p ++ A :: q) = fanFlux (A :: B :: p) + fanFlux (B :: A :: q) :=
  fanFlux_merge_of_edge A B p q (hcop A (by simp) B (by simp)).1

/-- non-vacuity: the unit square in the plane `z = 1`, split along its diagonal (flux 2 = 1 + 1) -/
example : (∀ v ∈ ((⟨0,0,1⟩ : V3 Int) :: ⟨1,1,1⟩ :: [⟨0,1,1⟩] ++ [⟨1,0,1⟩]), ∀ w ∈ ((⟨0,0,1⟩ : V3 Int) :: ⟨1,1,1⟩ :: [⟨0,1,1⟩] ++ [⟨1,0,1⟩]),
      V3.dot (v - w) (cycArea2 [(⟨0,0,1⟩ : V3 Int), ⟨1,1,1⟩, ⟨0,1,1⟩]) = 0 ∧
      V3.dot (v - w) (cycArea2 [(⟨1,1,1⟩ : V3 Int), ⟨0,0,1⟩, ⟨1,0,1⟩]) = 0) ∧
    fanFlux ([⟨1,1,1⟩, ⟨0,1,1⟩, ⟨0,0,1⟩, ⟨1,0,1⟩] : List (V3 Int)) = 2 := by decide +kernel

/-- for `r = reindex cells conv` (with `newId v` = position of `v` in `r.kept`):
(i) `r.kept` is strictly ascending and consists exactly of the nodes `< conv.length` used by some face;
(ii) if every used node is `< conv.length`, every node index of the output faces is `< r.kept.length`;
(iii) every `k < r.kept.length` occurs in some output face (numbering contiguous `0..K-1`, no unused node listed);
(iv) the output faces are the input faces with `v ↦ newId v`, `kept[newId v] = v`, and `newId` is injective on the
used nodes (so distinctness inside faces and edge matching are preserved). -/
theorem C20_nodes_exact (cells : List Cell) (conv : List Nat) :
    let r := reindex cells conv
    let used := cells.flatten.flatten
    let newId : Nat → Nat := fun v => (r.kept.idxOf? v).getD 0
    (r.kept.Pairwise (· < ·) ∧ ∀ v, v ∈ r.kept ↔ v < conv.length ∧ v ∈ used) ∧
    ((∀ v ∈ used, v < conv.length) → ∀ k ∈ r.cells.flatten.flatten, k < r.kept.length) ∧
    (∀ k < r.kept.length, k ∈ r.cells.flatten.flatten) ∧
    (r.cells = cells.map (fun c => c.map fun f => f.map newId) ∧
      (∀ v ∈ used, v < conv.length → ∃ h : newId v < r.kept.length, r.kept[newId v] = v) ∧
      ∀ v ∈ used, ∀ w ∈ used, v < conv.length → w < conv.length → newId v = newId w → v = w) := by
  intro r used newId
  have hmem := mem_reindex_kept cells conv
  exact ⟨⟨reindex_kept_pairwise cells conv, hmem⟩, reindex_nodes_lt cells conv, reindex_nodes_surj cells conv,
    reindex_cells cells conv, fun v hv hlt => getElem_idxOf? r.kept v ((hmem v).mpr ⟨hlt, hv⟩),
    fun v hv w hw hvl hwl => idxOf?_getD_inj ((hmem v).mpr ⟨hvl, hv⟩) ((hmem w).mpr ⟨hwl, hw⟩)⟩

example : let cells : List Cell := [[[0,2,5],[5,2,7]]]
    let conv := [0,1,2,3,4,5,6,7]
    (reindex cells conv).kept = [0,2,5,7] ∧ (reindex cells conv).cells = [[[0,1,2],[2,1,3]]] ∧
    (∀ v ∈ cells.flatten.flatten, v < conv.length) := by decide +kernel

/-- for the matrix built from the neighbour lists `nbd` (`matOfNbd`): if every original
node has a non-empty list of compressed nodes `< M`, every column is non-empty; if every compressed node `i < M`
is assigned to some original node, every row is non-empty. -/
theorem C20_rows_cols_nonempty (M : Nat) (nbd : List (List Nat)) :
    ((∀ l ∈ nbd, l ≠ [] ∧ ∀ i ∈ l, i < M) → ∀ v < nbd.length, 0 < colCount (matOfNbd M nbd) v) ∧
    ((∀ i < M, ∃ l ∈ nbd, i ∈ l) → ∀ r ∈ (matOfNbd M nbd).rows, r ≠ []) := by
  rw [matOfNbd_eq_transpose]
  constructor
  · intro h v hv
    obtain ⟨i, hi⟩ := List.exists_mem_of_ne_nil _ (h _ (List.getElem_mem hv)).1
    exact transpose_colCount_pos ⟨M, nbd⟩ v hv i ((h _ (List.getElem_mem hv)).2 i hi) hi
  · intro h
    exact transpose_rows_ne_nil ⟨M, nbd⟩ h

example : let nbd := [[0],[0,1],[1],[2,1]]
    (∀ l ∈ nbd, l ≠ [] ∧ ∀ i ∈ l, i < 3) ∧ (∀ i < 3, ∃ l ∈ nbd, i ∈ l) ∧
    (matOfNbd 3 nbd).rows = [[0,1],[1,2,3],[3]] := by decide +kernel

end Femio.C20
