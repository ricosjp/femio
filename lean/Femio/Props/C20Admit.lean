import Femio.Lemmas.C20AdmitLemmas
import Mathlib.Data.List.Rotate

/-! C20 — the admission test of `remove_edges` (`Model/CompressAdmit.lean`):
the exact sqrt-free comparison is the documented `cos >= cos_thresh` including the SIGN of the cosine
(`C20_admit_iff_cos`), the sign-free squared test of seeded change C20-5 is not (`C20_unsigned_test_counterexample`);
the repaired face normal is a function of the cyclic face (`C20_fan_normal_rotate`), the upstream formula is not and
gets the sign wrong on a non-convex planar face (`C20_upstream_normal_counterexample`). -/
namespace Femio.C20
open _root_.V3

/-- for rational dot product `d = x·y`, `q = |x|²|y|²` and threshold `T`, and `s = |x||y|` (any
positive real with `s² = q`): the sqrt-free exact test accepts iff `T·|x||y| ≤ x·y`, i.e. iff `cos(x, y) ≥ T` — for
thresholds and cosines of either sign. -/
theorem C20_admit_iff_cos (d q T : Rat) (s : ℝ) (hs : 0 < s) (hq : s * s = (q : ℝ)) :
    cosGe d q T = true ↔ (T : ℝ) * s ≤ (d : ℝ) := by
  rw [cosGe_eq_true_iff, ← CosGe_cast]
  exact cosGe_field_iff (d : ℝ) (q : ℝ) (T : ℝ) s hs hq

/-- non-vacuity: a knife edge (cos = -0.97) is not admitted by 0.9 but is admitted by -0.98; a blunt edge (0.97) is -/
example : cosGe (-97) (100 * 100) (9 / 10) = false ∧ cosGe (-97) (100 * 100) (-98 / 100) = true ∧
    cosGe 97 (100 * 100) (9 / 10) = true := by
  decide +kernel

/-- the sign-free squared test (seeded C20-5) accepts the knife edge
`cos = -0.97` at `cos_thresh = 0.9`, the documented comparison does not; for a non-negative cosine the two agree. -/
theorem C20_unsigned_test_counterexample :
    cosGeUnsigned (-97) (100 * 100) (9 / 10) = true ∧ cosGe (-97) (100 * 100) (9 / 10) = false ∧
    ∀ d q T : Rat, 0 ≤ d → 0 < T → 0 < q → cosGeUnsigned d q T = cosGe d q T := by
  refine ⟨by decide +kernel, by decide +kernel, ?_⟩
  intro d q T hd hT hq
  unfold cosGeUnsigned cosGe
  simp [hq.ne', not_le.mpr hT, hd, hq]

section
variable {R : Type} [CommRing R]

/-- (repaired `calc_normal`) the fan area vector does not depend on the node the face's
list starts with — `F[1:] + F[:1]` has the same normal as `F`; hence neither does the decision `can_rm`. -/
theorem C20_fan_normal_rotate (p : V3 R) (ps : List (V3 R)) : fanNormal (ps ++ [p]) = fanNormal (p :: ps) := by
  match ps with
  | [] => rfl
  | [a] => apply V3.ext3 <;> simp [fanNormal, fanFrom, zero3]
  | a :: b :: rest =>
    show fanFrom a b (rest ++ [p]) = fanFrom p a (b :: rest)
    rw [fanFrom_eq, fanFrom_eq, pathFrom_append, pathLast_append]
    simp only [pathFrom, pathLast]
    apply V3.ext3 <;> simp only [V3.add, V3.sub, cross] <;> ring

theorem C20_fan_normal_rotate_k (k : Nat) (f : List (V3 R)) : fanNormal (f.rotate k) = fanNormal f := by
  induction k generalizing f with
  | zero => simp
  | succ n ih =>
    match f with
    | [] => simp
    | p :: ps => rw [List.rotate_cons_succ, ih, C20_fan_normal_rotate]
end

/-- a thin-armed L hexagon in the plane z = 0 (counter-clockwise, area 7), listed from the node (4,1) -/
def thinL : List (V3 Int) := [⟨4, 1, 0⟩, ⟨1, 1, 0⟩, ⟨1, 4, 0⟩, ⟨0, 4, 0⟩, ⟨0, 0, 0⟩, ⟨4, 0, 0⟩]

/-- non-vacuity of the rotation theorem: every rotation of the L gives twice its area, pointing up -/
example : (List.range 6).map (fun k => fanNormal (thinL.rotate k)) = List.replicate 6 ⟨0, 0, 14⟩ := by decide +kernel

/-- the upstream formula `Σ cross(F[1]-F[0], F[i]-F[0])` points DOWN on this
counter-clockwise planar face (wrong sign), depends on the starting node, and vanishes for another start. -/
theorem C20_upstream_normal_counterexample :
    upstreamNormal thinL = ⟨0, 0, -12⟩ ∧ fanNormal thinL = ⟨0, 0, 14⟩ ∧
    upstreamNormal (thinL.rotate 4) = ⟨0, 0, 40⟩ ∧
    upstreamNormal ([⟨2, 1, 0⟩, ⟨1, 1, 0⟩, ⟨1, 2, 0⟩, ⟨0, 2, 0⟩, ⟨0, 0, 0⟩, ⟨2, 0, 0⟩] : List (V3 Int)) = ⟨0, 0, 0⟩ := by
  decide +kernel

def thinLQ : List (V3 Rat) := [⟨4, 1, 0⟩, ⟨1, 1, 0⟩, ⟨1, 4, 0⟩, ⟨0, 4, 0⟩, ⟨0, 0, 0⟩, ⟨4, 0, 0⟩]
/-- the face under the L through its edge (0,0,0)–(4,0,0), in the plane y = -2z, outward normal (0,-8,-16): a knife edge -/
def knifeQ : List (V3 Rat) := [⟨4, 0, 0⟩, ⟨0, 0, 0⟩, ⟨0, 2, -1⟩, ⟨4, 2, -1⟩]

/-- with this neighbour, whose true cosine is -2/√5 ≈ -0.894, the upstream decision at `cos_thresh = 1/2` is "merge", the
repaired one is "keep" -/
theorem C20_upstream_admits_knife_edge :
    admits NormalCfg.upstream (1 / 2) thinLQ knifeQ = true ∧ admits NormalCfg.fixed (1 / 2) thinLQ knifeQ = false := by
  decide +kernel

end Femio.C20
