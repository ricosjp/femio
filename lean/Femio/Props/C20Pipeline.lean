import Femio.Props.C20
import Femio.Lemmas.C20FluxSteps
import Femio.Model.GeomKernels

/-! C20 — the pipeline of `compress()` as a transition system with arbitrary choices
    (`Femio/Model/CompressSteps.lean`): the invariant "closed cells over exactly the listed nodes, volume conserved"
    holds for EVERY run, i.e. whatever clusters, edges and vertices the heuristics choose. -/
namespace Femio.C20
open Faces

/-- `shrink` keeps every cell closed with simple faces of ≥ 3 nodes; on such a state it only drops
cells (those with fewer than three faces). -/
theorem C20_shrink_inv {cells : List Cell} (h : Inv cells) :
    Inv (shrink cells) ∧ shrink cells = cells.filter fun c => decide (2 < c.length) :=
  ⟨shrink_inv h, shrink_eq_filter h⟩

/-- `merge_elements` with ANY grouping of the cell indices (repeated or out-of-range indices
included) yields closed cells with simple faces of ≥ 3 nodes. -/
theorem C20_merge_step_inv {cells : List Cell} (h : Inv cells) (groups : List (List Nat)) :
    Inv (groups.map fun g => mergeCells (g.map fun i => cells.getD i [])) :=
  merge_step_inv h groups

/-- for ANY edge `A–B` of ANY cell of the invariant, `remove_one_edge_from_polyhedron` either
refuses (`none`, the cell is kept) or returns a closed cell with simple faces of ≥ 3 nodes over nodes of the old cell;
hence one iteration of the edge loop of `remove_edges` on ANY list `ps` of cells keeps the invariant. -/
theorem C20_remove_edge_inv {cells : List Cell} (h : Inv cells) (A B : Nat) (ps : List Nat) :
    (∀ c ∈ cells, ∀ c', removeOneEdge A B c = some c' → CellOK c' ∧ ∀ f' ∈ c', ∀ v ∈ f', v ∈ c.flatten) ∧
    Inv (removeEdgeStep A B ps cells) :=
  ⟨fun c hc _ hr => ⟨removeOneEdge_cellOK (h c hc) hr, removeOneEdge_nodes (h c hc).2 hr⟩, removeEdgeStep_inv h A B ps⟩

/-- on a state of the invariant none of the `assert`s of
`remove_vertices_2` fires (`k >= 3`, `check_polyhedron` after the removal of all nodes with at most two neighbours), and
the result is again a state of the invariant over nodes of the old state. -/
theorem C20_remove_vertices_2_inv {cells : List Cell} (h : Inv cells) :
    ∃ cells', removeVertices2 cells = some cells' ∧ Inv cells' ∧
      ∀ v ∈ cells'.flatten.flatten, v ∈ cells.flatten.flatten := by
  obtain ⟨cells', h1, h2⟩ := removeVertices2_inv h
  exact ⟨cells', h1, h2, removeVertices2_nodesSub h h1⟩

/-- the per-cell statement behind `C20_remove_vertices_2_inv`, for ANY set `rm` of nodes each of which has all its neighbours (in this cell) among
two nodes: removing them from every face and dropping the faces left with ≤ 2 nodes keeps the cell closed. -/
theorem C20_rv2_cell {rm : Nat → Bool} {c : Cell} (hc : CellOK c)
    (hrm : ∀ w, rm w = true → ∃ a b, NbrIn (edgesOf c) w a b) : CellOK (rv2Cell rm c) :=
  rv2Cell_cellOK hc hrm

/-- `merge(a, b)` of `merge_vertices` for ANY two nodes keeps every cell closed with simple
faces of ≥ 3 nodes; the nodes afterwards are old nodes or `a`, and `b` is gone (`a ≠ b`). -/
theorem C20_merge_vertex_inv {cells : List Cell} (h : Inv cells) (a b : Nat) :
    Inv (cells.map (mergeVertexCell a b)) ∧
    ∀ c ∈ cells, (∀ v ∈ (mergeVertexCell a b c).flatten, v ∈ c.flatten ∨ v = a) ∧
      (a ≠ b → b ∉ (mergeVertexCell a b c).flatten) :=
  ⟨mergeVertex_inv h a b, fun c hc => ⟨mergeVertexCell_nodes (h c hc).2 a b, fun hab => mergeVertexCell_not_mem (h c hc).2 hab⟩⟩

/-- the final renumbering keeps the invariant when every used node is a row of `node_conv`. -/
theorem C20_reindex_inv {cells : List Cell} {conv : List Nat} (h : Inv cells)
    (hr : ∀ v ∈ cells.flatten.flatten, v < conv.length) : Inv (reindex cells conv).cells := by
  rw [reindex_cells]
  intro c' hc'
  obtain ⟨c, hc, rfl⟩ := List.mem_map.mp hc'
  refine ⟨?_, fun f' hf' => ?_⟩
  · rw [edgesOf_map]
    exact bal_map (fun v => ((reindex cells conv).kept.idxOf? v).getD 0) (h c hc).1
  · obtain ⟨f, hf, rfl⟩ := List.mem_map.mp hf'
    have hmem : ∀ v ∈ f, v ∈ cells.flatten.flatten := fun v hv => mem_nodes.mpr ⟨c, hc, f, hf, hv⟩
    refine ⟨List.Nodup.map_on (fun v hv w hw e => ?_) ((h c hc).2 f hf).1, by rw [List.length_map]; exact ((h c hc).2 f hf).2⟩
    exact idxOf?_getD_inj ((mem_reindex_kept cells conv v).mpr ⟨hr v (hmem v hv), hmem v hv⟩)
      ((mem_reindex_kept cells conv w).mpr ⟨hr w (hmem w hw), hmem w hw⟩) e

/-- from a state of the invariant (`Good`: cells closed with simple faces of ≥ 3 nodes, node
indices are rows of `node_conv`, no used node has been merged away), EVERY finite sequence of operations — any grouping
of cells, any edges on any cells, `remove_vertices_2`, any vertex pairs, `shrink`, in any order — runs without a failing
`assert` and ends in a state of the invariant. -/
theorem C20_pipeline_invariant (ops : List Op) (st : St) (h : Good st) :
    ∃ st', runOps ops st = some st' ∧ Good st' ∧ st'.conv.length = st.conv.length :=
  runOps_good ops st h

/-- (closed cells over exactly the listed nodes, for every run) the output of `compress()` for ANY sequence of choices
consists of closed cells with simple faces of ≥ 3 nodes, and the node indices used by its faces are exactly
`0 … K-1`, `K = len(kept)` the number of listed nodes. -/
theorem C20_pipeline_output (ops : List Op) (st : St) (h : Good st) :
    ∃ r, compressRun ops st = some r ∧ Inv r.cells ∧ ∀ k, k ∈ r.cells.flatten.flatten ↔ k < r.kept.length := by
  obtain ⟨st', hrun, hg, _⟩ := runOps_good ops st h
  refine ⟨reindex st'.cells st'.conv, by simp only [compressRun, hrun, Option.map_some], C20_reindex_inv hg.inv hg.range, ?_⟩
  exact fun k => ⟨reindex_nodes_lt _ _ hg.range k, reindex_nodes_surj _ _ k⟩

/-- in that output every listed node `k < K` is the image under the new `node_conv` of an
original node (so no row of the nodal conversion matrix is empty, the hypothesis of `C20_rows_cols_nonempty`), and
`node_conv` has no entry `≥ K`. -/
theorem C20_pipeline_conv (ops : List Op) (st : St) (h : Good st) :
    ∃ r, compressRun ops st = some r ∧ (∀ k < r.kept.length, ∃ v : Nat, r.conv[v]? = some (some k)) ∧
      ∀ (v k : Nat), r.conv[v]? = some (some k) → k < r.kept.length := by
  obtain ⟨st', hrun, hg, _⟩ := runOps_good ops st h
  refine ⟨reindex st'.cells st'.conv, by simp only [compressRun, hrun, Option.map_some], ?_, ?_⟩
  · intro k hk
    have hnd := reindex_kept_nodup st'.cells st'.conv
    set v := (reindex st'.cells st'.conv).kept[k] with hv
    have hvm := (mem_reindex_kept _ _ v).mp (List.getElem_mem hk)
    have hroot := chase_fixed st'.conv.length hvm.1 (hg.fixed v hvm.2)
    refine ⟨v, ?_⟩
    have hlen : v < (chase st'.conv.length st'.conv).length := by rw [chase_length]; exact hvm.1
    have hrv : (chase st'.conv.length st'.conv)[v] = v := by
      have := hroot
      rw [List.getD_eq_getElem?_getD, List.getElem?_eq_getElem hlen, Option.getD_some] at this
      exact this
    have hidx : (reindex st'.cells st'.conv).kept.idxOf? v = some k := idxOf?_getElem _ hnd k hk
    show (reindex st'.cells st'.conv).conv[v]? = some (some k)
    rw [reindex_conv, List.getElem?_map, List.getElem?_eq_getElem hlen, hrv, Option.map_some,
      if_pos (List.contains_iff_mem.mpr hvm.2)]
    exact congrArg some hidx
  · intro v k hvk
    rw [reindex_conv, List.getElem?_map] at hvk
    cases hp : (chase st'.conv.length st'.conv)[v]? with
    | none => rw [hp] at hvk; simp at hvk
    | some p =>
      rw [hp, Option.map_some] at hvk
      have hvk' := Option.some.inj hvk
      split at hvk'
      · exact (List.idxOf?_eq_some_iff.mp hvk').1
      · cases hvk'

/-- the polyhedron volume kernel of C11 (`_calculate_element_volumes_polyhedron_core`, 6·V) is the flux used here -/
theorem C20_cellFlux_eq_polyFan6 {R : Type} [CommRing R] (pos : Nat → V3 R) (c : Cell) :
    cellFlux pos c = Femio.C11.polyFan6 (c.map fun f => f.map pos) := by
  unfold cellFlux Femio.C11.polyFan6
  rw [List.map_map]
  congr 1
  apply List.map_congr_left
  intro f _
  simp only [Function.comp, faceFlux]
  cases hf : f.map pos with
  | nil => rfl
  | cons a rest =>
    show fanAux a rest = ((Femio.C11.consecPairs rest).map fun (b, c) => V3.det a b c).sum
    clear hf
    induction rest with
    | nil => rfl
    | cons b t ih =>
      cases t with
      | nil => rfl
      | cons c t =>
        rw [fanAux, ih]
        simp [Femio.C11.consecPairs]

/-- (the volume clause, for every run) if all faces of the initial cells are planar, cells are merged
along partitions, faces are merged along an edge only when the two faces are coplanar, and no vertices are merged
(`FluxRun`), then EVERY such run conserves the total flux `Σ cells 6·V` (femio's polyhedron kernel), all faces stay
planar, and `node_conv` is untouched.  `remove_vertices_2` and `shrink` need no hypothesis: under planar faces they
conserve the flux by themselves. -/
theorem C20_pipeline_flux {R : Type} [CommRing R] (pos : Nat → V3 R) (ops : List Op) (st : St) (h : Good st)
    (hcop : AllCop pos st.cells) (hrun : FluxRun pos ops st) :
    ∃ st', runOps ops st = some st' ∧ Good st' ∧ totalFlux pos st'.cells = totalFlux pos st.cells ∧
      AllCop pos st'.cells ∧ st'.conv = st.conv :=
  runOps_flux pos ops st h hcop hrun

/-- under the hypotheses of `C20_pipeline_flux` the renumbered output has the total flux of
the input, the new node `k` sitting where the old node `kept[k]` sat (what `recalc_node_pos` computes when no vertices
were merged). -/
theorem C20_pipeline_output_flux {R : Type} [CommRing R] (pos : Nat → V3 R) (ops : List Op) (st : St) (h : Good st)
    (hcop : AllCop pos st.cells) (hrun : FluxRun pos ops st) :
    ∃ r, compressRun ops st = some r ∧
      totalFlux (fun k => pos (r.kept.getD k 0)) r.cells = totalFlux pos st.cells := by
  obtain ⟨st', hr, hg, hflux, _, _⟩ := runOps_flux pos ops st h hcop hrun
  refine ⟨reindex st'.cells st'.conv, by simp only [compressRun, hr, Option.map_some], ?_⟩
  rw [reindex_cells, ← hflux]
  apply map_flux
  intro v hv
  obtain ⟨hlt, hget⟩ := getElem_idxOf? _ v ((mem_reindex_kept st'.cells st'.conv v).mpr ⟨hg.range v hv, hv⟩)
  show pos ((reindex st'.cells st'.conv).kept.getD _ 0) = pos v
  rw [List.getD_eq_getElem?_getD, List.getElem?_eq_getElem hlt, Option.getD_some, hget]

/-- the four per-operation flux statements the run theorem is made of -/
theorem C20_step_flux {R : Type} [CommRing R] (pos : Nat → V3 R) {cells : List Cell} (h : Inv cells)
    (hcop : AllCop pos cells) :
    (∀ groups : List (List Nat), groups.flatten.Perm (List.range cells.length) →
      totalFlux pos (groups.map fun g => mergeCells (g.map fun i => cells.getD i [])) = totalFlux pos cells) ∧
    (∀ cells', removeVertices2 cells = some cells' → totalFlux pos cells' = totalFlux pos cells) ∧
    totalFlux pos (shrink cells) = totalFlux pos cells ∧
    (∀ c ∈ cells, ∀ A B c', (∀ f1 ∈ c, ∀ f2 ∈ c, hasE A B f1 = true → hasE B A f2 = true → Cop pos (f1 ++ f2)) →
      removeOneEdge A B c = some c' → cellFlux pos c' = cellFlux pos c) :=
  ⟨fun groups hp => merge_step_flux pos h hcop groups hp,
   fun _ hr => (removeVertices2_flux pos h hcop hr).1,
   shrink_flux pos h hcop,
   fun c hc _ _ _ hm hr => (removeOneEdge_flux pos (h c hc) (hcop c hc) hm hr).1⟩

/-- two tetrahedra glued along {1,2,3}; the nodes 0, 1, 2, 4 lie in the plane z = 0 -/
def twoTetSt : St := ⟨twoTetCells, [0, 1, 2, 3, 4]⟩
def twoTetPos : Nat → V3 Int := fun v => match v with
  | 0 => ⟨0, 0, 0⟩ | 1 => ⟨1, 0, 0⟩ | 2 => ⟨0, 1, 0⟩ | 3 => ⟨0, 0, 1⟩ | _ => ⟨1, 1, 0⟩

/-- merge the two cells, merge the coplanar faces [4,1,2] and [0,2,1] along 1–2, remove_vertices_2, shrink -/
def twoTetOps : List Op := [.merge [[0, 1]], .removeEdge 1 2 [0], .removeVertices2, .shrink]

example : goodB twoTetSt = true ∧
    (runOps twoTetOps twoTetSt).map (·.cells) = some [[[3,0,1],[3,2,0],[4,3,1],[4,2,3],[0,2,4,1]]] := by decide +kernel

example : Good twoTetSt := goodB_sound (by decide +kernel)

example : AllCop twoTetPos twoTetSt.cells := by unfold AllCop Cop; decide +kernel

example : totalFlux twoTetPos twoTetSt.cells = 2 ∧
    totalFlux twoTetPos [[[3,0,1],[3,2,0],[4,3,1],[4,2,3],[0,2,4,1]]] = 2 := by decide +kernel

/-- a tetrahedron with an extra node 4 on the edge 0–1: `remove_vertices_2` removes it -/
def hangSt : St := ⟨[[[0,2,1,4],[3,0,4,1],[3,2,0],[3,1,2]]], [0, 1, 2, 3, 4]⟩
def hangPos : Nat → V3 Int := fun v => match v with
  | 0 => ⟨0, 0, 0⟩ | 1 => ⟨2, 0, 0⟩ | 2 => ⟨0, 2, 0⟩ | 3 => ⟨0, 0, 2⟩ | _ => ⟨1, 0, 0⟩

example : goodB hangSt = true ∧ canRm hangSt.cells 4 = true ∧ canRm hangSt.cells 0 = false ∧
    removeVertices2 hangSt.cells = some [[[0,2,1],[3,0,1],[3,2,0],[3,1,2]]] := by decide +kernel

example : AllCop hangPos hangSt.cells ∧ totalFlux hangPos hangSt.cells = 8 ∧
    totalFlux hangPos [[[0,2,1],[3,0,1],[3,2,0],[3,1,2]]] = 8 := by unfold AllCop Cop; decide +kernel

/-- `merge(0, 4)` on that cell: the two faces through the edge lose a node, the cell stays closed -/
example : (hangSt.cells.map (mergeVertexCell 0 4)) = [[[0,2,1],[0,1,3],[3,2,0],[3,1,2]]] ∧
    ((step hangSt (.mergeVertex 0 4)).map (·.conv)) = some [0, 1, 2, 3, 0] := by decide +kernel

/-- the volume clause needs its coplanarity hypothesis: merging the non-coplanar faces `[3,1,2]`, `[0,2,1]` of a
tetrahedron along 1–2 is accepted by `remove_one_edge_from_polyhedron` and keeps the cell closed, but changes the flux -/
example : (removeOneEdge 1 2 [[0,2,1],[3,0,1],[3,2,0],[3,1,2]]) = some [[3,0,1],[3,2,0],[0,2,3,1]] ∧
    cellFlux twoTetPos [[0,2,1],[3,0,1],[3,2,0],[3,1,2]] = 1 ∧
    cellFlux twoTetPos [[3,0,1],[3,2,0],[0,2,3,1]] = 0 := by decide +kernel

end Femio.C20
