import Femio.Props.C20Pipeline

/-! C20 — the dtype of the transferred field (`kind="sum"` cast back to an integer dtype, `kind="mean"` accumulated in a
narrow unsigned dtype) and the vertex -> cell table of `merge_vertices`, which is built ONCE per sweep while `merge(a, b)`
rewrites only the cells it lists for `a` and `b`. -/

namespace Femio.C20

/-- cast of a rational to an integer dtype: truncation toward zero (`ndarray.astype(int64)`) -/
def truncRat (q : Rat) : Rat := if q < 0 then -(((-q).floor : Int) : Rat) else ((q.floor : Int) : Rat)

/-- `kind="sum"` followed by a cast of every entry to the integer dtype of the source field -/
def transferSumTrunc (m : Mat) (x : Nat → Rat) : List Rat := (transferSum m x).map truncRat

/-- counts (3, 5, 2) on three nodes, two compressed nodes related to nodes {0,1}
and {1,2}: the documented 'sum' gives (11/2, 9/2), total 10; cast to an integer dtype it gives (5, 4), total 9. -/
theorem C20_sum_truncation_counterexample :
    let m : Mat := ⟨3, [[0,1],[1,2]]⟩
    let x : Nat → Rat := fun i => [3, 5, 2].getD i 0
    transferSum m x = [11/2, 9/2] ∧ sumL (transferSum m x) = sumL ((List.range m.ncols).map x) ∧
    transferSumTrunc m x = [5, 4] ∧ sumL (transferSumTrunc m x) ≠ sumL ((List.range m.ncols).map x) := by
  decide +kernel

/-- natural-number row sum -/
def sumN : List Nat → Nat := fun l => l.foldr (· + ·) 0

/-- `kind="mean"` on an unsigned integer field of `bits` bits when `mat @ x` accumulates in the dtype of the field -/
def transferMeanWrap (bits : Nat) (m : Mat) (x : Nat → Nat) : List Rat :=
  m.rows.map fun r => ((sumN (r.map x) % 2 ^ bits : Nat) : Rat) / (r.length : Rat)

/-- `kind="mean"` on a bool field: the sum of bools is their disjunction -/
def transferMeanOr (m : Mat) (x : Nat → Bool) : List Rat :=
  m.rows.map fun r => (if r.any x then 1 else 0 : Rat) / (r.length : Rat)

theorem sumL_cast (r : List Nat) (x : Nat → Nat) : sumL (r.map fun j => (x j : Rat)) = ((sumN (r.map x) : Nat) : Rat) := by
  induction r with
  | nil => simp [sumL, sumN]
  | cons a t ih =>
    simp only [sumL, sumN, List.map_cons, List.foldr_cons] at ih ⊢
    rw [ih]; push_cast; rfl

/-- when no row sum reaches `2^bits` the accumulation in the narrow dtype is the documented mean. -/
theorem C20_mean_wrap_eq (bits : Nat) (m : Mat) (x : Nat → Nat) (h : ∀ r ∈ m.rows, sumN (r.map x) < 2 ^ bits) :
    transferMeanWrap bits m x = transferMean m (fun j => (x j : Rat)) := by
  unfold transferMeanWrap transferMean
  apply List.map_congr_left
  intro r hr
  rw [Nat.mod_eq_of_lt (h r hr), sumL_cast]

example : (∀ r ∈ (⟨3, [[0,1,2],[1]]⟩ : Mat).rows, sumN (r.map fun _ => 80) < 2 ^ 8) ∧
    transferMeanWrap 8 ⟨3, [[0,1,2],[1]]⟩ (fun _ => 80) = [80, 80] := by decide +kernel

/-- the constant 100 over three related entries: 300 mod 256 = 44, mean 44/3;
`True` over two related entries: `True or True` = 1, mean 1/2.  The documented mean keeps both constants. -/
theorem C20_mean_narrow_accumulation_counterexample :
    let m : Mat := ⟨3, [[0,1,2]]⟩
    transferMean m (fun _ => 100) = [100] ∧ transferMeanWrap 8 m (fun _ => 100) = [44/3] ∧
    transferMean ⟨2, [[0,1]]⟩ (fun _ => 1) = [1] ∧ transferMeanOr ⟨2, [[0,1]]⟩ (fun _ => true) = [1/2] := by
  decide +kernel

/-- `merge(a, b)` as coded: only the cells listed for `a` or `b` in the table `vp` (built once per sweep) are rewritten -/
def mergeVertexVia (vp : Nat → List Nat) (a b : Nat) (cells : List Cell) : List Cell :=
  cells.mapIdx fun p c => if p ∈ vp a ∨ p ∈ vp b then mergeVertexCell a b c else c

/-- the table lists, for the node `v`, every cell `v` occurs in (it may list more) -/
def TableValidAt (vp : Nat → List Nat) (cells : List Cell) (v : Nat) : Prop :=
  ∀ p (h : p < cells.length), v ∈ (cells[p]).flatten → p ∈ vp v

/-- with a table that is valid for both ends, rewriting the listed cells is rewriting all cells
(what `Op.mergeVertex` of the pipeline model does, `C20_merge_vertex_inv`). -/
theorem C20_merge_via_table_eq (vp : Nat → List Nat) (a b : Nat) (cells : List Cell)
    (ha : TableValidAt vp cells a) (hb : TableValidAt vp cells b) :
    mergeVertexVia vp a b cells = cells.map (mergeVertexCell a b) := by
  unfold mergeVertexVia
  apply List.ext_getElem
  · simp
  · intro p h1 h2
    simp only [List.getElem_mapIdx, List.getElem_map]
    have hp : p < cells.length := by simpa using h1
    split
    · rfl
    · rename_i hn
      rw [not_or] at hn
      exact (mergeVertexCell_id fun h => hn.2 (hb p hp h)).symm

/-- `merge(a, b)` keeps the table valid for every node other than the survivor `a`
(a merge introduces no node but `a` into a cell) - for `a` itself it does not: `a` enters the cells of `b`.  Hence both
ends of a merged edge must be closed for the rest of the sweep (`done[a] = done[b] = 1`). -/
theorem C20_table_valid_after_merge (vp : Nat → List Nat) (a b : Nat) {cells : List Cell} (h : Inv cells)
    {v : Nat} (hv : v ≠ a) (hval : TableValidAt vp cells v) :
    TableValidAt vp (cells.map (mergeVertexCell a b)) v := by
  intro p hp hmem
  have hp' : p < cells.length := by simpa using hp
  rw [List.getElem_map] at hmem
  rcases mergeVertexCell_nodes (h _ (List.getElem_mem hp')).2 a b v hmem with h1 | h1
  · exact hval p hp' h1
  · exact absurd h1 hv

/-- table of a list of cells: the indices of the cells a node occurs in -/
def tableOf (cells : List Cell) (v : Nat) : List Nat :=
  (List.range cells.length).filter fun p => (cells.getD p []).flatten.contains v

/-- three tetrahedra, `c1 = 0 1 5 6`, `c2 = 1 2 3 4` (contains node 1, not node 0) and
`c3 = 0 5 7 8`; the table is built once.  `merge(0, 1)` through the fresh table is the rewrite of all cells: node 1
disappears and node 0 enters `c2`.  If node 0 is not closed for the rest of the sweep and `merge(5, 0)` follows through the
SAME table, only the cells listed for 5 and for 0 (`c1`, `c3`) are rewritten: `c2` keeps using node 0 although node 0 has
been merged into node 5 (`node_conv[0] = 5`), whereas the rewrite of all cells removes it.  After `reindex` such a cell
refers to a node to which no input node maps. -/
theorem C20_stale_table_counterexample :
    let c1 : Cell := [[0,1,5],[1,0,6],[0,5,6],[5,1,6]]          -- tetrahedron 0 1 5 6
    let c2 : Cell := [[1,2,3],[2,1,4],[1,3,4],[3,2,4]]          -- tetrahedron 1 2 3 4: contains 1, not 0
    let c3 : Cell := [[0,5,7],[5,0,8],[0,7,8],[7,5,8]]          -- tetrahedron 0 5 7 8: contains 0 and 5, not 1
    let cells := [c1, c2, c3]
    let vp := tableOf cells
    -- first merge: 1 -> 0, with the fresh table (valid): after it the second cell uses node 0
    let s1 := mergeVertexVia vp 0 1 cells
    -- second merge IN THE SAME SWEEP: 0 -> 5 through the stale table: cell 2 is not listed for 0 nor for 5
    let s2 := mergeVertexVia vp 5 0 s1
    let s2' := s1.map (mergeVertexCell 5 0)
    s1 = cells.map (mergeVertexCell 0 1) ∧ vp 0 = [0, 2] ∧ vp 5 = [0, 2] ∧
    (0 ∈ (s2.getD 1 []).flatten) ∧ (0 ∉ (s2'.getD 1 []).flatten) ∧ s2 ≠ s2' := by
  decide +kernel

end Femio.C20
