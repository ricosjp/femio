import Femio.Gen.Kernels
import Femio.Model.GeomKernels
import Femio.Lemmas.KernelForms
import Mathlib.Tactic.Ring
import Mathlib.Tactic.LinearCombination
import Mathlib.Tactic.NormNum
/-! # Tie S — the model kernels ARE the polynomials the code computes (symbolic-execution translator)

`Femio/Gen/Kernels.lean` is regenerated on every run by `harness/gen_kernels.py`: the real
`calculate_element_volumes / _areas / _normals` of the current working tree are executed on a single element
with *symbolic* node coordinates `x0 y0 z0 x1 …`; the polynomial that comes out (times the model's fixed integer
multiplier) is emitted as `Femio.Gen.kVol… / kArea… / kNormal…`.  Each theorem below states, over an arbitrary
commutative ring, that this polynomial equals the hand-written model kernel of `Model/Geom*.lean` /
`Model/GeomKernels.lean` on the points `⟨x0,y0,z0⟩, …` — proved by unfolding the model (the centroid kernels through
their closed forms in `Lemmas/GeomProps.lean`, `Lemmas/KernelForms.lean`) and `ring`, so Lean's kernel re-checks it against what
the code computes *now*.  A changed term in `geometry_processor.py` changes the generated polynomial and the corresponding
`KT_…` no longer builds.

Naming: `KT_<api>_<element type>_<mode>`; for each (type, mode) the right-hand side is what the model's dispatch
(`Femio.C11.volume / area / normal / volumePoly`) evaluates for that type and mode.  Areas: the code returns
`Σ_k c_k ‖v_k‖`; the generated vectors are `c_k · den · v_k` with `den = AreaNF.den`, so that
`area = (Σ_k √(normSq (model vector k))) / den` exactly as in the model.  Normals: the un-normalised vector (times the
stated integer).  Not covered here (tie P only): hex `gaussian` volume, quad `gaussian` area.
Each `KT_<kernel>` is followed by an `example` evaluating both sides at concrete integer points (kernel `decide`). -/
open V3 Geom Femio.C11 Femio.Gen
namespace Femio.KT
set_option linter.unusedSimpArgs false
set_option linter.unusedVariables false
set_option linter.style.longLine false

/-- unfold the model kernels down to `+ − *` on the coordinates; a centroid kernel is replaced by its closed form, in
    which nothing cancels (its definition, multiplied out, has several times as many terms) -/
macro "kt_model" : tactic => `(tactic| simp only [tet6, hexLin6, hexC24, quadC4_eq, pyrLin6, pyrC24, prismLin6, prismC24,
    triCross, quadCrossC_eq, quadLinCross1, quadLinCross2, quadLinNormal, polyFanCross, polyCentroidCross_eq, polyFan6,
    faceFan6, faceCentroidK_three, faceCentroidK_four, consecPairs, vsum, vzero, List.tail_cons, List.zip_cons_cons,
    List.zip_nil_right, List.map_cons, List.map_nil, List.foldr_cons, List.foldr_nil, List.sum_cons, List.sum_nil,
    V3.det, V3.cross, V3.sub, V3.add, V3.smul])

/-- every generated polynomial has integer coefficients after multiplication by the model's multiplier alone
    (a kernel whose scale is not 1 computes a different rational multiple than the model says) -/
theorem KT_integer_coefficients : ∀ p ∈ kernelScales, p.2 = 1 := by decide +kernel

section
variable {R : Type} [CommRing R]

/-- `6 · calculate_element_volumes(mode="linear")` of one `tet` -/
theorem KT_vol_tet_linear (x0 y0 z0 x1 y1 z1 x2 y2 z2 x3 y3 z3 : R) :
    kVolTetLinear x0 y0 z0 x1 y1 z1 x2 y2 z2 x3 y3 z3
      = tet6 ⟨x0, y0, z0⟩ ⟨x1, y1, z1⟩ ⟨x2, y2, z2⟩ ⟨x3, y3, z3⟩ := by
  simp only [kVolTetLinear]; kt_model; ring
example : kVolTetLinear (R := Int) 1 0 (-2) 0 (-1) 4 (-1) (-2) 4 1 (-1) (-2) = 6 ∧
    tet6 (R := Int) ⟨1, 0, -2⟩ ⟨0, -1, 4⟩ ⟨-1, -2, 4⟩ ⟨1, -1, -2⟩ = 6 := by decide +kernel

/-- `6 · calculate_element_volumes(mode="gaussian")` of one `tet` -/
theorem KT_vol_tet_gaussian (x0 y0 z0 x1 y1 z1 x2 y2 z2 x3 y3 z3 : R) :
    kVolTetGaussian x0 y0 z0 x1 y1 z1 x2 y2 z2 x3 y3 z3
      = tet6 ⟨x0, y0, z0⟩ ⟨x1, y1, z1⟩ ⟨x2, y2, z2⟩ ⟨x3, y3, z3⟩ := by
  simp only [kVolTetGaussian]; kt_model; ring
example : kVolTetGaussian (R := Int) 1 0 (-2) 0 (-1) 4 (-1) (-2) 4 1 (-1) (-2) = 6 ∧
    tet6 (R := Int) ⟨1, 0, -2⟩ ⟨0, -1, 4⟩ ⟨-1, -2, 4⟩ ⟨1, -1, -2⟩ = 6 := by decide +kernel

/-- `6 · calculate_element_volumes(mode="centroid")` of one `tet` -/
theorem KT_vol_tet_centroid (x0 y0 z0 x1 y1 z1 x2 y2 z2 x3 y3 z3 : R) :
    kVolTetCentroid x0 y0 z0 x1 y1 z1 x2 y2 z2 x3 y3 z3
      = tet6 ⟨x0, y0, z0⟩ ⟨x1, y1, z1⟩ ⟨x2, y2, z2⟩ ⟨x3, y3, z3⟩ := by
  simp only [kVolTetCentroid]; kt_model; ring
example : kVolTetCentroid (R := Int) 1 0 (-2) 0 (-1) 4 (-1) (-2) 4 1 (-1) (-2) = 6 ∧
    tet6 (R := Int) ⟨1, 0, -2⟩ ⟨0, -1, 4⟩ ⟨-1, -2, 4⟩ ⟨1, -1, -2⟩ = 6 := by decide +kernel

/-- `6 · calculate_element_volumes(mode="linear")` of one `tet2` -/
theorem KT_vol_tet2_linear (x0 y0 z0 x1 y1 z1 x2 y2 z2 x3 y3 z3 x4 y4 z4 x5 y5 z5 x6 y6 z6 x7 y7 z7 x8 y8 z8 x9 y9 z9 : R) :
    kVolTet2Linear x0 y0 z0 x1 y1 z1 x2 y2 z2 x3 y3 z3 x4 y4 z4 x5 y5 z5 x6 y6 z6 x7 y7 z7 x8 y8 z8 x9 y9 z9
      = tet6 ⟨x0, y0, z0⟩ ⟨x1, y1, z1⟩ ⟨x2, y2, z2⟩ ⟨x3, y3, z3⟩ := by
  simp only [kVolTet2Linear]; kt_model; ring
example : kVolTet2Linear (R := Int) 1 0 (-2) 0 (-1) 4 (-1) (-2) 4 1 (-1) (-2) (-3) 3 4 (-1) (-3) (-2) (-3) (-3) 0 0 (-3) 4 2 4 0 0 1 4 = 6 ∧
    tet6 (R := Int) ⟨1, 0, -2⟩ ⟨0, -1, 4⟩ ⟨-1, -2, 4⟩ ⟨1, -1, -2⟩ = 6 := by decide +kernel

/-- `6 · calculate_element_volumes(mode="gaussian")` of one `tet2` -/
theorem KT_vol_tet2_gaussian (x0 y0 z0 x1 y1 z1 x2 y2 z2 x3 y3 z3 x4 y4 z4 x5 y5 z5 x6 y6 z6 x7 y7 z7 x8 y8 z8 x9 y9 z9 : R) :
    kVolTet2Gaussian x0 y0 z0 x1 y1 z1 x2 y2 z2 x3 y3 z3 x4 y4 z4 x5 y5 z5 x6 y6 z6 x7 y7 z7 x8 y8 z8 x9 y9 z9
      = tet6 ⟨x0, y0, z0⟩ ⟨x1, y1, z1⟩ ⟨x2, y2, z2⟩ ⟨x3, y3, z3⟩ := by
  simp only [kVolTet2Gaussian]; kt_model; ring
example : kVolTet2Gaussian (R := Int) 1 0 (-2) 0 (-1) 4 (-1) (-2) 4 1 (-1) (-2) (-3) 3 4 (-1) (-3) (-2) (-3) (-3) 0 0 (-3) 4 2 4 0 0 1 4 = 6 ∧
    tet6 (R := Int) ⟨1, 0, -2⟩ ⟨0, -1, 4⟩ ⟨-1, -2, 4⟩ ⟨1, -1, -2⟩ = 6 := by decide +kernel

/-- `6 · calculate_element_volumes(mode="centroid")` of one `tet2` -/
theorem KT_vol_tet2_centroid (x0 y0 z0 x1 y1 z1 x2 y2 z2 x3 y3 z3 x4 y4 z4 x5 y5 z5 x6 y6 z6 x7 y7 z7 x8 y8 z8 x9 y9 z9 : R) :
    kVolTet2Centroid x0 y0 z0 x1 y1 z1 x2 y2 z2 x3 y3 z3 x4 y4 z4 x5 y5 z5 x6 y6 z6 x7 y7 z7 x8 y8 z8 x9 y9 z9
      = tet6 ⟨x0, y0, z0⟩ ⟨x1, y1, z1⟩ ⟨x2, y2, z2⟩ ⟨x3, y3, z3⟩ := by
  simp only [kVolTet2Centroid]; kt_model; ring
example : kVolTet2Centroid (R := Int) 1 0 (-2) 0 (-1) 4 (-1) (-2) 4 1 (-1) (-2) (-3) 3 4 (-1) (-3) (-2) (-3) (-3) 0 0 (-3) 4 2 4 0 0 1 4 = 6 ∧
    tet6 (R := Int) ⟨1, 0, -2⟩ ⟨0, -1, 4⟩ ⟨-1, -2, 4⟩ ⟨1, -1, -2⟩ = 6 := by decide +kernel

/-- `6 · calculate_element_volumes(mode="linear")` of one `pyr` -/
theorem KT_vol_pyr_linear (x0 y0 z0 x1 y1 z1 x2 y2 z2 x3 y3 z3 x4 y4 z4 : R) :
    kVolPyrLinear x0 y0 z0 x1 y1 z1 x2 y2 z2 x3 y3 z3 x4 y4 z4
      = pyrLin6 ⟨x0, y0, z0⟩ ⟨x1, y1, z1⟩ ⟨x2, y2, z2⟩ ⟨x3, y3, z3⟩ ⟨x4, y4, z4⟩ := by
  simp only [kVolPyrLinear]; kt_model; ring
example : kVolPyrLinear (R := Int) 1 0 (-2) 0 (-1) 4 (-1) (-2) 4 1 (-1) (-2) (-3) 3 4 = -54 ∧
    pyrLin6 (R := Int) ⟨1, 0, -2⟩ ⟨0, -1, 4⟩ ⟨-1, -2, 4⟩ ⟨1, -1, -2⟩ ⟨-3, 3, 4⟩ = -54 := by decide +kernel

/-- `6 · calculate_element_volumes(mode="gaussian")` of one `pyr` -/
theorem KT_vol_pyr_gaussian (x0 y0 z0 x1 y1 z1 x2 y2 z2 x3 y3 z3 x4 y4 z4 : R) :
    kVolPyrGaussian x0 y0 z0 x1 y1 z1 x2 y2 z2 x3 y3 z3 x4 y4 z4
      = pyrLin6 ⟨x0, y0, z0⟩ ⟨x1, y1, z1⟩ ⟨x2, y2, z2⟩ ⟨x3, y3, z3⟩ ⟨x4, y4, z4⟩ := by
  simp only [kVolPyrGaussian]; kt_model; ring
example : kVolPyrGaussian (R := Int) 1 0 (-2) 0 (-1) 4 (-1) (-2) 4 1 (-1) (-2) (-3) 3 4 = -54 ∧
    pyrLin6 (R := Int) ⟨1, 0, -2⟩ ⟨0, -1, 4⟩ ⟨-1, -2, 4⟩ ⟨1, -1, -2⟩ ⟨-3, 3, 4⟩ = -54 := by decide +kernel

/-- `24 · calculate_element_volumes(mode="centroid")` of one `pyr` -/
theorem KT_vol_pyr_centroid (x0 y0 z0 x1 y1 z1 x2 y2 z2 x3 y3 z3 x4 y4 z4 : R) :
    kVolPyrCentroid x0 y0 z0 x1 y1 z1 x2 y2 z2 x3 y3 z3 x4 y4 z4
      = pyrC24 4 ⟨x0, y0, z0⟩ ⟨x1, y1, z1⟩ ⟨x2, y2, z2⟩ ⟨x3, y3, z3⟩ ⟨x4, y4, z4⟩ := by
  simp only [kVolPyrCentroid]; kt_model; ring
example : kVolPyrCentroid (R := Int) 1 0 (-2) 0 (-1) 4 (-1) (-2) 4 1 (-1) (-2) (-3) 3 4 = -228 ∧
    pyrC24 (R := Int) 4 ⟨1, 0, -2⟩ ⟨0, -1, 4⟩ ⟨-1, -2, 4⟩ ⟨1, -1, -2⟩ ⟨-3, 3, 4⟩ = -228 := by decide +kernel

/-- `6 · calculate_element_volumes(mode="linear")` of one `prism` -/
theorem KT_vol_prism_linear (x0 y0 z0 x1 y1 z1 x2 y2 z2 x3 y3 z3 x4 y4 z4 x5 y5 z5 : R) :
    kVolPrismLinear x0 y0 z0 x1 y1 z1 x2 y2 z2 x3 y3 z3 x4 y4 z4 x5 y5 z5
      = prismLin6 ⟨x0, y0, z0⟩ ⟨x1, y1, z1⟩ ⟨x2, y2, z2⟩ ⟨x3, y3, z3⟩ ⟨x4, y4, z4⟩ ⟨x5, y5, z5⟩ := by
  simp only [kVolPrismLinear]; kt_model; ring
example : kVolPrismLinear (R := Int) 1 0 (-2) 0 (-1) 4 (-1) (-2) 4 1 (-1) (-2) (-3) 3 4 (-1) (-3) (-2) = 120 ∧
    prismLin6 (R := Int) ⟨1, 0, -2⟩ ⟨0, -1, 4⟩ ⟨-1, -2, 4⟩ ⟨1, -1, -2⟩ ⟨-3, 3, 4⟩ ⟨-1, -3, -2⟩ = 120 := by decide +kernel

/-- `6 · calculate_element_volumes(mode="gaussian")` of one `prism` -/
theorem KT_vol_prism_gaussian (x0 y0 z0 x1 y1 z1 x2 y2 z2 x3 y3 z3 x4 y4 z4 x5 y5 z5 : R) :
    kVolPrismGaussian x0 y0 z0 x1 y1 z1 x2 y2 z2 x3 y3 z3 x4 y4 z4 x5 y5 z5
      = prismLin6 ⟨x0, y0, z0⟩ ⟨x1, y1, z1⟩ ⟨x2, y2, z2⟩ ⟨x3, y3, z3⟩ ⟨x4, y4, z4⟩ ⟨x5, y5, z5⟩ := by
  simp only [kVolPrismGaussian]; kt_model; ring
example : kVolPrismGaussian (R := Int) 1 0 (-2) 0 (-1) 4 (-1) (-2) 4 1 (-1) (-2) (-3) 3 4 (-1) (-3) (-2) = 120 ∧
    prismLin6 (R := Int) ⟨1, 0, -2⟩ ⟨0, -1, 4⟩ ⟨-1, -2, 4⟩ ⟨1, -1, -2⟩ ⟨-3, 3, 4⟩ ⟨-1, -3, -2⟩ = 120 := by decide +kernel

/-- `24 · calculate_element_volumes(mode="centroid")` of one `prism` -/
theorem KT_vol_prism_centroid (x0 y0 z0 x1 y1 z1 x2 y2 z2 x3 y3 z3 x4 y4 z4 x5 y5 z5 : R) :
    kVolPrismCentroid x0 y0 z0 x1 y1 z1 x2 y2 z2 x3 y3 z3 x4 y4 z4 x5 y5 z5
      = prismC24 4 ⟨x0, y0, z0⟩ ⟨x1, y1, z1⟩ ⟨x2, y2, z2⟩ ⟨x3, y3, z3⟩ ⟨x4, y4, z4⟩ ⟨x5, y5, z5⟩ := by
  simp only [kVolPrismCentroid]; kt_model; ring
example : kVolPrismCentroid (R := Int) 1 0 (-2) 0 (-1) 4 (-1) (-2) 4 1 (-1) (-2) (-3) 3 4 (-1) (-3) (-2) = 408 ∧
    prismC24 (R := Int) 4 ⟨1, 0, -2⟩ ⟨0, -1, 4⟩ ⟨-1, -2, 4⟩ ⟨1, -1, -2⟩ ⟨-3, 3, 4⟩ ⟨-1, -3, -2⟩ = 408 := by decide +kernel

/-- `6 · calculate_element_volumes(mode="linear")` of one `hexprism` -/
theorem KT_vol_hexprism_linear (x0 y0 z0 x1 y1 z1 x2 y2 z2 x3 y3 z3 x4 y4 z4 x5 y5 z5 x6 y6 z6 x7 y7 z7 x8 y8 z8 x9 y9 z9 x10 y10 z10 x11 y11 z11 :
    R) :
    kVolHexprismLinear x0 y0 z0 x1 y1 z1 x2 y2 z2 x3 y3 z3 x4 y4 z4 x5 y5 z5 x6 y6 z6 x7 y7 z7 x8 y8 z8 x9 y9 z9 x10 y10 z10 x11 y11 z11
      = hexLin6 ⟨x0, y0, z0⟩ ⟨x1, y1, z1⟩ ⟨x2, y2, z2⟩ ⟨x3, y3, z3⟩ ⟨x6, y6, z6⟩ ⟨x7, y7, z7⟩ ⟨x8, y8, z8⟩ ⟨x9, y9, z9⟩ + hexLin6 ⟨x0, y0, z0⟩ ⟨x3,
          y3, z3⟩ ⟨x4, y4, z4⟩ ⟨x5, y5, z5⟩ ⟨x6, y6, z6⟩ ⟨x9, y9, z9⟩ ⟨x10, y10, z10⟩ ⟨x11, y11, z11⟩ := by
  simp only [kVolHexprismLinear]; kt_model; ring
example : kVolHexprismLinear (R := Int) 1 0 (-2) 0 (-1) 4 (-1) (-2) 4 1 (-1) (-2) (-3) 3 4 (-1) (-3) (-2) (-3) (-3) 0 0 (-3) 4 2 4 0 0 1 4 (-3) (-2)
    4 1 3 (-2) = 6 ∧
    hexLin6 (R := Int) ⟨1, 0, -2⟩ ⟨0, -1, 4⟩ ⟨-1, -2, 4⟩ ⟨1, -1, -2⟩ ⟨-3, -3, 0⟩ ⟨0, -3, 4⟩ ⟨2, 4, 0⟩ ⟨0, 1, 4⟩ + hexLin6 ⟨1, 0, -2⟩ ⟨1, -1, -2⟩ ⟨-3,
        3, 4⟩ ⟨-1, -3, -2⟩ ⟨-3, -3, 0⟩ ⟨0, 1, 4⟩ ⟨-3, -2, 4⟩ ⟨1, 3, -2⟩ = 6 := by decide +kernel

/-- `6 · calculate_element_volumes(mode="gaussian")` of one `hexprism` -/
theorem KT_vol_hexprism_gaussian (x0 y0 z0 x1 y1 z1 x2 y2 z2 x3 y3 z3 x4 y4 z4 x5 y5 z5 x6 y6 z6 x7 y7 z7 x8 y8 z8 x9 y9 z9 x10 y10 z10 x11 y11 z11 :
    R) :
    kVolHexprismGaussian x0 y0 z0 x1 y1 z1 x2 y2 z2 x3 y3 z3 x4 y4 z4 x5 y5 z5 x6 y6 z6 x7 y7 z7 x8 y8 z8 x9 y9 z9 x10 y10 z10 x11 y11 z11
      = hexLin6 ⟨x0, y0, z0⟩ ⟨x1, y1, z1⟩ ⟨x2, y2, z2⟩ ⟨x3, y3, z3⟩ ⟨x6, y6, z6⟩ ⟨x7, y7, z7⟩ ⟨x8, y8, z8⟩ ⟨x9, y9, z9⟩ + hexLin6 ⟨x0, y0, z0⟩ ⟨x3,
          y3, z3⟩ ⟨x4, y4, z4⟩ ⟨x5, y5, z5⟩ ⟨x6, y6, z6⟩ ⟨x9, y9, z9⟩ ⟨x10, y10, z10⟩ ⟨x11, y11, z11⟩ := by
  simp only [kVolHexprismGaussian]; kt_model; ring
example : kVolHexprismGaussian (R := Int) 1 0 (-2) 0 (-1) 4 (-1) (-2) 4 1 (-1) (-2) (-3) 3 4 (-1) (-3) (-2) (-3) (-3) 0 0 (-3) 4 2 4 0 0 1 4 (-3)
    (-2) 4 1 3 (-2) = 6 ∧
    hexLin6 (R := Int) ⟨1, 0, -2⟩ ⟨0, -1, 4⟩ ⟨-1, -2, 4⟩ ⟨1, -1, -2⟩ ⟨-3, -3, 0⟩ ⟨0, -3, 4⟩ ⟨2, 4, 0⟩ ⟨0, 1, 4⟩ + hexLin6 ⟨1, 0, -2⟩ ⟨1, -1, -2⟩ ⟨-3,
        3, 4⟩ ⟨-1, -3, -2⟩ ⟨-3, -3, 0⟩ ⟨0, 1, 4⟩ ⟨-3, -2, 4⟩ ⟨1, 3, -2⟩ = 6 := by decide +kernel

/-- `6 · calculate_element_volumes(mode="centroid")` of one `hexprism` -/
theorem KT_vol_hexprism_centroid (x0 y0 z0 x1 y1 z1 x2 y2 z2 x3 y3 z3 x4 y4 z4 x5 y5 z5 x6 y6 z6 x7 y7 z7 x8 y8 z8 x9 y9 z9 x10 y10 z10 x11 y11 z11 :
    R) :
    kVolHexprismCentroid x0 y0 z0 x1 y1 z1 x2 y2 z2 x3 y3 z3 x4 y4 z4 x5 y5 z5 x6 y6 z6 x7 y7 z7 x8 y8 z8 x9 y9 z9 x10 y10 z10 x11 y11 z11
      = hexLin6 ⟨x0, y0, z0⟩ ⟨x1, y1, z1⟩ ⟨x2, y2, z2⟩ ⟨x3, y3, z3⟩ ⟨x6, y6, z6⟩ ⟨x7, y7, z7⟩ ⟨x8, y8, z8⟩ ⟨x9, y9, z9⟩ + hexLin6 ⟨x0, y0, z0⟩ ⟨x3,
          y3, z3⟩ ⟨x4, y4, z4⟩ ⟨x5, y5, z5⟩ ⟨x6, y6, z6⟩ ⟨x9, y9, z9⟩ ⟨x10, y10, z10⟩ ⟨x11, y11, z11⟩ := by
  simp only [kVolHexprismCentroid]; kt_model; ring
example : kVolHexprismCentroid (R := Int) 1 0 (-2) 0 (-1) 4 (-1) (-2) 4 1 (-1) (-2) (-3) 3 4 (-1) (-3) (-2) (-3) (-3) 0 0 (-3) 4 2 4 0 0 1 4 (-3)
    (-2) 4 1 3 (-2) = 6 ∧
    hexLin6 (R := Int) ⟨1, 0, -2⟩ ⟨0, -1, 4⟩ ⟨-1, -2, 4⟩ ⟨1, -1, -2⟩ ⟨-3, -3, 0⟩ ⟨0, -3, 4⟩ ⟨2, 4, 0⟩ ⟨0, 1, 4⟩ + hexLin6 ⟨1, 0, -2⟩ ⟨1, -1, -2⟩ ⟨-3,
        3, 4⟩ ⟨-1, -3, -2⟩ ⟨-3, -3, 0⟩ ⟨0, 1, 4⟩ ⟨-3, -2, 4⟩ ⟨1, 3, -2⟩ = 6 := by decide +kernel

/-- `6 · calculate_element_volumes(mode="linear")` of one `hex` -/
theorem KT_vol_hex_linear (x0 y0 z0 x1 y1 z1 x2 y2 z2 x3 y3 z3 x4 y4 z4 x5 y5 z5 x6 y6 z6 x7 y7 z7 : R) :
    kVolHexLinear x0 y0 z0 x1 y1 z1 x2 y2 z2 x3 y3 z3 x4 y4 z4 x5 y5 z5 x6 y6 z6 x7 y7 z7
      = hexLin6 ⟨x0, y0, z0⟩ ⟨x1, y1, z1⟩ ⟨x2, y2, z2⟩ ⟨x3, y3, z3⟩ ⟨x4, y4, z4⟩ ⟨x5, y5, z5⟩ ⟨x6, y6, z6⟩ ⟨x7, y7, z7⟩ := by
  simp only [kVolHexLinear]; kt_model; ring
example : kVolHexLinear (R := Int) 1 0 (-2) 0 (-1) 4 (-1) (-2) 4 1 (-1) (-2) (-3) 3 4 (-1) (-3) (-2) (-3) (-3) 0 0 (-3) 4 = 72 ∧
    hexLin6 (R := Int) ⟨1, 0, -2⟩ ⟨0, -1, 4⟩ ⟨-1, -2, 4⟩ ⟨1, -1, -2⟩ ⟨-3, 3, 4⟩ ⟨-1, -3, -2⟩ ⟨-3, -3, 0⟩ ⟨0, -3, 4⟩ = 72 := by decide +kernel

/-- `24 · calculate_element_volumes(mode="centroid")` of one `hex` -/
theorem KT_vol_hex_centroid (x0 y0 z0 x1 y1 z1 x2 y2 z2 x3 y3 z3 x4 y4 z4 x5 y5 z5 x6 y6 z6 x7 y7 z7 : R) :
    kVolHexCentroid x0 y0 z0 x1 y1 z1 x2 y2 z2 x3 y3 z3 x4 y4 z4 x5 y5 z5 x6 y6 z6 x7 y7 z7
      = hexC24 ⟨x0, y0, z0⟩ ⟨x1, y1, z1⟩ ⟨x2, y2, z2⟩ ⟨x3, y3, z3⟩ ⟨x4, y4, z4⟩ ⟨x5, y5, z5⟩ ⟨x6, y6, z6⟩ ⟨x7, y7, z7⟩ := by
  simp only [kVolHexCentroid]; kt_model; ring
example : kVolHexCentroid (R := Int) 1 0 (-2) 0 (-1) 4 (-1) (-2) 4 1 (-1) (-2) (-3) 3 4 (-1) (-3) (-2) (-3) (-3) 0 0 (-3) 4 = 332 ∧
    hexC24 (R := Int) ⟨1, 0, -2⟩ ⟨0, -1, 4⟩ ⟨-1, -2, 4⟩ ⟨1, -1, -2⟩ ⟨-3, 3, 4⟩ ⟨-1, -3, -2⟩ ⟨-3, -3, 0⟩ ⟨0, -3, 4⟩ = 332 := by decide +kernel

/-- `6 · calculate_element_volumes(mode="linear")` of one `polyhedron` with the faces [[0, 2, 1], [0, 1, 3], [1, 2, 3], [2, 0, 3]] -/
theorem KT_vol_polyTet_linear (x0 y0 z0 x1 y1 z1 x2 y2 z2 x3 y3 z3 : R) :
    kVolPolyTetLinear x0 y0 z0 x1 y1 z1 x2 y2 z2 x3 y3 z3
      = polyFan6 [[⟨x0, y0, z0⟩, ⟨x2, y2, z2⟩, ⟨x1, y1, z1⟩], [⟨x0, y0, z0⟩, ⟨x1, y1, z1⟩, ⟨x3, y3, z3⟩], [⟨x1, y1, z1⟩, ⟨x2, y2, z2⟩, ⟨x3, y3, z3⟩],
          [⟨x2, y2, z2⟩, ⟨x0, y0, z0⟩, ⟨x3, y3, z3⟩]] := by
  simp only [kVolPolyTetLinear]; kt_model; ring
example : kVolPolyTetLinear (R := Int) 1 0 (-2) 0 (-1) 4 (-1) (-2) 4 1 (-1) (-2) = 6 ∧
    polyFan6 (R := Int) [[⟨1, 0, -2⟩, ⟨-1, -2, 4⟩, ⟨0, -1, 4⟩], [⟨1, 0, -2⟩, ⟨0, -1, 4⟩, ⟨1, -1, -2⟩], [⟨0, -1, 4⟩, ⟨-1, -2, 4⟩, ⟨1, -1, -2⟩], [⟨-1,
        -2, 4⟩, ⟨1, 0, -2⟩, ⟨1, -1, -2⟩]] = 6 := by decide +kernel

/-- `6 · calculate_element_volumes(mode="gaussian")` of one `polyhedron` with the faces [[0, 2, 1], [0, 1, 3], [1, 2, 3], [2, 0, 3]] -/
theorem KT_vol_polyTet_gaussian (x0 y0 z0 x1 y1 z1 x2 y2 z2 x3 y3 z3 : R) :
    kVolPolyTetGaussian x0 y0 z0 x1 y1 z1 x2 y2 z2 x3 y3 z3
      = polyFan6 [[⟨x0, y0, z0⟩, ⟨x2, y2, z2⟩, ⟨x1, y1, z1⟩], [⟨x0, y0, z0⟩, ⟨x1, y1, z1⟩, ⟨x3, y3, z3⟩], [⟨x1, y1, z1⟩, ⟨x2, y2, z2⟩, ⟨x3, y3, z3⟩],
          [⟨x2, y2, z2⟩, ⟨x0, y0, z0⟩, ⟨x3, y3, z3⟩]] := by
  simp only [kVolPolyTetGaussian]; kt_model; ring
example : kVolPolyTetGaussian (R := Int) 1 0 (-2) 0 (-1) 4 (-1) (-2) 4 1 (-1) (-2) = 6 ∧
    polyFan6 (R := Int) [[⟨1, 0, -2⟩, ⟨-1, -2, 4⟩, ⟨0, -1, 4⟩], [⟨1, 0, -2⟩, ⟨0, -1, 4⟩, ⟨1, -1, -2⟩], [⟨0, -1, 4⟩, ⟨-1, -2, 4⟩, ⟨1, -1, -2⟩], [⟨-1,
        -2, 4⟩, ⟨1, 0, -2⟩, ⟨1, -1, -2⟩]] = 6 := by decide +kernel

/-- `18 · calculate_element_volumes(mode="centroid")` of one `polyhedron` with the faces [[0, 2, 1], [0, 1, 3], [1, 2, 3], [2, 0, 3]] -/
theorem KT_vol_polyTet_centroid (kinv : Nat → R) (h3 : kinv 3 * 3 = 1) (x0 y0 z0 x1 y1 z1 x2 y2 z2 x3 y3 z3 : R) :
    kVolPolyTetCentroid x0 y0 z0 x1 y1 z1 x2 y2 z2 x3 y3 z3
      = 3 * polyC6 kinv [[⟨x0, y0, z0⟩, ⟨x2, y2, z2⟩, ⟨x1, y1, z1⟩], [⟨x0, y0, z0⟩, ⟨x1, y1, z1⟩, ⟨x3, y3, z3⟩], [⟨x1, y1, z1⟩, ⟨x2, y2, z2⟩, ⟨x3,
          y3, z3⟩], [⟨x2, y2, z2⟩, ⟨x0, y0, z0⟩, ⟨x3, y3, z3⟩]] := by
  have e3 : (3 : R) * kinv 3 = 1 := by linear_combination 1 * h3
  simp only [polyC6, List.map_cons, List.map_nil, List.sum_cons, List.sum_nil, List.length_cons, List.length_nil,
    Nat.reduceAdd, mul_add, mul_zero, add_zero, ← mul_assoc, e3]
  simp only [kVolPolyTetCentroid]; kt_model; ring
example : kVolPolyTetCentroid (R := Int) 1 0 (-2) 0 (-1) 4 (-1) (-2) 4 1 (-1) (-2) = 18 ∧
    ∃ kinv : Nat → ℚ, kinv 3 * 3 = 1 :=
  ⟨by decide +kernel, fun k => 1 / k, by norm_num⟩

/-- `6 · calculate_element_volumes(mode="linear")` of one `polyhedron` with the faces [[0, 3, 2, 1], [0, 1, 4], [1, 2, 4], [2, 3, 4], [3, 0, 4]] -/
theorem KT_vol_polyPyr_linear (x0 y0 z0 x1 y1 z1 x2 y2 z2 x3 y3 z3 x4 y4 z4 : R) :
    kVolPolyPyrLinear x0 y0 z0 x1 y1 z1 x2 y2 z2 x3 y3 z3 x4 y4 z4
      = polyFan6 [[⟨x0, y0, z0⟩, ⟨x3, y3, z3⟩, ⟨x2, y2, z2⟩, ⟨x1, y1, z1⟩], [⟨x0, y0, z0⟩, ⟨x1, y1, z1⟩, ⟨x4, y4, z4⟩], [⟨x1, y1, z1⟩, ⟨x2, y2, z2⟩,
          ⟨x4, y4, z4⟩], [⟨x2, y2, z2⟩, ⟨x3, y3, z3⟩, ⟨x4, y4, z4⟩], [⟨x3, y3, z3⟩, ⟨x0, y0, z0⟩, ⟨x4, y4, z4⟩]] := by
  simp only [kVolPolyPyrLinear]; kt_model; ring
example : kVolPolyPyrLinear (R := Int) 1 0 (-2) 0 (-1) 4 (-1) (-2) 4 1 (-1) (-2) (-3) 3 4 = -54 ∧
    polyFan6 (R := Int) [[⟨1, 0, -2⟩, ⟨1, -1, -2⟩, ⟨-1, -2, 4⟩, ⟨0, -1, 4⟩], [⟨1, 0, -2⟩, ⟨0, -1, 4⟩, ⟨-3, 3, 4⟩], [⟨0, -1, 4⟩, ⟨-1, -2, 4⟩, ⟨-3, 3,
        4⟩], [⟨-1, -2, 4⟩, ⟨1, -1, -2⟩, ⟨-3, 3, 4⟩], [⟨1, -1, -2⟩, ⟨1, 0, -2⟩, ⟨-3, 3, 4⟩]] = -54 := by decide +kernel

/-- `6 · calculate_element_volumes(mode="gaussian")` of one `polyhedron` with the faces [[0, 3, 2, 1], [0, 1, 4], [1, 2, 4], [2, 3, 4], [3, 0, 4]] -/
theorem KT_vol_polyPyr_gaussian (x0 y0 z0 x1 y1 z1 x2 y2 z2 x3 y3 z3 x4 y4 z4 : R) :
    kVolPolyPyrGaussian x0 y0 z0 x1 y1 z1 x2 y2 z2 x3 y3 z3 x4 y4 z4
      = polyFan6 [[⟨x0, y0, z0⟩, ⟨x3, y3, z3⟩, ⟨x2, y2, z2⟩, ⟨x1, y1, z1⟩], [⟨x0, y0, z0⟩, ⟨x1, y1, z1⟩, ⟨x4, y4, z4⟩], [⟨x1, y1, z1⟩, ⟨x2, y2, z2⟩,
          ⟨x4, y4, z4⟩], [⟨x2, y2, z2⟩, ⟨x3, y3, z3⟩, ⟨x4, y4, z4⟩], [⟨x3, y3, z3⟩, ⟨x0, y0, z0⟩, ⟨x4, y4, z4⟩]] := by
  simp only [kVolPolyPyrGaussian]; kt_model; ring
example : kVolPolyPyrGaussian (R := Int) 1 0 (-2) 0 (-1) 4 (-1) (-2) 4 1 (-1) (-2) (-3) 3 4 = -54 ∧
    polyFan6 (R := Int) [[⟨1, 0, -2⟩, ⟨1, -1, -2⟩, ⟨-1, -2, 4⟩, ⟨0, -1, 4⟩], [⟨1, 0, -2⟩, ⟨0, -1, 4⟩, ⟨-3, 3, 4⟩], [⟨0, -1, 4⟩, ⟨-1, -2, 4⟩, ⟨-3, 3,
        4⟩], [⟨-1, -2, 4⟩, ⟨1, -1, -2⟩, ⟨-3, 3, 4⟩], [⟨1, -1, -2⟩, ⟨1, 0, -2⟩, ⟨-3, 3, 4⟩]] = -54 := by decide +kernel

/-- `72 · calculate_element_volumes(mode="centroid")` of one `polyhedron` with the faces [[0, 3, 2, 1], [0, 1, 4], [1, 2, 4], [2, 3, 4], [3, 0, 4]] -/
theorem KT_vol_polyPyr_centroid (kinv : Nat → R) (h3 : kinv 3 * 3 = 1) (h4 : kinv 4 * 4 = 1) (x0 y0 z0 x1 y1 z1 x2 y2 z2 x3 y3 z3 x4 y4 z4 : R) :
    kVolPolyPyrCentroid x0 y0 z0 x1 y1 z1 x2 y2 z2 x3 y3 z3 x4 y4 z4
      = 12 * polyC6 kinv [[⟨x0, y0, z0⟩, ⟨x3, y3, z3⟩, ⟨x2, y2, z2⟩, ⟨x1, y1, z1⟩], [⟨x0, y0, z0⟩, ⟨x1, y1, z1⟩, ⟨x4, y4, z4⟩], [⟨x1, y1, z1⟩, ⟨x2,
          y2, z2⟩, ⟨x4, y4, z4⟩], [⟨x2, y2, z2⟩, ⟨x3, y3, z3⟩, ⟨x4, y4, z4⟩], [⟨x3, y3, z3⟩, ⟨x0, y0, z0⟩, ⟨x4, y4, z4⟩]] := by
  have e3 : (12 : R) * kinv 3 = 4 := by linear_combination 4 * h3
  have e4 : (12 : R) * kinv 4 = 3 := by linear_combination 3 * h4
  simp only [polyC6, List.map_cons, List.map_nil, List.sum_cons, List.sum_nil, List.length_cons, List.length_nil,
    Nat.reduceAdd, mul_add, mul_zero, add_zero, ← mul_assoc, e3, e4]
  simp only [kVolPolyPyrCentroid]; kt_model; ring
example : kVolPolyPyrCentroid (R := Int) 1 0 (-2) 0 (-1) 4 (-1) (-2) 4 1 (-1) (-2) (-3) 3 4 = -684 ∧
    ∃ kinv : Nat → ℚ, kinv 3 * 3 = 1 ∧ kinv 4 * 4 = 1 :=
  ⟨by decide +kernel, fun k => 1 / k, by norm_num, by norm_num⟩

/-- `calculate_element_areas(mode="linear")` of one `tri` is `(Σ_k ‖v_k‖) / 2` with the vector(s) `v_k` = -/
theorem KT_area_tri_linear (x0 y0 z0 x1 y1 z1 x2 y2 z2 : R) :
    (⟨kAreaTriLinearX x0 y0 z0 x1 y1 z1 x2 y2 z2,
      kAreaTriLinearY x0 y0 z0 x1 y1 z1 x2 y2 z2,
      kAreaTriLinearZ x0 y0 z0 x1 y1 z1 x2 y2 z2⟩ : V3 R)
      = triCross ⟨x0, y0, z0⟩ ⟨x1, y1, z1⟩ ⟨x2, y2, z2⟩ := by
  simp only [kAreaTriLinearX, kAreaTriLinearY, kAreaTriLinearZ]; kt_model; congr 1 <;> ring
example : (⟨kAreaTriLinearX (R := Int) 1 0 (-2) 0 (-1) 4 (-1) (-2) 4, kAreaTriLinearY (R := Int) 1 0 (-2) 0 (-1) 4 (-1) (-2) 4, kAreaTriLinearZ (R :=
    Int) 1 0 (-2) 0 (-1) 4 (-1) (-2) 4⟩ : V3 Int) = ⟨6, -6, 0⟩ ∧
    triCross (R := Int) ⟨1, 0, -2⟩ ⟨0, -1, 4⟩ ⟨-1, -2, 4⟩ = ⟨6, -6, 0⟩ := by decide +kernel

/-- `calculate_element_areas(mode="gaussian")` of one `tri` is `(Σ_k ‖v_k‖) / 2` with the vector(s) `v_k` = -/
theorem KT_area_tri_gaussian (x0 y0 z0 x1 y1 z1 x2 y2 z2 : R) :
    (⟨kAreaTriGaussianX x0 y0 z0 x1 y1 z1 x2 y2 z2,
      kAreaTriGaussianY x0 y0 z0 x1 y1 z1 x2 y2 z2,
      kAreaTriGaussianZ x0 y0 z0 x1 y1 z1 x2 y2 z2⟩ : V3 R)
      = triCross ⟨x0, y0, z0⟩ ⟨x1, y1, z1⟩ ⟨x2, y2, z2⟩ := by
  simp only [kAreaTriGaussianX, kAreaTriGaussianY, kAreaTriGaussianZ]; kt_model; congr 1 <;> ring
example : (⟨kAreaTriGaussianX (R := Int) 1 0 (-2) 0 (-1) 4 (-1) (-2) 4, kAreaTriGaussianY (R := Int) 1 0 (-2) 0 (-1) 4 (-1) (-2) 4, kAreaTriGaussianZ
    (R := Int) 1 0 (-2) 0 (-1) 4 (-1) (-2) 4⟩ : V3 Int) = ⟨6, -6, 0⟩ ∧
    triCross (R := Int) ⟨1, 0, -2⟩ ⟨0, -1, 4⟩ ⟨-1, -2, 4⟩ = ⟨6, -6, 0⟩ := by decide +kernel

/-- `calculate_element_areas(mode="centroid")` of one `tri` is `(Σ_k ‖v_k‖) / 2` with the vector(s) `v_k` = -/
theorem KT_area_tri_centroid (x0 y0 z0 x1 y1 z1 x2 y2 z2 : R) :
    (⟨kAreaTriCentroidX x0 y0 z0 x1 y1 z1 x2 y2 z2,
      kAreaTriCentroidY x0 y0 z0 x1 y1 z1 x2 y2 z2,
      kAreaTriCentroidZ x0 y0 z0 x1 y1 z1 x2 y2 z2⟩ : V3 R)
      = triCross ⟨x0, y0, z0⟩ ⟨x1, y1, z1⟩ ⟨x2, y2, z2⟩ := by
  simp only [kAreaTriCentroidX, kAreaTriCentroidY, kAreaTriCentroidZ]; kt_model; congr 1 <;> ring
example : (⟨kAreaTriCentroidX (R := Int) 1 0 (-2) 0 (-1) 4 (-1) (-2) 4, kAreaTriCentroidY (R := Int) 1 0 (-2) 0 (-1) 4 (-1) (-2) 4, kAreaTriCentroidZ
    (R := Int) 1 0 (-2) 0 (-1) 4 (-1) (-2) 4⟩ : V3 Int) = ⟨6, -6, 0⟩ ∧
    triCross (R := Int) ⟨1, 0, -2⟩ ⟨0, -1, 4⟩ ⟨-1, -2, 4⟩ = ⟨6, -6, 0⟩ := by decide +kernel

/-- `calculate_element_areas(mode="linear")` of one `quad` is `(Σ_k ‖v_k‖) / 2` with the vector(s) `v_k` = -/
theorem KT_area_quad_linear (x0 y0 z0 x1 y1 z1 x2 y2 z2 x3 y3 z3 : R) :
    (⟨kAreaQuadLinearV0X x0 y0 z0 x1 y1 z1 x2 y2 z2 x3 y3 z3,
      kAreaQuadLinearV0Y x0 y0 z0 x1 y1 z1 x2 y2 z2 x3 y3 z3,
      kAreaQuadLinearV0Z x0 y0 z0 x1 y1 z1 x2 y2 z2 x3 y3 z3⟩ : V3 R)
      = quadLinCross1 ⟨x0, y0, z0⟩ ⟨x1, y1, z1⟩ ⟨x2, y2, z2⟩ ⟨x3, y3, z3⟩ ∧
    (⟨kAreaQuadLinearV1X x0 y0 z0 x1 y1 z1 x2 y2 z2 x3 y3 z3,
      kAreaQuadLinearV1Y x0 y0 z0 x1 y1 z1 x2 y2 z2 x3 y3 z3,
      kAreaQuadLinearV1Z x0 y0 z0 x1 y1 z1 x2 y2 z2 x3 y3 z3⟩ : V3 R)
      = quadLinCross2 ⟨x0, y0, z0⟩ ⟨x1, y1, z1⟩ ⟨x2, y2, z2⟩ ⟨x3, y3, z3⟩ := by
  simp only [kAreaQuadLinearV0X, kAreaQuadLinearV0Y, kAreaQuadLinearV0Z, kAreaQuadLinearV1X, kAreaQuadLinearV1Y, kAreaQuadLinearV1Z]; kt_model;
      constructor <;> congr 1 <;> ring
example : (⟨kAreaQuadLinearV0X (R := Int) 1 0 (-2) 0 (-1) 4 (-1) (-2) 4 1 (-1) (-2), kAreaQuadLinearV0Y (R := Int) 1 0 (-2) 0 (-1) 4 (-1) (-2) 4 1
    (-1) (-2), kAreaQuadLinearV0Z (R := Int) 1 0 (-2) 0 (-1) 4 (-1) (-2) 4 1 (-1) (-2)⟩ : V3 Int) = ⟨6, -6, 0⟩ ∧
    quadLinCross1 (R := Int) ⟨1, 0, -2⟩ ⟨0, -1, 4⟩ ⟨-1, -2, 4⟩ ⟨1, -1, -2⟩ = ⟨6, -6, 0⟩ ∧
    (⟨kAreaQuadLinearV1X (R := Int) 1 0 (-2) 0 (-1) 4 (-1) (-2) 4 1 (-1) (-2), kAreaQuadLinearV1Y (R := Int) 1 0 (-2) 0 (-1) 4 (-1) (-2) 4 1 (-1)
        (-2), kAreaQuadLinearV1Z (R := Int) 1 0 (-2) 0 (-1) 4 (-1) (-2) 4 1 (-1) (-2)⟩ : V3 Int) = ⟨6, 0, 2⟩ ∧
    quadLinCross2 (R := Int) ⟨1, 0, -2⟩ ⟨0, -1, 4⟩ ⟨-1, -2, 4⟩ ⟨1, -1, -2⟩ = ⟨6, 0, 2⟩ := by decide +kernel

/-- `calculate_element_areas(mode="centroid")` of one `quad` is `(Σ_k ‖v_k‖) / 32` with the vector(s) `v_k` = -/
theorem KT_area_quad_centroid (x0 y0 z0 x1 y1 z1 x2 y2 z2 x3 y3 z3 : R) :
    (⟨kAreaQuadCentroidX x0 y0 z0 x1 y1 z1 x2 y2 z2 x3 y3 z3,
      kAreaQuadCentroidY x0 y0 z0 x1 y1 z1 x2 y2 z2 x3 y3 z3,
      kAreaQuadCentroidZ x0 y0 z0 x1 y1 z1 x2 y2 z2 x3 y3 z3⟩ : V3 R)
      = quadCrossC ⟨x0, y0, z0⟩ ⟨x1, y1, z1⟩ ⟨x2, y2, z2⟩ ⟨x3, y3, z3⟩ 4 := by
  simp only [kAreaQuadCentroidX, kAreaQuadCentroidY, kAreaQuadCentroidZ]; kt_model; congr 1 <;> ring
example : (⟨kAreaQuadCentroidX (R := Int) 1 0 (-2) 0 (-1) 4 (-1) (-2) 4 1 (-1) (-2), kAreaQuadCentroidY (R := Int) 1 0 (-2) 0 (-1) 4 (-1) (-2) 4 1
    (-1) (-2), kAreaQuadCentroidZ (R := Int) 1 0 (-2) 0 (-1) 4 (-1) (-2) 4 1 (-1) (-2)⟩ : V3 Int) = ⟨192, -96, 32⟩ ∧
    quadCrossC (R := Int) ⟨1, 0, -2⟩ ⟨0, -1, 4⟩ ⟨-1, -2, 4⟩ ⟨1, -1, -2⟩ 4 = ⟨192, -96, 32⟩ := by decide +kernel

/-- `calculate_element_areas(mode="linear")` of one `polygon` with 3 nodes is `(Σ_k ‖v_k‖) / 18` with the vector(s) `v_k` = -/
theorem KT_area_polygon3_linear (x0 y0 z0 x1 y1 z1 x2 y2 z2 : R) :
    (⟨kAreaPolygon3LinearX x0 y0 z0 x1 y1 z1 x2 y2 z2,
      kAreaPolygon3LinearY x0 y0 z0 x1 y1 z1 x2 y2 z2,
      kAreaPolygon3LinearZ x0 y0 z0 x1 y1 z1 x2 y2 z2⟩ : V3 R)
      = polyCentroidCross 3 [⟨x0, y0, z0⟩, ⟨x1, y1, z1⟩, ⟨x2, y2, z2⟩] := by
  simp only [kAreaPolygon3LinearX, kAreaPolygon3LinearY, kAreaPolygon3LinearZ]; kt_model; congr 1 <;> ring
example : (⟨kAreaPolygon3LinearX (R := Int) 1 0 (-2) 0 (-1) 4 (-1) (-2) 4, kAreaPolygon3LinearY (R := Int) 1 0 (-2) 0 (-1) 4 (-1) (-2) 4,
    kAreaPolygon3LinearZ (R := Int) 1 0 (-2) 0 (-1) 4 (-1) (-2) 4⟩ : V3 Int) = ⟨54, -54, 0⟩ ∧
    polyCentroidCross (R := Int) 3 [⟨1, 0, -2⟩, ⟨0, -1, 4⟩, ⟨-1, -2, 4⟩] = ⟨54, -54, 0⟩ := by decide +kernel

/-- `calculate_element_areas(mode="gaussian")` of one `polygon` with 3 nodes is `(Σ_k ‖v_k‖) / 18` with the vector(s) `v_k` = -/
theorem KT_area_polygon3_gaussian (x0 y0 z0 x1 y1 z1 x2 y2 z2 : R) :
    (⟨kAreaPolygon3GaussianX x0 y0 z0 x1 y1 z1 x2 y2 z2,
      kAreaPolygon3GaussianY x0 y0 z0 x1 y1 z1 x2 y2 z2,
      kAreaPolygon3GaussianZ x0 y0 z0 x1 y1 z1 x2 y2 z2⟩ : V3 R)
      = polyCentroidCross 3 [⟨x0, y0, z0⟩, ⟨x1, y1, z1⟩, ⟨x2, y2, z2⟩] := by
  simp only [kAreaPolygon3GaussianX, kAreaPolygon3GaussianY, kAreaPolygon3GaussianZ]; kt_model; congr 1 <;> ring
example : (⟨kAreaPolygon3GaussianX (R := Int) 1 0 (-2) 0 (-1) 4 (-1) (-2) 4, kAreaPolygon3GaussianY (R := Int) 1 0 (-2) 0 (-1) 4 (-1) (-2) 4,
    kAreaPolygon3GaussianZ (R := Int) 1 0 (-2) 0 (-1) 4 (-1) (-2) 4⟩ : V3 Int) = ⟨54, -54, 0⟩ ∧
    polyCentroidCross (R := Int) 3 [⟨1, 0, -2⟩, ⟨0, -1, 4⟩, ⟨-1, -2, 4⟩] = ⟨54, -54, 0⟩ := by decide +kernel

/-- `calculate_element_areas(mode="centroid")` of one `polygon` with 3 nodes is `(Σ_k ‖v_k‖) / 2` with the vector(s) `v_k` = -/
theorem KT_area_polygon3_centroid (x0 y0 z0 x1 y1 z1 x2 y2 z2 : R) :
    (⟨kAreaPolygon3CentroidX x0 y0 z0 x1 y1 z1 x2 y2 z2,
      kAreaPolygon3CentroidY x0 y0 z0 x1 y1 z1 x2 y2 z2,
      kAreaPolygon3CentroidZ x0 y0 z0 x1 y1 z1 x2 y2 z2⟩ : V3 R)
      = polyFanCross [⟨x0, y0, z0⟩, ⟨x1, y1, z1⟩, ⟨x2, y2, z2⟩] := by
  simp only [kAreaPolygon3CentroidX, kAreaPolygon3CentroidY, kAreaPolygon3CentroidZ]; kt_model; congr 1 <;> ring
example : (⟨kAreaPolygon3CentroidX (R := Int) 1 0 (-2) 0 (-1) 4 (-1) (-2) 4, kAreaPolygon3CentroidY (R := Int) 1 0 (-2) 0 (-1) 4 (-1) (-2) 4,
    kAreaPolygon3CentroidZ (R := Int) 1 0 (-2) 0 (-1) 4 (-1) (-2) 4⟩ : V3 Int) = ⟨6, -6, 0⟩ ∧
    polyFanCross (R := Int) [⟨1, 0, -2⟩, ⟨0, -1, 4⟩, ⟨-1, -2, 4⟩] = ⟨6, -6, 0⟩ := by decide +kernel

/-- `calculate_element_areas(mode="linear")` of one `polygon` with 5 nodes is `(Σ_k ‖v_k‖) / 50` with the vector(s) `v_k` = -/
theorem KT_area_polygon5_linear (x0 y0 z0 x1 y1 z1 x2 y2 z2 x3 y3 z3 x4 y4 z4 : R) :
    (⟨kAreaPolygon5LinearX x0 y0 z0 x1 y1 z1 x2 y2 z2 x3 y3 z3 x4 y4 z4,
      kAreaPolygon5LinearY x0 y0 z0 x1 y1 z1 x2 y2 z2 x3 y3 z3 x4 y4 z4,
      kAreaPolygon5LinearZ x0 y0 z0 x1 y1 z1 x2 y2 z2 x3 y3 z3 x4 y4 z4⟩ : V3 R)
      = polyCentroidCross 5 [⟨x0, y0, z0⟩, ⟨x1, y1, z1⟩, ⟨x2, y2, z2⟩, ⟨x3, y3, z3⟩, ⟨x4, y4, z4⟩] := by
  simp only [kAreaPolygon5LinearX, kAreaPolygon5LinearY, kAreaPolygon5LinearZ]; kt_model; congr 1 <;> ring
example : (⟨kAreaPolygon5LinearX (R := Int) 1 0 (-2) 0 (-1) 4 (-1) (-2) 4 1 (-1) (-2) (-3) 3 4, kAreaPolygon5LinearY (R := Int) 1 0 (-2) 0 (-1) 4
    (-1) (-2) 4 1 (-1) (-2) (-3) 3 4, kAreaPolygon5LinearZ (R := Int) 1 0 (-2) 0 (-1) 4 (-1) (-2) 4 1 (-1) (-2) (-3) 3 4⟩ : V3 Int) = ⟨150, -150,
    -50⟩ ∧
    polyCentroidCross (R := Int) 5 [⟨1, 0, -2⟩, ⟨0, -1, 4⟩, ⟨-1, -2, 4⟩, ⟨1, -1, -2⟩, ⟨-3, 3, 4⟩] = ⟨150, -150, -50⟩ := by decide +kernel

/-- `calculate_element_areas(mode="gaussian")` of one `polygon` with 5 nodes is `(Σ_k ‖v_k‖) / 50` with the vector(s) `v_k` = -/
theorem KT_area_polygon5_gaussian (x0 y0 z0 x1 y1 z1 x2 y2 z2 x3 y3 z3 x4 y4 z4 : R) :
    (⟨kAreaPolygon5GaussianX x0 y0 z0 x1 y1 z1 x2 y2 z2 x3 y3 z3 x4 y4 z4,
      kAreaPolygon5GaussianY x0 y0 z0 x1 y1 z1 x2 y2 z2 x3 y3 z3 x4 y4 z4,
      kAreaPolygon5GaussianZ x0 y0 z0 x1 y1 z1 x2 y2 z2 x3 y3 z3 x4 y4 z4⟩ : V3 R)
      = polyCentroidCross 5 [⟨x0, y0, z0⟩, ⟨x1, y1, z1⟩, ⟨x2, y2, z2⟩, ⟨x3, y3, z3⟩, ⟨x4, y4, z4⟩] := by
  simp only [kAreaPolygon5GaussianX, kAreaPolygon5GaussianY, kAreaPolygon5GaussianZ]; kt_model; congr 1 <;> ring
example : (⟨kAreaPolygon5GaussianX (R := Int) 1 0 (-2) 0 (-1) 4 (-1) (-2) 4 1 (-1) (-2) (-3) 3 4, kAreaPolygon5GaussianY (R := Int) 1 0 (-2) 0 (-1) 4
    (-1) (-2) 4 1 (-1) (-2) (-3) 3 4, kAreaPolygon5GaussianZ (R := Int) 1 0 (-2) 0 (-1) 4 (-1) (-2) 4 1 (-1) (-2) (-3) 3 4⟩ : V3 Int) = ⟨150, -150,
    -50⟩ ∧
    polyCentroidCross (R := Int) 5 [⟨1, 0, -2⟩, ⟨0, -1, 4⟩, ⟨-1, -2, 4⟩, ⟨1, -1, -2⟩, ⟨-3, 3, 4⟩] = ⟨150, -150, -50⟩ := by decide +kernel

/-- `calculate_element_areas(mode="centroid")` of one `polygon` with 5 nodes is `(Σ_k ‖v_k‖) / 2` with the vector(s) `v_k` = -/
theorem KT_area_polygon5_centroid (x0 y0 z0 x1 y1 z1 x2 y2 z2 x3 y3 z3 x4 y4 z4 : R) :
    (⟨kAreaPolygon5CentroidX x0 y0 z0 x1 y1 z1 x2 y2 z2 x3 y3 z3 x4 y4 z4,
      kAreaPolygon5CentroidY x0 y0 z0 x1 y1 z1 x2 y2 z2 x3 y3 z3 x4 y4 z4,
      kAreaPolygon5CentroidZ x0 y0 z0 x1 y1 z1 x2 y2 z2 x3 y3 z3 x4 y4 z4⟩ : V3 R)
      = polyFanCross [⟨x0, y0, z0⟩, ⟨x1, y1, z1⟩, ⟨x2, y2, z2⟩, ⟨x3, y3, z3⟩, ⟨x4, y4, z4⟩] := by
  simp only [kAreaPolygon5CentroidX, kAreaPolygon5CentroidY, kAreaPolygon5CentroidZ]; kt_model; congr 1 <;> ring
example : (⟨kAreaPolygon5CentroidX (R := Int) 1 0 (-2) 0 (-1) 4 (-1) (-2) 4 1 (-1) (-2) (-3) 3 4, kAreaPolygon5CentroidY (R := Int) 1 0 (-2) 0 (-1) 4
    (-1) (-2) 4 1 (-1) (-2) (-3) 3 4, kAreaPolygon5CentroidZ (R := Int) 1 0 (-2) 0 (-1) 4 (-1) (-2) 4 1 (-1) (-2) (-3) 3 4⟩ : V3 Int) = ⟨6, -6, -2⟩ ∧
    polyFanCross (R := Int) [⟨1, 0, -2⟩, ⟨0, -1, 4⟩, ⟨-1, -2, 4⟩, ⟨1, -1, -2⟩, ⟨-3, 3, 4⟩] = ⟨6, -6, -2⟩ := by decide +kernel

/-- `calculate_element_normals(mode="linear")` of one `tri` is the normalised vector `c` = -/
theorem KT_normal_tri_linear (x0 y0 z0 x1 y1 z1 x2 y2 z2 : R) :
    (⟨kNormalTriLinearX x0 y0 z0 x1 y1 z1 x2 y2 z2,
      kNormalTriLinearY x0 y0 z0 x1 y1 z1 x2 y2 z2,
      kNormalTriLinearZ x0 y0 z0 x1 y1 z1 x2 y2 z2⟩ : V3 R)
      = triCross ⟨x0, y0, z0⟩ ⟨x1, y1, z1⟩ ⟨x2, y2, z2⟩ := by
  simp only [kNormalTriLinearX, kNormalTriLinearY, kNormalTriLinearZ]; kt_model; congr 1 <;> ring
example : (⟨kNormalTriLinearX (R := Int) 1 0 (-2) 0 (-1) 4 (-1) (-2) 4, kNormalTriLinearY (R := Int) 1 0 (-2) 0 (-1) 4 (-1) (-2) 4, kNormalTriLinearZ
    (R := Int) 1 0 (-2) 0 (-1) 4 (-1) (-2) 4⟩ : V3 Int) = ⟨6, -6, 0⟩ ∧
    triCross (R := Int) ⟨1, 0, -2⟩ ⟨0, -1, 4⟩ ⟨-1, -2, 4⟩ = ⟨6, -6, 0⟩ := by decide +kernel

/-- `calculate_element_normals(mode="gaussian")` of one `tri` is the normalised vector `c` = -/
theorem KT_normal_tri_gaussian (x0 y0 z0 x1 y1 z1 x2 y2 z2 : R) :
    (⟨kNormalTriGaussianX x0 y0 z0 x1 y1 z1 x2 y2 z2,
      kNormalTriGaussianY x0 y0 z0 x1 y1 z1 x2 y2 z2,
      kNormalTriGaussianZ x0 y0 z0 x1 y1 z1 x2 y2 z2⟩ : V3 R)
      = triCross ⟨x0, y0, z0⟩ ⟨x1, y1, z1⟩ ⟨x2, y2, z2⟩ := by
  simp only [kNormalTriGaussianX, kNormalTriGaussianY, kNormalTriGaussianZ]; kt_model; congr 1 <;> ring
example : (⟨kNormalTriGaussianX (R := Int) 1 0 (-2) 0 (-1) 4 (-1) (-2) 4, kNormalTriGaussianY (R := Int) 1 0 (-2) 0 (-1) 4 (-1) (-2) 4,
    kNormalTriGaussianZ (R := Int) 1 0 (-2) 0 (-1) 4 (-1) (-2) 4⟩ : V3 Int) = ⟨6, -6, 0⟩ ∧
    triCross (R := Int) ⟨1, 0, -2⟩ ⟨0, -1, 4⟩ ⟨-1, -2, 4⟩ = ⟨6, -6, 0⟩ := by decide +kernel

/-- `calculate_element_normals(mode="centroid")` of one `tri` is the normalised vector `c` = -/
theorem KT_normal_tri_centroid (x0 y0 z0 x1 y1 z1 x2 y2 z2 : R) :
    (⟨kNormalTriCentroidX x0 y0 z0 x1 y1 z1 x2 y2 z2,
      kNormalTriCentroidY x0 y0 z0 x1 y1 z1 x2 y2 z2,
      kNormalTriCentroidZ x0 y0 z0 x1 y1 z1 x2 y2 z2⟩ : V3 R)
      = triCross ⟨x0, y0, z0⟩ ⟨x1, y1, z1⟩ ⟨x2, y2, z2⟩ := by
  simp only [kNormalTriCentroidX, kNormalTriCentroidY, kNormalTriCentroidZ]; kt_model; congr 1 <;> ring
example : (⟨kNormalTriCentroidX (R := Int) 1 0 (-2) 0 (-1) 4 (-1) (-2) 4, kNormalTriCentroidY (R := Int) 1 0 (-2) 0 (-1) 4 (-1) (-2) 4,
    kNormalTriCentroidZ (R := Int) 1 0 (-2) 0 (-1) 4 (-1) (-2) 4⟩ : V3 Int) = ⟨6, -6, 0⟩ ∧
    triCross (R := Int) ⟨1, 0, -2⟩ ⟨0, -1, 4⟩ ⟨-1, -2, 4⟩ = ⟨6, -6, 0⟩ := by decide +kernel

/-- `calculate_element_normals(mode="linear")` of one `quad` is the normalised vector `c` = -/
theorem KT_normal_quad_linear (x0 y0 z0 x1 y1 z1 x2 y2 z2 x3 y3 z3 : R) :
    (⟨kNormalQuadLinearX x0 y0 z0 x1 y1 z1 x2 y2 z2 x3 y3 z3,
      kNormalQuadLinearY x0 y0 z0 x1 y1 z1 x2 y2 z2 x3 y3 z3,
      kNormalQuadLinearZ x0 y0 z0 x1 y1 z1 x2 y2 z2 x3 y3 z3⟩ : V3 R)
      = quadLinNormal ⟨x0, y0, z0⟩ ⟨x1, y1, z1⟩ ⟨x2, y2, z2⟩ ⟨x3, y3, z3⟩ := by
  simp only [kNormalQuadLinearX, kNormalQuadLinearY, kNormalQuadLinearZ]; kt_model; congr 1 <;> ring
example : (⟨kNormalQuadLinearX (R := Int) 1 0 (-2) 0 (-1) 4 (-1) (-2) 4 1 (-1) (-2), kNormalQuadLinearY (R := Int) 1 0 (-2) 0 (-1) 4 (-1) (-2) 4 1
    (-1) (-2), kNormalQuadLinearZ (R := Int) 1 0 (-2) 0 (-1) 4 (-1) (-2) 4 1 (-1) (-2)⟩ : V3 Int) = ⟨12, -6, 2⟩ ∧
    quadLinNormal (R := Int) ⟨1, 0, -2⟩ ⟨0, -1, 4⟩ ⟨-1, -2, 4⟩ ⟨1, -1, -2⟩ = ⟨12, -6, 2⟩ := by decide +kernel

/-- `calculate_element_normals(mode="gaussian")` of one `quad` is the normalised vector `c` = -/
theorem KT_normal_quad_gaussian (x0 y0 z0 x1 y1 z1 x2 y2 z2 x3 y3 z3 : R) :
    (⟨kNormalQuadGaussianX x0 y0 z0 x1 y1 z1 x2 y2 z2 x3 y3 z3,
      kNormalQuadGaussianY x0 y0 z0 x1 y1 z1 x2 y2 z2 x3 y3 z3,
      kNormalQuadGaussianZ x0 y0 z0 x1 y1 z1 x2 y2 z2 x3 y3 z3⟩ : V3 R)
      = quadLinNormal ⟨x0, y0, z0⟩ ⟨x1, y1, z1⟩ ⟨x2, y2, z2⟩ ⟨x3, y3, z3⟩ := by
  simp only [kNormalQuadGaussianX, kNormalQuadGaussianY, kNormalQuadGaussianZ]; kt_model; congr 1 <;> ring
example : (⟨kNormalQuadGaussianX (R := Int) 1 0 (-2) 0 (-1) 4 (-1) (-2) 4 1 (-1) (-2), kNormalQuadGaussianY (R := Int) 1 0 (-2) 0 (-1) 4 (-1) (-2) 4
    1 (-1) (-2), kNormalQuadGaussianZ (R := Int) 1 0 (-2) 0 (-1) 4 (-1) (-2) 4 1 (-1) (-2)⟩ : V3 Int) = ⟨12, -6, 2⟩ ∧
    quadLinNormal (R := Int) ⟨1, 0, -2⟩ ⟨0, -1, 4⟩ ⟨-1, -2, 4⟩ ⟨1, -1, -2⟩ = ⟨12, -6, 2⟩ := by decide +kernel

/-- `calculate_element_normals(mode="centroid")` of one `quad` is the normalised vector `c` with `16 · c` = -/
theorem KT_normal_quad_centroid (x0 y0 z0 x1 y1 z1 x2 y2 z2 x3 y3 z3 : R) :
    (⟨kNormalQuadCentroidX x0 y0 z0 x1 y1 z1 x2 y2 z2 x3 y3 z3,
      kNormalQuadCentroidY x0 y0 z0 x1 y1 z1 x2 y2 z2 x3 y3 z3,
      kNormalQuadCentroidZ x0 y0 z0 x1 y1 z1 x2 y2 z2 x3 y3 z3⟩ : V3 R)
      = quadCrossC ⟨x0, y0, z0⟩ ⟨x1, y1, z1⟩ ⟨x2, y2, z2⟩ ⟨x3, y3, z3⟩ 4 := by
  simp only [kNormalQuadCentroidX, kNormalQuadCentroidY, kNormalQuadCentroidZ]; kt_model; congr 1 <;> ring
example : (⟨kNormalQuadCentroidX (R := Int) 1 0 (-2) 0 (-1) 4 (-1) (-2) 4 1 (-1) (-2), kNormalQuadCentroidY (R := Int) 1 0 (-2) 0 (-1) 4 (-1) (-2) 4
    1 (-1) (-2), kNormalQuadCentroidZ (R := Int) 1 0 (-2) 0 (-1) 4 (-1) (-2) 4 1 (-1) (-2)⟩ : V3 Int) = ⟨192, -96, 32⟩ ∧
    quadCrossC (R := Int) ⟨1, 0, -2⟩ ⟨0, -1, 4⟩ ⟨-1, -2, 4⟩ ⟨1, -1, -2⟩ 4 = ⟨192, -96, 32⟩ := by decide +kernel

/-- `calculate_element_normals(mode="linear")` of one `polygon` with 3 nodes is the normalised vector `c` = -/
theorem KT_normal_polygon3_linear (x0 y0 z0 x1 y1 z1 x2 y2 z2 : R) :
    (⟨kNormalPolygon3LinearX x0 y0 z0 x1 y1 z1 x2 y2 z2,
      kNormalPolygon3LinearY x0 y0 z0 x1 y1 z1 x2 y2 z2,
      kNormalPolygon3LinearZ x0 y0 z0 x1 y1 z1 x2 y2 z2⟩ : V3 R)
      = polyFanCross [⟨x0, y0, z0⟩, ⟨x1, y1, z1⟩, ⟨x2, y2, z2⟩] := by
  simp only [kNormalPolygon3LinearX, kNormalPolygon3LinearY, kNormalPolygon3LinearZ]; kt_model; congr 1 <;> ring
example : (⟨kNormalPolygon3LinearX (R := Int) 1 0 (-2) 0 (-1) 4 (-1) (-2) 4, kNormalPolygon3LinearY (R := Int) 1 0 (-2) 0 (-1) 4 (-1) (-2) 4,
    kNormalPolygon3LinearZ (R := Int) 1 0 (-2) 0 (-1) 4 (-1) (-2) 4⟩ : V3 Int) = ⟨6, -6, 0⟩ ∧
    polyFanCross (R := Int) [⟨1, 0, -2⟩, ⟨0, -1, 4⟩, ⟨-1, -2, 4⟩] = ⟨6, -6, 0⟩ := by decide +kernel

/-- `calculate_element_normals(mode="gaussian")` of one `polygon` with 3 nodes is the normalised vector `c` = -/
theorem KT_normal_polygon3_gaussian (x0 y0 z0 x1 y1 z1 x2 y2 z2 : R) :
    (⟨kNormalPolygon3GaussianX x0 y0 z0 x1 y1 z1 x2 y2 z2,
      kNormalPolygon3GaussianY x0 y0 z0 x1 y1 z1 x2 y2 z2,
      kNormalPolygon3GaussianZ x0 y0 z0 x1 y1 z1 x2 y2 z2⟩ : V3 R)
      = polyFanCross [⟨x0, y0, z0⟩, ⟨x1, y1, z1⟩, ⟨x2, y2, z2⟩] := by
  simp only [kNormalPolygon3GaussianX, kNormalPolygon3GaussianY, kNormalPolygon3GaussianZ]; kt_model; congr 1 <;> ring
example : (⟨kNormalPolygon3GaussianX (R := Int) 1 0 (-2) 0 (-1) 4 (-1) (-2) 4, kNormalPolygon3GaussianY (R := Int) 1 0 (-2) 0 (-1) 4 (-1) (-2) 4,
    kNormalPolygon3GaussianZ (R := Int) 1 0 (-2) 0 (-1) 4 (-1) (-2) 4⟩ : V3 Int) = ⟨6, -6, 0⟩ ∧
    polyFanCross (R := Int) [⟨1, 0, -2⟩, ⟨0, -1, 4⟩, ⟨-1, -2, 4⟩] = ⟨6, -6, 0⟩ := by decide +kernel

/-- `calculate_element_normals(mode="centroid")` of one `polygon` with 3 nodes is the normalised vector `c` with `9 · c` = -/
theorem KT_normal_polygon3_centroid (x0 y0 z0 x1 y1 z1 x2 y2 z2 : R) :
    (⟨kNormalPolygon3CentroidX x0 y0 z0 x1 y1 z1 x2 y2 z2,
      kNormalPolygon3CentroidY x0 y0 z0 x1 y1 z1 x2 y2 z2,
      kNormalPolygon3CentroidZ x0 y0 z0 x1 y1 z1 x2 y2 z2⟩ : V3 R)
      = polyCentroidCross 3 [⟨x0, y0, z0⟩, ⟨x1, y1, z1⟩, ⟨x2, y2, z2⟩] := by
  simp only [kNormalPolygon3CentroidX, kNormalPolygon3CentroidY, kNormalPolygon3CentroidZ]; kt_model; congr 1 <;> ring
example : (⟨kNormalPolygon3CentroidX (R := Int) 1 0 (-2) 0 (-1) 4 (-1) (-2) 4, kNormalPolygon3CentroidY (R := Int) 1 0 (-2) 0 (-1) 4 (-1) (-2) 4,
    kNormalPolygon3CentroidZ (R := Int) 1 0 (-2) 0 (-1) 4 (-1) (-2) 4⟩ : V3 Int) = ⟨54, -54, 0⟩ ∧
    polyCentroidCross (R := Int) 3 [⟨1, 0, -2⟩, ⟨0, -1, 4⟩, ⟨-1, -2, 4⟩] = ⟨54, -54, 0⟩ := by decide +kernel

/-- `calculate_element_normals(mode="linear")` of one `polygon` with 5 nodes is the normalised vector `c` with `3 · c` = -/
theorem KT_normal_polygon5_linear (x0 y0 z0 x1 y1 z1 x2 y2 z2 x3 y3 z3 x4 y4 z4 : R) :
    (⟨kNormalPolygon5LinearX x0 y0 z0 x1 y1 z1 x2 y2 z2 x3 y3 z3 x4 y4 z4,
      kNormalPolygon5LinearY x0 y0 z0 x1 y1 z1 x2 y2 z2 x3 y3 z3 x4 y4 z4,
      kNormalPolygon5LinearZ x0 y0 z0 x1 y1 z1 x2 y2 z2 x3 y3 z3 x4 y4 z4⟩ : V3 R)
      = polyFanCross [⟨x0, y0, z0⟩, ⟨x1, y1, z1⟩, ⟨x2, y2, z2⟩, ⟨x3, y3, z3⟩, ⟨x4, y4, z4⟩] := by
  simp only [kNormalPolygon5LinearX, kNormalPolygon5LinearY, kNormalPolygon5LinearZ]; kt_model; congr 1 <;> ring
example : (⟨kNormalPolygon5LinearX (R := Int) 1 0 (-2) 0 (-1) 4 (-1) (-2) 4 1 (-1) (-2) (-3) 3 4, kNormalPolygon5LinearY (R := Int) 1 0 (-2) 0 (-1) 4
    (-1) (-2) 4 1 (-1) (-2) (-3) 3 4, kNormalPolygon5LinearZ (R := Int) 1 0 (-2) 0 (-1) 4 (-1) (-2) 4 1 (-1) (-2) (-3) 3 4⟩ : V3 Int) = ⟨6, -6, -2⟩ ∧
    polyFanCross (R := Int) [⟨1, 0, -2⟩, ⟨0, -1, 4⟩, ⟨-1, -2, 4⟩, ⟨1, -1, -2⟩, ⟨-3, 3, 4⟩] = ⟨6, -6, -2⟩ := by decide +kernel

/-- `calculate_element_normals(mode="gaussian")` of one `polygon` with 5 nodes is the normalised vector `c` with `3 · c` = -/
theorem KT_normal_polygon5_gaussian (x0 y0 z0 x1 y1 z1 x2 y2 z2 x3 y3 z3 x4 y4 z4 : R) :
    (⟨kNormalPolygon5GaussianX x0 y0 z0 x1 y1 z1 x2 y2 z2 x3 y3 z3 x4 y4 z4,
      kNormalPolygon5GaussianY x0 y0 z0 x1 y1 z1 x2 y2 z2 x3 y3 z3 x4 y4 z4,
      kNormalPolygon5GaussianZ x0 y0 z0 x1 y1 z1 x2 y2 z2 x3 y3 z3 x4 y4 z4⟩ : V3 R)
      = polyFanCross [⟨x0, y0, z0⟩, ⟨x1, y1, z1⟩, ⟨x2, y2, z2⟩, ⟨x3, y3, z3⟩, ⟨x4, y4, z4⟩] := by
  simp only [kNormalPolygon5GaussianX, kNormalPolygon5GaussianY, kNormalPolygon5GaussianZ]; kt_model; congr 1 <;> ring
example : (⟨kNormalPolygon5GaussianX (R := Int) 1 0 (-2) 0 (-1) 4 (-1) (-2) 4 1 (-1) (-2) (-3) 3 4, kNormalPolygon5GaussianY (R := Int) 1 0 (-2) 0
    (-1) 4 (-1) (-2) 4 1 (-1) (-2) (-3) 3 4, kNormalPolygon5GaussianZ (R := Int) 1 0 (-2) 0 (-1) 4 (-1) (-2) 4 1 (-1) (-2) (-3) 3 4⟩ : V3 Int) = ⟨6,
    -6, -2⟩ ∧
    polyFanCross (R := Int) [⟨1, 0, -2⟩, ⟨0, -1, 4⟩, ⟨-1, -2, 4⟩, ⟨1, -1, -2⟩, ⟨-3, 3, 4⟩] = ⟨6, -6, -2⟩ := by decide +kernel

/-- `calculate_element_normals(mode="centroid")` of one `polygon` with 5 nodes is the normalised vector `c` with `25 · c` = -/
theorem KT_normal_polygon5_centroid (x0 y0 z0 x1 y1 z1 x2 y2 z2 x3 y3 z3 x4 y4 z4 : R) :
    (⟨kNormalPolygon5CentroidX x0 y0 z0 x1 y1 z1 x2 y2 z2 x3 y3 z3 x4 y4 z4,
      kNormalPolygon5CentroidY x0 y0 z0 x1 y1 z1 x2 y2 z2 x3 y3 z3 x4 y4 z4,
      kNormalPolygon5CentroidZ x0 y0 z0 x1 y1 z1 x2 y2 z2 x3 y3 z3 x4 y4 z4⟩ : V3 R)
      = polyCentroidCross 5 [⟨x0, y0, z0⟩, ⟨x1, y1, z1⟩, ⟨x2, y2, z2⟩, ⟨x3, y3, z3⟩, ⟨x4, y4, z4⟩] := by
  simp only [kNormalPolygon5CentroidX, kNormalPolygon5CentroidY, kNormalPolygon5CentroidZ]; kt_model; congr 1 <;> ring
example : (⟨kNormalPolygon5CentroidX (R := Int) 1 0 (-2) 0 (-1) 4 (-1) (-2) 4 1 (-1) (-2) (-3) 3 4, kNormalPolygon5CentroidY (R := Int) 1 0 (-2) 0
    (-1) 4 (-1) (-2) 4 1 (-1) (-2) (-3) 3 4, kNormalPolygon5CentroidZ (R := Int) 1 0 (-2) 0 (-1) 4 (-1) (-2) 4 1 (-1) (-2) (-3) 3 4⟩ : V3 Int) =
    ⟨150, -150, -50⟩ ∧
    polyCentroidCross (R := Int) 5 [⟨1, 0, -2⟩, ⟨0, -1, 4⟩, ⟨-1, -2, 4⟩, ⟨1, -1, -2⟩, ⟨-3, 3, 4⟩] = ⟨150, -150, -50⟩ := by decide +kernel

end

/-! ## the same, stated on the model's dispatch functions

`Femio.C11.volume / volumePoly / area / normal` (over `ℚ`) are what the driver evaluates for ties P and D and what the
per-type / per-mode theorems of `Props/C11*.lean` are instantiated with.  For every traced (element type, mode):
the model's value IS the traced polynomial over the model's denominator. -/

/-- `volume "tet" .linear`: the traced polynomial over 6 -/
theorem KT_dispatch_vol_tet_linear (x0 y0 z0 x1 y1 z1 x2 y2 z2 x3 y3 z3 : ℚ) :
    volume "tet" .linear [⟨x0, y0, z0⟩, ⟨x1, y1, z1⟩, ⟨x2, y2, z2⟩, ⟨x3, y3, z3⟩]
      = some ⟨kVolTetLinear x0 y0 z0 x1 y1 z1 x2 y2 z2 x3 y3 z3, 6⟩ := by
  rw [KT_vol_tet_linear]; rfl

/-- `volume "tet" .gaussian`: the traced polynomial over 6 -/
theorem KT_dispatch_vol_tet_gaussian (x0 y0 z0 x1 y1 z1 x2 y2 z2 x3 y3 z3 : ℚ) :
    volume "tet" .gaussian [⟨x0, y0, z0⟩, ⟨x1, y1, z1⟩, ⟨x2, y2, z2⟩, ⟨x3, y3, z3⟩]
      = some ⟨kVolTetGaussian x0 y0 z0 x1 y1 z1 x2 y2 z2 x3 y3 z3, 6⟩ := by
  rw [KT_vol_tet_gaussian]; rfl

/-- `volume "tet" .centroid`: the traced polynomial over 6 -/
theorem KT_dispatch_vol_tet_centroid (x0 y0 z0 x1 y1 z1 x2 y2 z2 x3 y3 z3 : ℚ) :
    volume "tet" .centroid [⟨x0, y0, z0⟩, ⟨x1, y1, z1⟩, ⟨x2, y2, z2⟩, ⟨x3, y3, z3⟩]
      = some ⟨kVolTetCentroid x0 y0 z0 x1 y1 z1 x2 y2 z2 x3 y3 z3, 6⟩ := by
  rw [KT_vol_tet_centroid]; rfl

/-- `volume "tet2" .linear`: the traced polynomial over 6 -/
theorem KT_dispatch_vol_tet2_linear (x0 y0 z0 x1 y1 z1 x2 y2 z2 x3 y3 z3 x4 y4 z4 x5 y5 z5 x6 y6 z6 x7 y7 z7 x8 y8 z8 x9 y9 z9 : ℚ) :
    volume "tet2" .linear [⟨x0, y0, z0⟩, ⟨x1, y1, z1⟩, ⟨x2, y2, z2⟩, ⟨x3, y3, z3⟩, ⟨x4, y4, z4⟩, ⟨x5, y5, z5⟩, ⟨x6, y6, z6⟩, ⟨x7, y7, z7⟩, ⟨x8, y8,
        z8⟩, ⟨x9, y9, z9⟩]
      = some ⟨kVolTet2Linear x0 y0 z0 x1 y1 z1 x2 y2 z2 x3 y3 z3 x4 y4 z4 x5 y5 z5 x6 y6 z6 x7 y7 z7 x8 y8 z8 x9 y9 z9, 6⟩ := by
  rw [KT_vol_tet2_linear]; rfl

/-- `volume "tet2" .gaussian`: the traced polynomial over 6 -/
theorem KT_dispatch_vol_tet2_gaussian (x0 y0 z0 x1 y1 z1 x2 y2 z2 x3 y3 z3 x4 y4 z4 x5 y5 z5 x6 y6 z6 x7 y7 z7 x8 y8 z8 x9 y9 z9 : ℚ) :
    volume "tet2" .gaussian [⟨x0, y0, z0⟩, ⟨x1, y1, z1⟩, ⟨x2, y2, z2⟩, ⟨x3, y3, z3⟩, ⟨x4, y4, z4⟩, ⟨x5, y5, z5⟩, ⟨x6, y6, z6⟩, ⟨x7, y7, z7⟩, ⟨x8, y8,
        z8⟩, ⟨x9, y9, z9⟩]
      = some ⟨kVolTet2Gaussian x0 y0 z0 x1 y1 z1 x2 y2 z2 x3 y3 z3 x4 y4 z4 x5 y5 z5 x6 y6 z6 x7 y7 z7 x8 y8 z8 x9 y9 z9, 6⟩ := by
  rw [KT_vol_tet2_gaussian]; rfl

/-- `volume "tet2" .centroid`: the traced polynomial over 6 -/
theorem KT_dispatch_vol_tet2_centroid (x0 y0 z0 x1 y1 z1 x2 y2 z2 x3 y3 z3 x4 y4 z4 x5 y5 z5 x6 y6 z6 x7 y7 z7 x8 y8 z8 x9 y9 z9 : ℚ) :
    volume "tet2" .centroid [⟨x0, y0, z0⟩, ⟨x1, y1, z1⟩, ⟨x2, y2, z2⟩, ⟨x3, y3, z3⟩, ⟨x4, y4, z4⟩, ⟨x5, y5, z5⟩, ⟨x6, y6, z6⟩, ⟨x7, y7, z7⟩, ⟨x8, y8,
        z8⟩, ⟨x9, y9, z9⟩]
      = some ⟨kVolTet2Centroid x0 y0 z0 x1 y1 z1 x2 y2 z2 x3 y3 z3 x4 y4 z4 x5 y5 z5 x6 y6 z6 x7 y7 z7 x8 y8 z8 x9 y9 z9, 6⟩ := by
  rw [KT_vol_tet2_centroid]; rfl

/-- `volume "pyr" .linear`: the traced polynomial over 6 -/
theorem KT_dispatch_vol_pyr_linear (x0 y0 z0 x1 y1 z1 x2 y2 z2 x3 y3 z3 x4 y4 z4 : ℚ) :
    volume "pyr" .linear [⟨x0, y0, z0⟩, ⟨x1, y1, z1⟩, ⟨x2, y2, z2⟩, ⟨x3, y3, z3⟩, ⟨x4, y4, z4⟩]
      = some ⟨kVolPyrLinear x0 y0 z0 x1 y1 z1 x2 y2 z2 x3 y3 z3 x4 y4 z4, 6⟩ := by
  rw [KT_vol_pyr_linear]; rfl

/-- `volume "pyr" .gaussian`: the traced polynomial over 6 -/
theorem KT_dispatch_vol_pyr_gaussian (x0 y0 z0 x1 y1 z1 x2 y2 z2 x3 y3 z3 x4 y4 z4 : ℚ) :
    volume "pyr" .gaussian [⟨x0, y0, z0⟩, ⟨x1, y1, z1⟩, ⟨x2, y2, z2⟩, ⟨x3, y3, z3⟩, ⟨x4, y4, z4⟩]
      = some ⟨kVolPyrGaussian x0 y0 z0 x1 y1 z1 x2 y2 z2 x3 y3 z3 x4 y4 z4, 6⟩ := by
  rw [KT_vol_pyr_gaussian]; rfl

/-- `volume "pyr" .centroid`: the traced polynomial over 24 -/
theorem KT_dispatch_vol_pyr_centroid (x0 y0 z0 x1 y1 z1 x2 y2 z2 x3 y3 z3 x4 y4 z4 : ℚ) :
    volume "pyr" .centroid [⟨x0, y0, z0⟩, ⟨x1, y1, z1⟩, ⟨x2, y2, z2⟩, ⟨x3, y3, z3⟩, ⟨x4, y4, z4⟩]
      = some ⟨kVolPyrCentroid x0 y0 z0 x1 y1 z1 x2 y2 z2 x3 y3 z3 x4 y4 z4, 24⟩ := by
  rw [KT_vol_pyr_centroid]; rfl

/-- `volume "prism" .linear`: the traced polynomial over 6 -/
theorem KT_dispatch_vol_prism_linear (x0 y0 z0 x1 y1 z1 x2 y2 z2 x3 y3 z3 x4 y4 z4 x5 y5 z5 : ℚ) :
    volume "prism" .linear [⟨x0, y0, z0⟩, ⟨x1, y1, z1⟩, ⟨x2, y2, z2⟩, ⟨x3, y3, z3⟩, ⟨x4, y4, z4⟩, ⟨x5, y5, z5⟩]
      = some ⟨kVolPrismLinear x0 y0 z0 x1 y1 z1 x2 y2 z2 x3 y3 z3 x4 y4 z4 x5 y5 z5, 6⟩ := by
  rw [KT_vol_prism_linear]; rfl

/-- `volume "prism" .gaussian`: the traced polynomial over 6 -/
theorem KT_dispatch_vol_prism_gaussian (x0 y0 z0 x1 y1 z1 x2 y2 z2 x3 y3 z3 x4 y4 z4 x5 y5 z5 : ℚ) :
    volume "prism" .gaussian [⟨x0, y0, z0⟩, ⟨x1, y1, z1⟩, ⟨x2, y2, z2⟩, ⟨x3, y3, z3⟩, ⟨x4, y4, z4⟩, ⟨x5, y5, z5⟩]
      = some ⟨kVolPrismGaussian x0 y0 z0 x1 y1 z1 x2 y2 z2 x3 y3 z3 x4 y4 z4 x5 y5 z5, 6⟩ := by
  rw [KT_vol_prism_gaussian]; rfl

/-- `volume "prism" .centroid`: the traced polynomial over 24 -/
theorem KT_dispatch_vol_prism_centroid (x0 y0 z0 x1 y1 z1 x2 y2 z2 x3 y3 z3 x4 y4 z4 x5 y5 z5 : ℚ) :
    volume "prism" .centroid [⟨x0, y0, z0⟩, ⟨x1, y1, z1⟩, ⟨x2, y2, z2⟩, ⟨x3, y3, z3⟩, ⟨x4, y4, z4⟩, ⟨x5, y5, z5⟩]
      = some ⟨kVolPrismCentroid x0 y0 z0 x1 y1 z1 x2 y2 z2 x3 y3 z3 x4 y4 z4 x5 y5 z5, 24⟩ := by
  rw [KT_vol_prism_centroid]; rfl

/-- `volume "hexprism" .linear`: the traced polynomial over 6 -/
theorem KT_dispatch_vol_hexprism_linear (x0 y0 z0 x1 y1 z1 x2 y2 z2 x3 y3 z3 x4 y4 z4 x5 y5 z5 x6 y6 z6 x7 y7 z7 x8 y8 z8 x9 y9 z9 x10 y10 z10 x11
    y11 z11 : ℚ) :
    volume "hexprism" .linear [⟨x0, y0, z0⟩, ⟨x1, y1, z1⟩, ⟨x2, y2, z2⟩, ⟨x3, y3, z3⟩, ⟨x4, y4, z4⟩, ⟨x5, y5, z5⟩, ⟨x6, y6, z6⟩, ⟨x7, y7, z7⟩, ⟨x8,
        y8, z8⟩, ⟨x9, y9, z9⟩, ⟨x10, y10, z10⟩, ⟨x11, y11, z11⟩]
      = some ⟨kVolHexprismLinear x0 y0 z0 x1 y1 z1 x2 y2 z2 x3 y3 z3 x4 y4 z4 x5 y5 z5 x6 y6 z6 x7 y7 z7 x8 y8 z8 x9 y9 z9 x10 y10 z10 x11 y11 z11,
          6⟩ := by
  rw [KT_vol_hexprism_linear]; rfl

/-- `volume "hexprism" .gaussian`: the traced polynomial over 6 -/
theorem KT_dispatch_vol_hexprism_gaussian (x0 y0 z0 x1 y1 z1 x2 y2 z2 x3 y3 z3 x4 y4 z4 x5 y5 z5 x6 y6 z6 x7 y7 z7 x8 y8 z8 x9 y9 z9 x10 y10 z10 x11
    y11 z11 : ℚ) :
    volume "hexprism" .gaussian [⟨x0, y0, z0⟩, ⟨x1, y1, z1⟩, ⟨x2, y2, z2⟩, ⟨x3, y3, z3⟩, ⟨x4, y4, z4⟩, ⟨x5, y5, z5⟩, ⟨x6, y6, z6⟩, ⟨x7, y7, z7⟩, ⟨x8,
        y8, z8⟩, ⟨x9, y9, z9⟩, ⟨x10, y10, z10⟩, ⟨x11, y11, z11⟩]
      = some ⟨kVolHexprismGaussian x0 y0 z0 x1 y1 z1 x2 y2 z2 x3 y3 z3 x4 y4 z4 x5 y5 z5 x6 y6 z6 x7 y7 z7 x8 y8 z8 x9 y9 z9 x10 y10 z10 x11 y11 z11,
          6⟩ := by
  rw [KT_vol_hexprism_gaussian]; rfl

/-- `volume "hexprism" .centroid`: the traced polynomial over 6 -/
theorem KT_dispatch_vol_hexprism_centroid (x0 y0 z0 x1 y1 z1 x2 y2 z2 x3 y3 z3 x4 y4 z4 x5 y5 z5 x6 y6 z6 x7 y7 z7 x8 y8 z8 x9 y9 z9 x10 y10 z10 x11
    y11 z11 : ℚ) :
    volume "hexprism" .centroid [⟨x0, y0, z0⟩, ⟨x1, y1, z1⟩, ⟨x2, y2, z2⟩, ⟨x3, y3, z3⟩, ⟨x4, y4, z4⟩, ⟨x5, y5, z5⟩, ⟨x6, y6, z6⟩, ⟨x7, y7, z7⟩, ⟨x8,
        y8, z8⟩, ⟨x9, y9, z9⟩, ⟨x10, y10, z10⟩, ⟨x11, y11, z11⟩]
      = some ⟨kVolHexprismCentroid x0 y0 z0 x1 y1 z1 x2 y2 z2 x3 y3 z3 x4 y4 z4 x5 y5 z5 x6 y6 z6 x7 y7 z7 x8 y8 z8 x9 y9 z9 x10 y10 z10 x11 y11 z11,
          6⟩ := by
  rw [KT_vol_hexprism_centroid]; rfl

/-- `volume "hex" .linear`: the traced polynomial over 6 -/
theorem KT_dispatch_vol_hex_linear (x0 y0 z0 x1 y1 z1 x2 y2 z2 x3 y3 z3 x4 y4 z4 x5 y5 z5 x6 y6 z6 x7 y7 z7 : ℚ) :
    volume "hex" .linear [⟨x0, y0, z0⟩, ⟨x1, y1, z1⟩, ⟨x2, y2, z2⟩, ⟨x3, y3, z3⟩, ⟨x4, y4, z4⟩, ⟨x5, y5, z5⟩, ⟨x6, y6, z6⟩, ⟨x7, y7, z7⟩]
      = some ⟨kVolHexLinear x0 y0 z0 x1 y1 z1 x2 y2 z2 x3 y3 z3 x4 y4 z4 x5 y5 z5 x6 y6 z6 x7 y7 z7, 6⟩ := by
  rw [KT_vol_hex_linear]; rfl
/-- on the unit cube: 6 V = 6 -/
example : volume "hex" .linear [⟨0,0,0⟩, ⟨1,0,0⟩, ⟨1,1,0⟩, ⟨0,1,0⟩, ⟨0,0,1⟩, ⟨1,0,1⟩, ⟨1,1,1⟩, ⟨0,1,1⟩]
      = some ⟨kVolHexLinear 0 0 0 1 0 0 1 1 0 0 1 0 0 0 1 1 0 1 1 1 1 0 1 1, 6⟩ ∧
    kVolHexLinear (R := ℚ) 0 0 0 1 0 0 1 1 0 0 1 0 0 0 1 1 0 1 1 1 1 0 1 1 = 6 :=
  ⟨KT_dispatch_vol_hex_linear .., by decide +kernel⟩

/-- `volume "hex" .centroid`: the traced polynomial over 24 -/
theorem KT_dispatch_vol_hex_centroid (x0 y0 z0 x1 y1 z1 x2 y2 z2 x3 y3 z3 x4 y4 z4 x5 y5 z5 x6 y6 z6 x7 y7 z7 : ℚ) :
    volume "hex" .centroid [⟨x0, y0, z0⟩, ⟨x1, y1, z1⟩, ⟨x2, y2, z2⟩, ⟨x3, y3, z3⟩, ⟨x4, y4, z4⟩, ⟨x5, y5, z5⟩, ⟨x6, y6, z6⟩, ⟨x7, y7, z7⟩]
      = some ⟨kVolHexCentroid x0 y0 z0 x1 y1 z1 x2 y2 z2 x3 y3 z3 x4 y4 z4 x5 y5 z5 x6 y6 z6 x7 y7 z7, 24⟩ := by
  rw [KT_vol_hex_centroid]; rfl

/-- `volumePoly .linear` on the faces [[0, 2, 1], [0, 1, 3], [1, 2, 3], [2, 0, 3]] -/
theorem KT_dispatch_vol_polyTet_linear (x0 y0 z0 x1 y1 z1 x2 y2 z2 x3 y3 z3 : ℚ) :
    volumePoly .linear [[⟨x0, y0, z0⟩, ⟨x2, y2, z2⟩, ⟨x1, y1, z1⟩], [⟨x0, y0, z0⟩, ⟨x1, y1, z1⟩, ⟨x3, y3, z3⟩], [⟨x1, y1, z1⟩, ⟨x2, y2, z2⟩, ⟨x3, y3,
        z3⟩], [⟨x2, y2, z2⟩, ⟨x0, y0, z0⟩, ⟨x3, y3, z3⟩]] = ⟨kVolPolyTetLinear x0 y0 z0 x1 y1 z1 x2 y2 z2 x3 y3 z3, 6⟩ := by
  rw [KT_vol_polyTet_linear]; rfl

/-- `volumePoly .gaussian` on the faces [[0, 2, 1], [0, 1, 3], [1, 2, 3], [2, 0, 3]] -/
theorem KT_dispatch_vol_polyTet_gaussian (x0 y0 z0 x1 y1 z1 x2 y2 z2 x3 y3 z3 : ℚ) :
    volumePoly .gaussian [[⟨x0, y0, z0⟩, ⟨x2, y2, z2⟩, ⟨x1, y1, z1⟩], [⟨x0, y0, z0⟩, ⟨x1, y1, z1⟩, ⟨x3, y3, z3⟩], [⟨x1, y1, z1⟩, ⟨x2, y2, z2⟩, ⟨x3,
        y3, z3⟩], [⟨x2, y2, z2⟩, ⟨x0, y0, z0⟩, ⟨x3, y3, z3⟩]] = ⟨kVolPolyTetGaussian x0 y0 z0 x1 y1 z1 x2 y2 z2 x3 y3 z3, 6⟩ := by
  rw [KT_vol_polyTet_gaussian]; rfl

/-- `volumePoly .centroid` on the faces [[0, 2, 1], [0, 1, 3], [1, 2, 3], [2, 0, 3]]: `3 · num` is the traced polynomial, `den = 6` -/
theorem KT_dispatch_vol_polyTet_centroid (x0 y0 z0 x1 y1 z1 x2 y2 z2 x3 y3 z3 : ℚ) :
    3 * (volumePoly .centroid [[⟨x0, y0, z0⟩, ⟨x2, y2, z2⟩, ⟨x1, y1, z1⟩], [⟨x0, y0, z0⟩, ⟨x1, y1, z1⟩, ⟨x3, y3, z3⟩], [⟨x1, y1, z1⟩, ⟨x2, y2, z2⟩,
        ⟨x3, y3, z3⟩], [⟨x2, y2, z2⟩, ⟨x0, y0, z0⟩, ⟨x3, y3, z3⟩]]).num = kVolPolyTetCentroid x0 y0 z0 x1 y1 z1 x2 y2 z2 x3 y3 z3 ∧
    (volumePoly .centroid [[⟨x0, y0, z0⟩, ⟨x2, y2, z2⟩, ⟨x1, y1, z1⟩], [⟨x0, y0, z0⟩, ⟨x1, y1, z1⟩, ⟨x3, y3, z3⟩], [⟨x1, y1, z1⟩, ⟨x2, y2, z2⟩, ⟨x3,
        y3, z3⟩], [⟨x2, y2, z2⟩, ⟨x0, y0, z0⟩, ⟨x3, y3, z3⟩]]).den = 6 := by
  refine ⟨?_, rfl⟩
  rw [KT_vol_polyTet_centroid (fun k => 1 / (k : ℚ)) (by norm_num)]; rfl

/-- `volumePoly .linear` on the faces [[0, 3, 2, 1], [0, 1, 4], [1, 2, 4], [2, 3, 4], [3, 0, 4]] -/
theorem KT_dispatch_vol_polyPyr_linear (x0 y0 z0 x1 y1 z1 x2 y2 z2 x3 y3 z3 x4 y4 z4 : ℚ) :
    volumePoly .linear [[⟨x0, y0, z0⟩, ⟨x3, y3, z3⟩, ⟨x2, y2, z2⟩, ⟨x1, y1, z1⟩], [⟨x0, y0, z0⟩, ⟨x1, y1, z1⟩, ⟨x4, y4, z4⟩], [⟨x1, y1, z1⟩, ⟨x2, y2,
        z2⟩, ⟨x4, y4, z4⟩], [⟨x2, y2, z2⟩, ⟨x3, y3, z3⟩, ⟨x4, y4, z4⟩], [⟨x3, y3, z3⟩, ⟨x0, y0, z0⟩, ⟨x4, y4, z4⟩]] = ⟨kVolPolyPyrLinear x0 y0 z0 x1
        y1 z1 x2 y2 z2 x3 y3 z3 x4 y4 z4, 6⟩ := by
  rw [KT_vol_polyPyr_linear]; rfl

/-- `volumePoly .gaussian` on the faces [[0, 3, 2, 1], [0, 1, 4], [1, 2, 4], [2, 3, 4], [3, 0, 4]] -/
theorem KT_dispatch_vol_polyPyr_gaussian (x0 y0 z0 x1 y1 z1 x2 y2 z2 x3 y3 z3 x4 y4 z4 : ℚ) :
    volumePoly .gaussian [[⟨x0, y0, z0⟩, ⟨x3, y3, z3⟩, ⟨x2, y2, z2⟩, ⟨x1, y1, z1⟩], [⟨x0, y0, z0⟩, ⟨x1, y1, z1⟩, ⟨x4, y4, z4⟩], [⟨x1, y1, z1⟩, ⟨x2,
        y2, z2⟩, ⟨x4, y4, z4⟩], [⟨x2, y2, z2⟩, ⟨x3, y3, z3⟩, ⟨x4, y4, z4⟩], [⟨x3, y3, z3⟩, ⟨x0, y0, z0⟩, ⟨x4, y4, z4⟩]] = ⟨kVolPolyPyrGaussian x0 y0
        z0 x1 y1 z1 x2 y2 z2 x3 y3 z3 x4 y4 z4, 6⟩ := by
  rw [KT_vol_polyPyr_gaussian]; rfl

/-- `volumePoly .centroid` on the faces [[0, 3, 2, 1], [0, 1, 4], [1, 2, 4], [2, 3, 4], [3, 0, 4]]: `12 · num` is the traced polynomial, `den = 6` -/
theorem KT_dispatch_vol_polyPyr_centroid (x0 y0 z0 x1 y1 z1 x2 y2 z2 x3 y3 z3 x4 y4 z4 : ℚ) :
    12 * (volumePoly .centroid [[⟨x0, y0, z0⟩, ⟨x3, y3, z3⟩, ⟨x2, y2, z2⟩, ⟨x1, y1, z1⟩], [⟨x0, y0, z0⟩, ⟨x1, y1, z1⟩, ⟨x4, y4, z4⟩], [⟨x1, y1, z1⟩,
        ⟨x2, y2, z2⟩, ⟨x4, y4, z4⟩], [⟨x2, y2, z2⟩, ⟨x3, y3, z3⟩, ⟨x4, y4, z4⟩], [⟨x3, y3, z3⟩, ⟨x0, y0, z0⟩, ⟨x4, y4, z4⟩]]).num =
        kVolPolyPyrCentroid x0 y0 z0 x1 y1 z1 x2 y2 z2 x3 y3 z3 x4 y4 z4 ∧
    (volumePoly .centroid [[⟨x0, y0, z0⟩, ⟨x3, y3, z3⟩, ⟨x2, y2, z2⟩, ⟨x1, y1, z1⟩], [⟨x0, y0, z0⟩, ⟨x1, y1, z1⟩, ⟨x4, y4, z4⟩], [⟨x1, y1, z1⟩, ⟨x2,
        y2, z2⟩, ⟨x4, y4, z4⟩], [⟨x2, y2, z2⟩, ⟨x3, y3, z3⟩, ⟨x4, y4, z4⟩], [⟨x3, y3, z3⟩, ⟨x0, y0, z0⟩, ⟨x4, y4, z4⟩]]).den = 6 := by
  refine ⟨?_, rfl⟩
  rw [KT_vol_polyPyr_centroid (fun k => 1 / (k : ℚ)) (by norm_num) (by norm_num)]; rfl

/-- `area "tri" .linear`: radicands = squared norms of the traced vectors, denominator 2 -/
theorem KT_dispatch_area_tri_linear (x0 y0 z0 x1 y1 z1 x2 y2 z2 : ℚ) :
    area "tri" .linear [⟨x0, y0, z0⟩, ⟨x1, y1, z1⟩, ⟨x2, y2, z2⟩]
      = some ⟨[normSq ⟨kAreaTriLinearX x0 y0 z0 x1 y1 z1 x2 y2 z2, kAreaTriLinearY x0 y0 z0 x1 y1 z1 x2 y2 z2, kAreaTriLinearZ x0 y0 z0 x1 y1 z1 x2
          y2 z2⟩], 2⟩ := by
  rw [KT_area_tri_linear]; rfl

/-- `area "tri" .gaussian`: radicands = squared norms of the traced vectors, denominator 2 -/
theorem KT_dispatch_area_tri_gaussian (x0 y0 z0 x1 y1 z1 x2 y2 z2 : ℚ) :
    area "tri" .gaussian [⟨x0, y0, z0⟩, ⟨x1, y1, z1⟩, ⟨x2, y2, z2⟩]
      = some ⟨[normSq ⟨kAreaTriGaussianX x0 y0 z0 x1 y1 z1 x2 y2 z2, kAreaTriGaussianY x0 y0 z0 x1 y1 z1 x2 y2 z2, kAreaTriGaussianZ x0 y0 z0 x1 y1
          z1 x2 y2 z2⟩], 2⟩ := by
  rw [KT_area_tri_gaussian]; rfl

/-- `area "tri" .centroid`: radicands = squared norms of the traced vectors, denominator 2 -/
theorem KT_dispatch_area_tri_centroid (x0 y0 z0 x1 y1 z1 x2 y2 z2 : ℚ) :
    area "tri" .centroid [⟨x0, y0, z0⟩, ⟨x1, y1, z1⟩, ⟨x2, y2, z2⟩]
      = some ⟨[normSq ⟨kAreaTriCentroidX x0 y0 z0 x1 y1 z1 x2 y2 z2, kAreaTriCentroidY x0 y0 z0 x1 y1 z1 x2 y2 z2, kAreaTriCentroidZ x0 y0 z0 x1 y1
          z1 x2 y2 z2⟩], 2⟩ := by
  rw [KT_area_tri_centroid]; rfl

/-- `area "quad" .linear`: radicands = squared norms of the traced vectors, denominator 2 -/
theorem KT_dispatch_area_quad_linear (x0 y0 z0 x1 y1 z1 x2 y2 z2 x3 y3 z3 : ℚ) :
    area "quad" .linear [⟨x0, y0, z0⟩, ⟨x1, y1, z1⟩, ⟨x2, y2, z2⟩, ⟨x3, y3, z3⟩]
      = some ⟨[normSq ⟨kAreaQuadLinearV0X x0 y0 z0 x1 y1 z1 x2 y2 z2 x3 y3 z3, kAreaQuadLinearV0Y x0 y0 z0 x1 y1 z1 x2 y2 z2 x3 y3 z3,
          kAreaQuadLinearV0Z x0 y0 z0 x1 y1 z1 x2 y2 z2 x3 y3 z3⟩,
      normSq ⟨kAreaQuadLinearV1X x0 y0 z0 x1 y1 z1 x2 y2 z2 x3 y3 z3, kAreaQuadLinearV1Y x0 y0 z0 x1 y1 z1 x2 y2 z2 x3 y3 z3, kAreaQuadLinearV1Z x0
          y0 z0 x1 y1 z1 x2 y2 z2 x3 y3 z3⟩], 2⟩ := by
  rw [(KT_area_quad_linear x0 y0 z0 x1 y1 z1 x2 y2 z2 x3 y3 z3).1, (KT_area_quad_linear x0 y0 z0 x1 y1 z1 x2 y2 z2 x3 y3 z3).2]; rfl

/-- `area "quad" .centroid`: radicands = squared norms of the traced vectors, denominator 32 -/
theorem KT_dispatch_area_quad_centroid (x0 y0 z0 x1 y1 z1 x2 y2 z2 x3 y3 z3 : ℚ) :
    area "quad" .centroid [⟨x0, y0, z0⟩, ⟨x1, y1, z1⟩, ⟨x2, y2, z2⟩, ⟨x3, y3, z3⟩]
      = some ⟨[normSq ⟨kAreaQuadCentroidX x0 y0 z0 x1 y1 z1 x2 y2 z2 x3 y3 z3, kAreaQuadCentroidY x0 y0 z0 x1 y1 z1 x2 y2 z2 x3 y3 z3,
          kAreaQuadCentroidZ x0 y0 z0 x1 y1 z1 x2 y2 z2 x3 y3 z3⟩], 32⟩ := by
  rw [KT_area_quad_centroid]; rfl
/-- on a 2 × 3 rectangle: area = √((32·6)²) / 32 = 6 -/
example : area "quad" .centroid [⟨0,0,0⟩, ⟨2,0,0⟩, ⟨2,3,0⟩, ⟨0,3,0⟩] = some ⟨[(32 * 6) * (32 * 6)], 32⟩ := by
  rw [KT_dispatch_area_quad_centroid]
  congr 3
  decide +kernel

/-- `area "polygon" .linear`: radicands = squared norms of the traced vectors, denominator 18 -/
theorem KT_dispatch_area_polygon3_linear (x0 y0 z0 x1 y1 z1 x2 y2 z2 : ℚ) :
    area "polygon" .linear [⟨x0, y0, z0⟩, ⟨x1, y1, z1⟩, ⟨x2, y2, z2⟩]
      = some ⟨[normSq ⟨kAreaPolygon3LinearX x0 y0 z0 x1 y1 z1 x2 y2 z2, kAreaPolygon3LinearY x0 y0 z0 x1 y1 z1 x2 y2 z2, kAreaPolygon3LinearZ x0 y0
          z0 x1 y1 z1 x2 y2 z2⟩], 18⟩ := by
  rw [KT_area_polygon3_linear]; norm_num [area]

/-- `area "polygon" .gaussian`: radicands = squared norms of the traced vectors, denominator 18 -/
theorem KT_dispatch_area_polygon3_gaussian (x0 y0 z0 x1 y1 z1 x2 y2 z2 : ℚ) :
    area "polygon" .gaussian [⟨x0, y0, z0⟩, ⟨x1, y1, z1⟩, ⟨x2, y2, z2⟩]
      = some ⟨[normSq ⟨kAreaPolygon3GaussianX x0 y0 z0 x1 y1 z1 x2 y2 z2, kAreaPolygon3GaussianY x0 y0 z0 x1 y1 z1 x2 y2 z2, kAreaPolygon3GaussianZ
          x0 y0 z0 x1 y1 z1 x2 y2 z2⟩], 18⟩ := by
  rw [KT_area_polygon3_gaussian]; norm_num [area]

/-- `area "polygon" .centroid`: radicands = squared norms of the traced vectors, denominator 2 -/
theorem KT_dispatch_area_polygon3_centroid (x0 y0 z0 x1 y1 z1 x2 y2 z2 : ℚ) :
    area "polygon" .centroid [⟨x0, y0, z0⟩, ⟨x1, y1, z1⟩, ⟨x2, y2, z2⟩]
      = some ⟨[normSq ⟨kAreaPolygon3CentroidX x0 y0 z0 x1 y1 z1 x2 y2 z2, kAreaPolygon3CentroidY x0 y0 z0 x1 y1 z1 x2 y2 z2, kAreaPolygon3CentroidZ
          x0 y0 z0 x1 y1 z1 x2 y2 z2⟩], 2⟩ := by
  rw [KT_area_polygon3_centroid]; rfl

/-- `area "polygon" .linear`: radicands = squared norms of the traced vectors, denominator 50 -/
theorem KT_dispatch_area_polygon5_linear (x0 y0 z0 x1 y1 z1 x2 y2 z2 x3 y3 z3 x4 y4 z4 : ℚ) :
    area "polygon" .linear [⟨x0, y0, z0⟩, ⟨x1, y1, z1⟩, ⟨x2, y2, z2⟩, ⟨x3, y3, z3⟩, ⟨x4, y4, z4⟩]
      = some ⟨[normSq ⟨kAreaPolygon5LinearX x0 y0 z0 x1 y1 z1 x2 y2 z2 x3 y3 z3 x4 y4 z4, kAreaPolygon5LinearY x0 y0 z0 x1 y1 z1 x2 y2 z2 x3 y3 z3 x4
          y4 z4, kAreaPolygon5LinearZ x0 y0 z0 x1 y1 z1 x2 y2 z2 x3 y3 z3 x4 y4 z4⟩], 50⟩ := by
  rw [KT_area_polygon5_linear]; norm_num [area]

/-- `area "polygon" .gaussian`: radicands = squared norms of the traced vectors, denominator 50 -/
theorem KT_dispatch_area_polygon5_gaussian (x0 y0 z0 x1 y1 z1 x2 y2 z2 x3 y3 z3 x4 y4 z4 : ℚ) :
    area "polygon" .gaussian [⟨x0, y0, z0⟩, ⟨x1, y1, z1⟩, ⟨x2, y2, z2⟩, ⟨x3, y3, z3⟩, ⟨x4, y4, z4⟩]
      = some ⟨[normSq ⟨kAreaPolygon5GaussianX x0 y0 z0 x1 y1 z1 x2 y2 z2 x3 y3 z3 x4 y4 z4, kAreaPolygon5GaussianY x0 y0 z0 x1 y1 z1 x2 y2 z2 x3 y3
          z3 x4 y4 z4, kAreaPolygon5GaussianZ x0 y0 z0 x1 y1 z1 x2 y2 z2 x3 y3 z3 x4 y4 z4⟩], 50⟩ := by
  rw [KT_area_polygon5_gaussian]; norm_num [area]

/-- `area "polygon" .centroid`: radicands = squared norms of the traced vectors, denominator 2 -/
theorem KT_dispatch_area_polygon5_centroid (x0 y0 z0 x1 y1 z1 x2 y2 z2 x3 y3 z3 x4 y4 z4 : ℚ) :
    area "polygon" .centroid [⟨x0, y0, z0⟩, ⟨x1, y1, z1⟩, ⟨x2, y2, z2⟩, ⟨x3, y3, z3⟩, ⟨x4, y4, z4⟩]
      = some ⟨[normSq ⟨kAreaPolygon5CentroidX x0 y0 z0 x1 y1 z1 x2 y2 z2 x3 y3 z3 x4 y4 z4, kAreaPolygon5CentroidY x0 y0 z0 x1 y1 z1 x2 y2 z2 x3 y3
          z3 x4 y4 z4, kAreaPolygon5CentroidZ x0 y0 z0 x1 y1 z1 x2 y2 z2 x3 y3 z3 x4 y4 z4⟩], 2⟩ := by
  rw [KT_area_polygon5_centroid]; rfl

/-- `normal "tri" .linear`: the traced (un-normalised) vector -/
theorem KT_dispatch_normal_tri_linear (x0 y0 z0 x1 y1 z1 x2 y2 z2 : ℚ) :
    normal "tri" .linear [⟨x0, y0, z0⟩, ⟨x1, y1, z1⟩, ⟨x2, y2, z2⟩]
      = some ⟨kNormalTriLinearX x0 y0 z0 x1 y1 z1 x2 y2 z2,
      kNormalTriLinearY x0 y0 z0 x1 y1 z1 x2 y2 z2,
      kNormalTriLinearZ x0 y0 z0 x1 y1 z1 x2 y2 z2⟩ := by
  rw [KT_normal_tri_linear]; rfl

/-- `normal "tri" .gaussian`: the traced (un-normalised) vector -/
theorem KT_dispatch_normal_tri_gaussian (x0 y0 z0 x1 y1 z1 x2 y2 z2 : ℚ) :
    normal "tri" .gaussian [⟨x0, y0, z0⟩, ⟨x1, y1, z1⟩, ⟨x2, y2, z2⟩]
      = some ⟨kNormalTriGaussianX x0 y0 z0 x1 y1 z1 x2 y2 z2,
      kNormalTriGaussianY x0 y0 z0 x1 y1 z1 x2 y2 z2,
      kNormalTriGaussianZ x0 y0 z0 x1 y1 z1 x2 y2 z2⟩ := by
  rw [KT_normal_tri_gaussian]; rfl

/-- `normal "tri" .centroid`: the traced (un-normalised) vector -/
theorem KT_dispatch_normal_tri_centroid (x0 y0 z0 x1 y1 z1 x2 y2 z2 : ℚ) :
    normal "tri" .centroid [⟨x0, y0, z0⟩, ⟨x1, y1, z1⟩, ⟨x2, y2, z2⟩]
      = some ⟨kNormalTriCentroidX x0 y0 z0 x1 y1 z1 x2 y2 z2,
      kNormalTriCentroidY x0 y0 z0 x1 y1 z1 x2 y2 z2,
      kNormalTriCentroidZ x0 y0 z0 x1 y1 z1 x2 y2 z2⟩ := by
  rw [KT_normal_tri_centroid]; rfl
/-- on a right triangle with legs 2, 3: un-normalised normal (0, 0, 6) -/
example : normal "tri" .centroid [⟨0,0,0⟩, ⟨2,0,0⟩, ⟨0,3,0⟩] = some ⟨0, 0, 6⟩ := by
  rw [KT_dispatch_normal_tri_centroid]; decide +kernel

/-- `normal "quad" .linear`: the traced (un-normalised) vector -/
theorem KT_dispatch_normal_quad_linear (x0 y0 z0 x1 y1 z1 x2 y2 z2 x3 y3 z3 : ℚ) :
    normal "quad" .linear [⟨x0, y0, z0⟩, ⟨x1, y1, z1⟩, ⟨x2, y2, z2⟩, ⟨x3, y3, z3⟩]
      = some ⟨kNormalQuadLinearX x0 y0 z0 x1 y1 z1 x2 y2 z2 x3 y3 z3,
      kNormalQuadLinearY x0 y0 z0 x1 y1 z1 x2 y2 z2 x3 y3 z3,
      kNormalQuadLinearZ x0 y0 z0 x1 y1 z1 x2 y2 z2 x3 y3 z3⟩ := by
  rw [KT_normal_quad_linear]; rfl

/-- `normal "quad" .gaussian`: the traced (un-normalised) vector -/
theorem KT_dispatch_normal_quad_gaussian (x0 y0 z0 x1 y1 z1 x2 y2 z2 x3 y3 z3 : ℚ) :
    normal "quad" .gaussian [⟨x0, y0, z0⟩, ⟨x1, y1, z1⟩, ⟨x2, y2, z2⟩, ⟨x3, y3, z3⟩]
      = some ⟨kNormalQuadGaussianX x0 y0 z0 x1 y1 z1 x2 y2 z2 x3 y3 z3,
      kNormalQuadGaussianY x0 y0 z0 x1 y1 z1 x2 y2 z2 x3 y3 z3,
      kNormalQuadGaussianZ x0 y0 z0 x1 y1 z1 x2 y2 z2 x3 y3 z3⟩ := by
  rw [KT_normal_quad_gaussian]; rfl

/-- `normal "quad" .centroid`: the traced (un-normalised) vector -/
theorem KT_dispatch_normal_quad_centroid (x0 y0 z0 x1 y1 z1 x2 y2 z2 x3 y3 z3 : ℚ) :
    normal "quad" .centroid [⟨x0, y0, z0⟩, ⟨x1, y1, z1⟩, ⟨x2, y2, z2⟩, ⟨x3, y3, z3⟩]
      = some ⟨kNormalQuadCentroidX x0 y0 z0 x1 y1 z1 x2 y2 z2 x3 y3 z3,
      kNormalQuadCentroidY x0 y0 z0 x1 y1 z1 x2 y2 z2 x3 y3 z3,
      kNormalQuadCentroidZ x0 y0 z0 x1 y1 z1 x2 y2 z2 x3 y3 z3⟩ := by
  rw [KT_normal_quad_centroid]; rfl

/-- `normal "polygon" .linear`: the traced (un-normalised) vector -/
theorem KT_dispatch_normal_polygon3_linear (x0 y0 z0 x1 y1 z1 x2 y2 z2 : ℚ) :
    normal "polygon" .linear [⟨x0, y0, z0⟩, ⟨x1, y1, z1⟩, ⟨x2, y2, z2⟩]
      = some ⟨kNormalPolygon3LinearX x0 y0 z0 x1 y1 z1 x2 y2 z2,
      kNormalPolygon3LinearY x0 y0 z0 x1 y1 z1 x2 y2 z2,
      kNormalPolygon3LinearZ x0 y0 z0 x1 y1 z1 x2 y2 z2⟩ := by
  rw [KT_normal_polygon3_linear]; rfl

/-- `normal "polygon" .gaussian`: the traced (un-normalised) vector -/
theorem KT_dispatch_normal_polygon3_gaussian (x0 y0 z0 x1 y1 z1 x2 y2 z2 : ℚ) :
    normal "polygon" .gaussian [⟨x0, y0, z0⟩, ⟨x1, y1, z1⟩, ⟨x2, y2, z2⟩]
      = some ⟨kNormalPolygon3GaussianX x0 y0 z0 x1 y1 z1 x2 y2 z2,
      kNormalPolygon3GaussianY x0 y0 z0 x1 y1 z1 x2 y2 z2,
      kNormalPolygon3GaussianZ x0 y0 z0 x1 y1 z1 x2 y2 z2⟩ := by
  rw [KT_normal_polygon3_gaussian]; rfl

/-- `normal "polygon" .centroid`: the traced (un-normalised) vector -/
theorem KT_dispatch_normal_polygon3_centroid (x0 y0 z0 x1 y1 z1 x2 y2 z2 : ℚ) :
    normal "polygon" .centroid [⟨x0, y0, z0⟩, ⟨x1, y1, z1⟩, ⟨x2, y2, z2⟩]
      = some ⟨kNormalPolygon3CentroidX x0 y0 z0 x1 y1 z1 x2 y2 z2,
      kNormalPolygon3CentroidY x0 y0 z0 x1 y1 z1 x2 y2 z2,
      kNormalPolygon3CentroidZ x0 y0 z0 x1 y1 z1 x2 y2 z2⟩ := by
  rw [KT_normal_polygon3_centroid]; rfl

/-- `normal "polygon" .linear`: the traced (un-normalised) vector -/
theorem KT_dispatch_normal_polygon5_linear (x0 y0 z0 x1 y1 z1 x2 y2 z2 x3 y3 z3 x4 y4 z4 : ℚ) :
    normal "polygon" .linear [⟨x0, y0, z0⟩, ⟨x1, y1, z1⟩, ⟨x2, y2, z2⟩, ⟨x3, y3, z3⟩, ⟨x4, y4, z4⟩]
      = some ⟨kNormalPolygon5LinearX x0 y0 z0 x1 y1 z1 x2 y2 z2 x3 y3 z3 x4 y4 z4,
      kNormalPolygon5LinearY x0 y0 z0 x1 y1 z1 x2 y2 z2 x3 y3 z3 x4 y4 z4,
      kNormalPolygon5LinearZ x0 y0 z0 x1 y1 z1 x2 y2 z2 x3 y3 z3 x4 y4 z4⟩ := by
  rw [KT_normal_polygon5_linear]; rfl

/-- `normal "polygon" .gaussian`: the traced (un-normalised) vector -/
theorem KT_dispatch_normal_polygon5_gaussian (x0 y0 z0 x1 y1 z1 x2 y2 z2 x3 y3 z3 x4 y4 z4 : ℚ) :
    normal "polygon" .gaussian [⟨x0, y0, z0⟩, ⟨x1, y1, z1⟩, ⟨x2, y2, z2⟩, ⟨x3, y3, z3⟩, ⟨x4, y4, z4⟩]
      = some ⟨kNormalPolygon5GaussianX x0 y0 z0 x1 y1 z1 x2 y2 z2 x3 y3 z3 x4 y4 z4,
      kNormalPolygon5GaussianY x0 y0 z0 x1 y1 z1 x2 y2 z2 x3 y3 z3 x4 y4 z4,
      kNormalPolygon5GaussianZ x0 y0 z0 x1 y1 z1 x2 y2 z2 x3 y3 z3 x4 y4 z4⟩ := by
  rw [KT_normal_polygon5_gaussian]; rfl

/-- `normal "polygon" .centroid`: the traced (un-normalised) vector -/
theorem KT_dispatch_normal_polygon5_centroid (x0 y0 z0 x1 y1 z1 x2 y2 z2 x3 y3 z3 x4 y4 z4 : ℚ) :
    normal "polygon" .centroid [⟨x0, y0, z0⟩, ⟨x1, y1, z1⟩, ⟨x2, y2, z2⟩, ⟨x3, y3, z3⟩, ⟨x4, y4, z4⟩]
      = some ⟨kNormalPolygon5CentroidX x0 y0 z0 x1 y1 z1 x2 y2 z2 x3 y3 z3 x4 y4 z4,
      kNormalPolygon5CentroidY x0 y0 z0 x1 y1 z1 x2 y2 z2 x3 y3 z3 x4 y4 z4,
      kNormalPolygon5CentroidZ x0 y0 z0 x1 y1 z1 x2 y2 z2 x3 y3 z3 x4 y4 z4⟩ := by
  rw [KT_normal_polygon5_centroid]; rfl

end Femio.KT
