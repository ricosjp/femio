import Femio.Model.Tensor
import Femio.Gen.TensorKernels
import Mathlib.Tactic.Ring
/-! # Tie S of C17: the tensor helpers as traced from the working tree = the hand-written model

`harness/gen_tensor_kernels.py` EXECUTES the real tensor helpers on one tensor with symbolic components and emits the
polynomial maps that come out as `Gen.t…` (`Femio/Gen/TensorKernels.lean`; `_o0` … `_o3` are its `ORDERS`). The theorems
state, over every field, that the functions of `Model/Tensor.lean` with the index tables of `Gen/Tables.lean` return exactly
those lists. `np.linalg.eigh` is a stub while tracing (fresh symbols `w`, `V`): `TT_tPrincipalEighArg_*` / `TT_tLteMatrix`
fix the matrix handed to it, `TT_tPrincipalPost` / `TT_tLteGlobal2LocalPost` what is done with its result. This module is
NOT imported by `Femio.lean`: it is built and audited separately so that its failure cannot take the library down. -/
namespace Femio.TensorTie
open Femio.Tensor Femio.Gen V3

/-- closes `model list = traced list`: unfold both sides to explicit lists (the zeros the tables put in are simplified away), reduce
    the list equation to the components that are not literally equal, `ring` on each -/
macro "tt" "[" ds:Lean.Parser.Tactic.simpLemma,* "]" : tactic =>
  `(tactic| (simp only [$ds,*, arr2mat, mat2arr, gather, scaleBy, arr2matIdx, arr2matEng, mat2arrIdx, mat2arrEng, defaultOrder,
      List.map, List.zip, List.zipWith, List.getD_cons_zero, List.getD_cons_succ, if_true, if_false, Bool.false_eq_true,
      List.cons.injEq, and_true, true_and, Nat.cast_ofNat, Nat.cast_one, mul_zero, zero_mul, add_zero, zero_add]
    <;> and_intros <;> ring))

variable {K : Type} [Field K]

theorem TT_tArr2Mat_e0_o0 (v0 v1 v2 v3 v4 v5 : K) :
    arr2mat [0, 1, 2, 3, 4, 5] false [v0, v1, v2, v3, v4, v5] = tArr2Mat_e0_o0 v0 v1 v2 v3 v4 v5 := by
  tt [tArr2Mat_e0_o0]

theorem TT_tMat2Arr_e0_o0 (v0 v1 v2 v3 v4 v5 v6 v7 v8 : K) :
    mat2arr [0, 1, 2, 3, 4, 5] false [v0, v1, v2, v3, v4, v5, v6, v7, v8] = tMat2Arr_e0_o0 v0 v1 v2 v3 v4 v5 v6 v7 v8 := by
  tt [tMat2Arr_e0_o0]

theorem TT_tArr2Mat_e0_o1 (v0 v1 v2 v3 v4 v5 : K) :
    arr2mat [5, 4, 3, 2, 1, 0] false [v0, v1, v2, v3, v4, v5] = tArr2Mat_e0_o1 v0 v1 v2 v3 v4 v5 := by
  tt [tArr2Mat_e0_o1]

theorem TT_tMat2Arr_e0_o1 (v0 v1 v2 v3 v4 v5 v6 v7 v8 : K) :
    mat2arr [5, 4, 3, 2, 1, 0] false [v0, v1, v2, v3, v4, v5, v6, v7, v8] = tMat2Arr_e0_o1 v0 v1 v2 v3 v4 v5 v6 v7 v8 := by
  tt [tMat2Arr_e0_o1]

theorem TT_tArr2Mat_e0_o2 (v0 v1 v2 v3 v4 v5 : K) :
    arr2mat [1, 2, 0, 4, 5, 3] false [v0, v1, v2, v3, v4, v5] = tArr2Mat_e0_o2 v0 v1 v2 v3 v4 v5 := by
  tt [tArr2Mat_e0_o2]

theorem TT_tMat2Arr_e0_o2 (v0 v1 v2 v3 v4 v5 v6 v7 v8 : K) :
    mat2arr [1, 2, 0, 4, 5, 3] false [v0, v1, v2, v3, v4, v5, v6, v7, v8] = tMat2Arr_e0_o2 v0 v1 v2 v3 v4 v5 v6 v7 v8 := by
  tt [tMat2Arr_e0_o2]

theorem TT_tArr2Mat_e0_o3 (v0 v1 v2 v3 v4 v5 : K) :
    arr2mat [3, 5, 1, 0, 2, 4] false [v0, v1, v2, v3, v4, v5] = tArr2Mat_e0_o3 v0 v1 v2 v3 v4 v5 := by
  tt [tArr2Mat_e0_o3]

theorem TT_tMat2Arr_e0_o3 (v0 v1 v2 v3 v4 v5 v6 v7 v8 : K) :
    mat2arr [3, 5, 1, 0, 2, 4] false [v0, v1, v2, v3, v4, v5, v6, v7, v8] = tMat2Arr_e0_o3 v0 v1 v2 v3 v4 v5 v6 v7 v8 := by
  tt [tMat2Arr_e0_o3]

theorem TT_tArr2Mat_e1_o0 (v0 v1 v2 v3 v4 v5 : K) :
    arr2mat [0, 1, 2, 3, 4, 5] true [v0, v1, v2, v3, v4, v5] = tArr2Mat_e1_o0 v0 v1 v2 v3 v4 v5 := by
  tt [tArr2Mat_e1_o0]

theorem TT_tMat2Arr_e1_o0 (v0 v1 v2 v3 v4 v5 v6 v7 v8 : K) :
    mat2arr [0, 1, 2, 3, 4, 5] true [v0, v1, v2, v3, v4, v5, v6, v7, v8] = tMat2Arr_e1_o0 v0 v1 v2 v3 v4 v5 v6 v7 v8 := by
  tt [tMat2Arr_e1_o0]

theorem TT_tArr2Mat_e1_o1 (v0 v1 v2 v3 v4 v5 : K) :
    arr2mat [5, 4, 3, 2, 1, 0] true [v0, v1, v2, v3, v4, v5] = tArr2Mat_e1_o1 v0 v1 v2 v3 v4 v5 := by
  tt [tArr2Mat_e1_o1]

theorem TT_tMat2Arr_e1_o1 (v0 v1 v2 v3 v4 v5 v6 v7 v8 : K) :
    mat2arr [5, 4, 3, 2, 1, 0] true [v0, v1, v2, v3, v4, v5, v6, v7, v8] = tMat2Arr_e1_o1 v0 v1 v2 v3 v4 v5 v6 v7 v8 := by
  tt [tMat2Arr_e1_o1]

theorem TT_tArr2Mat_e1_o2 (v0 v1 v2 v3 v4 v5 : K) :
    arr2mat [1, 2, 0, 4, 5, 3] true [v0, v1, v2, v3, v4, v5] = tArr2Mat_e1_o2 v0 v1 v2 v3 v4 v5 := by
  tt [tArr2Mat_e1_o2]

theorem TT_tMat2Arr_e1_o2 (v0 v1 v2 v3 v4 v5 v6 v7 v8 : K) :
    mat2arr [1, 2, 0, 4, 5, 3] true [v0, v1, v2, v3, v4, v5, v6, v7, v8] = tMat2Arr_e1_o2 v0 v1 v2 v3 v4 v5 v6 v7 v8 := by
  tt [tMat2Arr_e1_o2]

theorem TT_tArr2Mat_e1_o3 (v0 v1 v2 v3 v4 v5 : K) :
    arr2mat [3, 5, 1, 0, 2, 4] true [v0, v1, v2, v3, v4, v5] = tArr2Mat_e1_o3 v0 v1 v2 v3 v4 v5 := by
  tt [tArr2Mat_e1_o3]

theorem TT_tMat2Arr_e1_o3 (v0 v1 v2 v3 v4 v5 v6 v7 v8 : K) :
    mat2arr [3, 5, 1, 0, 2, 4] true [v0, v1, v2, v3, v4, v5, v6, v7, v8] = tMat2Arr_e1_o3 v0 v1 v2 v3 v4 v5 v6 v7 v8 := by
  tt [tMat2Arr_e1_o3]

theorem TT_tFromEigens (v0 v1 v2 v3 v4 v5 v6 v7 v8 v9 v10 v11 : K) :
    flat (fromEigens ⟨v0, v1, v2⟩ ⟨v3, v4, v5⟩ ⟨v6, v7, v8⟩ ⟨v9, v10, v11⟩)
      = tFromEigens v0 v1 v2 v3 v4 v5 v6 v7 v8 v9 v10 v11 := by
  tt [tFromEigens, flat, fromEigens, toM3, ofCols, transpose, mmul, dot]

theorem TT_tArrayFromEigens_e0 (v0 v1 v2 v3 v4 v5 v6 v7 v8 v9 v10 v11 : K) :
    arrayFromEigens ⟨v0, v1, v2⟩ ⟨v3, v4, v5⟩ ⟨v6, v7, v8⟩ ⟨v9, v10, v11⟩ false
      = tArrayFromEigens_e0 v0 v1 v2 v3 v4 v5 v6 v7 v8 v9 v10 v11 := by
  tt [tArrayFromEigens_e0, arrayFromEigens, flat, fromEigens, toM3, ofCols, transpose, mmul, dot]

theorem TT_tArrayFromEigens_e1 (v0 v1 v2 v3 v4 v5 v6 v7 v8 v9 v10 v11 : K) :
    arrayFromEigens ⟨v0, v1, v2⟩ ⟨v3, v4, v5⟩ ⟨v6, v7, v8⟩ ⟨v9, v10, v11⟩ true
      = tArrayFromEigens_e1 v0 v1 v2 v3 v4 v5 v6 v7 v8 v9 v10 v11 := by
  tt [tArrayFromEigens_e1, arrayFromEigens, flat, fromEigens, toM3, ofCols, transpose, mmul, dot]

/-- the record `principalPost` returns, in the order of the tuple of `calculate_principal_components`:
    values, directions (three axes), vectors (three axes) -/
def principalList (p : Principal K) : List K :=
  v3list p.vals ++ v3list p.d0 ++ v3list p.d1 ++ v3list p.d2 ++ v3list p.v0 ++ v3list p.v1 ++ v3list p.v2

theorem TT_tPrincipalPost (v0 v1 v2 v3 v4 v5 v6 v7 v8 v9 v10 v11 : K) :
    principalList (principalPost ⟨v0, v1, v2⟩ ⟨⟨v3, v4, v5⟩, ⟨v6, v7, v8⟩, ⟨v9, v10, v11⟩⟩)
      = tPrincipalPost v0 v1 v2 v3 v4 v5 v6 v7 v8 v9 v10 v11 := by
  tt [tPrincipalPost, principalList, principalPost, v3list, col0, col1, col2, transpose, cross, smul, List.cons_append,
      List.nil_append]

/-- the matrix `calculate_principal_components(a, from_engineering=false, order=[3, 5, 1, 0, 2, 4])` hands to `eigh` -/
theorem TT_tPrincipalEighArg_e0 (v0 v1 v2 v3 v4 v5 : K) :
    arr2mat [3, 5, 1, 0, 2, 4] false [v0, v1, v2, v3, v4, v5] = tPrincipalEighArg_e0 v0 v1 v2 v3 v4 v5 := by
  tt [tPrincipalEighArg_e0]

/-- the matrix `calculate_principal_components(a, from_engineering=true, order=[3, 5, 1, 0, 2, 4])` hands to `eigh` -/
theorem TT_tPrincipalEighArg_e1 (v0 v1 v2 v3 v4 v5 : K) :
    arr2mat [3, 5, 1, 0, 2, 4] true [v0, v1, v2, v3, v4, v5] = tPrincipalEighArg_e1 v0 v1 v2 v3 v4 v5 := by
  tt [tPrincipalEighArg_e1]

theorem TT_tLteMatrix (v0 v1 v2 v3 v4 v5 : K) :
    flat (lteMatrix [v0, v1, v2, v3, v4, v5]) = tLteMatrix v0 v1 v2 v3 v4 v5 := by
  tt [tLteMatrix, flat, lteMatrix]

theorem TT_tLteGlobal2LocalPost (v0 v1 v2 v3 v4 v5 v6 v7 v8 v9 v10 v11 : K) :
    (let r := lteGlobal2LocalPost ⟨v0, v1, v2⟩ ⟨⟨v3, v4, v5⟩, ⟨v6, v7, v8⟩, ⟨v9, v10, v11⟩⟩
     v3list r.1 ++ r.2) = tLteGlobal2LocalPost v0 v1 v2 v3 v4 v5 v6 v7 v8 v9 v10 v11 := by
  tt [tLteGlobal2LocalPost, lteGlobal2LocalPost, v3list, col0, col1, transpose, List.cons_append, List.nil_append]

theorem TT_tLteLocal2Global (v0 v1 v2 v3 v4 v5 v6 v7 v8 v9 v10 v11 : K) :
    lteLocal2Global ⟨v0, v1, v2⟩ [v3, v4, v5, v6, v7, v8, v9, v10, v11]
      = tLteLocal2Global v0 v1 v2 v3 v4 v5 v6 v7 v8 v9 v10 v11 := by
  tt [tLteLocal2Global, lteLocal2Global, mmul, transpose, diag3, cross, dot]

/-- non-vacuity: the traced maps are not constant - engineering shear really halves / doubles, a non-identity order really
    permutes (evaluated on concrete rationals) -/
example : tArr2Mat_e1_o3 (1 : ℚ) 2 3 4 5 6 = [4, 1/2, 5/2, 1/2, 6, 3/2, 5/2, 3/2, 2] := by decide +kernel
example : tMat2Arr_e1_o3 (1 : ℚ) 2 3 4 5 6 7 8 9 = [4, 6, 5, 1, 9, 12] := by decide +kernel

end Femio.TensorTie
